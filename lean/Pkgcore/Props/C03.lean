import Pkgcore.Proofs.C03
import Pkgcore.Props.C04
/-!
# C03 — atom syntax acceptance matches the PMS grammar for each EAPI and round-trips

`parseAtom e s` mirrors `atom(s, eapi=e)` at the level of strings (`Model/C03.lean`), `render` mirrors `str(atom)`;
`Grammar`/`WF0`/`WF` are the PMS grammar (`Spec/C03.lean`).  `e : Eapi` is `none` (no EAPI given) or `some n`;
`KnownEapi e` is "`none` or `n ≤ 9`".

Two dialects of the grammar are stated: `lenient` is what pkgcore implements, `pms` is the PMS text.  They
differ in exactly two points that pkgcore's own test-suite pins (upper-case version letter, slot names starting
with `+`), recorded as open findings; the theorems about `pms` are therefore `_partial` with exactly that guard
and come with `_counterexample`s; the theorems about `lenient` hold at full strength, in both directions.
-/
namespace Pkgcore.C03
open Pkgcore.C01 Pkgcore.C02 Pkgcore.C03.Spec

/-- **the feature gates regenerated from `eapi.py` are the PMS table**: slot deps from EAPI 1, USE deps and strong
blockers from 2, USE-dep defaults from 4, sub-slots and the `:=`/`:*` operators from 5; everything when no EAPI is
given; repository ids only when no EAPI is given.  The generated table lists exactly EAPIs 0–9. -/
theorem eapi_gates :
    (∀ e, KnownEapi e → optsOf e = pmsOpts e ∧ repoAllowed e = pmsRepoIds e) ∧
      Generated.C03.eapiOpts.map (·.1) = [0, 1, 2, 3, 4, 5, 6, 7, 8, 9] := by
  refine ⟨?_, rfl⟩
  intro e h
  cases e with
  | none => exact ⟨rfl, rfl⟩
  | some n =>
    have : ∀ n ≤ 9, optsOf (some n) = pmsOpts (some n) := by decide +kernel
    exact ⟨this n h, rfl⟩

example : KnownEapi (some 4) ∧ (pmsOpts (some 4)).useDepDefaults = true ∧ (pmsOpts (some 4)).subSlotting = false :=
  ⟨show 4 ≤ 9 by omega, rfl, rfl⟩

/-- **the character sets and patterns of the code are the ones the model's recognisers implement**:
`atom.valid_slot_chars` / `valid_repo_chars` are exactly the ASCII characters satisfying `slotChar` / `repoChar`
(and those predicates are false outside ASCII), `valid_ops` are the six operators, and the four regular
expressions of `cpv.py` / `eapi.py` have the text that `validCat`, `validPkgChunk`, `lexVer`, `validUseFlag` were
written from.  (For the version pattern the PMS spelling `[a-z]?` of the letter is admitted as well: it is the repair
of the open finding `C03-uppercase-version-letter`, whose input class the correspondence tolerates in both readings.) -/
theorem tables_pinned :
    Generated.C03.validSlotChars = (List.range 128).filter (fun n => slotChar (Char.ofNat n)) ∧
    Generated.C03.validRepoChars = (List.range 128).filter (fun n => repoChar (Char.ofNat n)) ∧
    Generated.C03.validOps = ["<", "<=", "=", ">", ">=", "~"] ∧
    (Generated.C03.versionPattern = "^(?:[0-9]+)(?:\\.[0-9]+)*[a-zA-Z]?(?:_(p(?:re)?|beta|alpha|rc)[0-9]*)*\\Z" ∨
      Generated.C03.versionPattern = "^(?:[0-9]+)(?:\\.[0-9]+)*[a-z]?(?:_(p(?:re)?|beta|alpha|rc)[0-9]*)*\\Z") ∧
    Generated.C03.categoryPattern = "^(?:[A-Za-z0-9_][A-Za-z0-9+_.-]*)\\Z" ∧
    Generated.C03.packagePattern = "^[a-zA-Z0-9+_]+\\Z" ∧
    Generated.C03.useFlagPattern = "^[A-Za-z0-9][A-Za-z0-9+_@-]*\\Z" := by
  exact ⟨by decide +kernel, by decide +kernel, rfl, Or.inl rfl, rfl, rfl, rfl⟩

/-- the recognisers are ASCII-only: no character from 128 up is a slot, repo, package or USE-flag character -/
theorem classes_ascii (c : Char) (h : 128 ≤ c.toNat) :
    slotChar c = false ∧ repoChar c = false ∧ pkgChunkChar c = false ∧ useFlagChar c = false ∧ c.isDigit = false := by
  have hal : c.isAlphanum = false := Bool.eq_false_iff.mpr fun ha => by
    have := Lib.isAlphanum_iff_toNat.mp ha
    omega
  have hd : c.isDigit = false := (Bool.or_eq_false_iff.mp hal).2
  have hne : ∀ x : Char, x.toNat < 128 → c ≠ x := fun x hx e => by rw [e] at h; omega
  simp [slotChar, repoChar, pkgChunkChar, useFlagChar, isAlnum, hal, hd, hne '.' (by decide), hne '+' (by decide),
    hne '_' (by decide), hne '-' (by decide), hne '@' (by decide)]

/-- **completeness**: every atom that is well-formed under the grammar with EAPI `e`'s features is accepted:
its text parses, under EAPI `e`, to exactly that atom (USE tokens sorted, as `atom.use` is). -/
theorem parse_complete (e : Eapi) (he : KnownEapi e) (a : Atom)
    (h : WF0 lenient (pmsOpts e) (pmsRepoIds e) a) : parseAtom e (render a) = .ok (norm a) := by
  obtain ⟨h1, h2⟩ := eapi_gates.1 e he
  unfold parseAtom
  rw [h1, h2]
  exact parseWith_complete h

/-- **soundness**: every accepted string is the text of an atom that is well-formed under the grammar with EAPI
`e`'s features, and the parse result is that atom (USE tokens sorted). -/
theorem parse_sound (e : Eapi) (he : KnownEapi e) (s : Str) (a : Atom) (h : parseAtom e s = .ok a) :
    ∃ a0, WF0 lenient (pmsOpts e) (pmsRepoIds e) a0 ∧ render a0 = s ∧ norm a0 = a := by
  obtain ⟨h1, h2⟩ := eapi_gates.1 e he
  unfold parseAtom at h
  rw [h1, h2] at h
  exact parseWith_sound h

/-- **a string is accepted as an atom under EAPI `e` exactly when it is in the grammar with that EAPI's features** -/
theorem accept_iff_grammar (e : Eapi) (he : KnownEapi e) (s : Str) :
    (∃ a, parseAtom e s = .ok a) ↔ Grammar lenient (pmsOpts e) (pmsRepoIds e) s := by
  constructor
  · rintro ⟨a, h⟩
    obtain ⟨a0, hw, hr, _⟩ := parse_sound e he s a h
    exact ⟨a0, hw, hr⟩
  · rintro ⟨a0, hw, rfl⟩
    exact ⟨norm a0, parse_complete e he a0 hw⟩

/-- accepted atoms are well-formed and in normal form -/
theorem parse_wf (e : Eapi) (he : KnownEapi e) (s : Str) (a : Atom) (h : parseAtom e s = .ok a) :
    WF lenient (pmsOpts e) (pmsRepoIds e) a := by
  obtain ⟨a0, hw, _, rfl⟩ := parse_sound e he s a h
  exact ⟨WF0_norm hw, norm_norm a0⟩

/-- **every accepted atom renders to text that parses back to the same atom** (the identical record: category,
package, operator, version and revision *text*, blocker flags, slot, sub-slot, slot operator, sorted USE tokens,
repository) -/
theorem render_parse_roundtrip (e : Eapi) (he : KnownEapi e) (s : Str) (a : Atom) (h : parseAtom e s = .ok a) :
    parseAtom e (render a) = .ok a := by
  obtain ⟨hw, hn⟩ := parse_wf e he s a h
  rw [parse_complete e he a hw, hn]

example : parseAtom (some 7) "!!>=dev-lang/python-3.1_rc2-r03:3/3.1=".toList =
    .ok ⟨"dev-lang".toList, "python".toList, some (.ge, ⟨[['3'], ['1']], none, [(.rc, ['2'])]⟩, ['0', '3']), true, true,
      false, some ['3'], some ['3', '.', '1'], some ['='], none, none⟩ := by
  rw [String.toList_ofList, String.toList_ofList, String.toList_ofList]
  rfl

/-- a written atom and the atom parsed from its text are equal in the sense of `atom.__eq__` (C02) whatever the
order of the USE deps: the corollary of `parse_complete` for `==` and `hash` -/
theorem parse_equal_to_written (e : Eapi) (he : KnownEapi e) (a0 a : Atom)
    (h0 : WF0 lenient (pmsOpts e) (pmsRepoIds e) a0) (h : parseAtom e (render a0) = .ok a) :
    C02.atomEq a0 a = some true ∧ C02.atomHashKey a0 = C02.atomHashKey a := by
  rw [parse_complete e he a0 h0] at h
  simp only [Except.ok.injEq] at h
  subst h
  have hwf : C02.Spec.Atom.WF a0 := (vopWF_of_vopOk a0.vop h0.2.2.1).2
  have hwf2 : C02.Spec.Atom.WF (norm a0) := hwf
  have hcanon : C02.Spec.atomCanon a0 = C02.Spec.atomCanon (norm a0) :=
    C02.atomCanon_use a0 (by cases a0.use <;> simp [sortUse_idem])
  exact ⟨(C02.atom_eq_iff_canon a0 (norm a0) hwf hwf2).mpr hcanon,
    C02.atomHashKey_of_canon a0 (norm a0) hcanon⟩

/-- **the round-tripped atom is equal to the original and matches exactly the same packages**: `atom(str(a))`
compares equal to `a` (`atom.__eq__`, C02), hashes alike, and `atom.match` (C04) gives the same verdict on every
package.  (By `render_parse_roundtrip` the re-parsed record is identical, which is why this holds for all of
`==`, `hash` and `match` at once.) -/
theorem roundtrip_equal_same_matches (e : Eapi) (he : KnownEapi e) (s : Str) (a : Atom)
    (h : parseAtom e s = .ok a) :
    ∃ a', parseAtom e (render a) = .ok a' ∧ C02.atomEq a a' = some true ∧
      C02.atomHashKey a = C02.atomHashKey a' ∧ ∀ p : C04.Pkg, C04.atomMatch (toC04 a) p = C04.atomMatch (toC04 a') p := by
  obtain ⟨hw, _⟩ := parse_wf e he s a h
  have hrt := render_parse_roundtrip e he s a h
  obtain ⟨h1, h2⟩ := parse_equal_to_written e he a a hw (by rw [hrt])
  exact ⟨a, hrt, h1, h2, fun _ => rfl⟩

/-- what an accepted atom (without conditional USE deps) matches is the PMS dependency semantics of C04: accepted
atoms are inside the domain of C04's `match_eq_spec` -/
theorem parsed_atom_match_is_pms (e : Eapi) (he : KnownEapi e) (s : Str) (a : Atom) (h : parseAtom e s = .ok a)
    (p : C04.Pkg) (hp : C04.Spec.Pkg.WF p) : C04.atomMatch (toC04 a) p = C04.Spec.matchSpec (toC04 a) p := by
  obtain ⟨⟨_, _, hvop, _, hneg, hslot, _⟩, _⟩ := parse_wf e he s a h
  refine C04.match_eq_spec (toC04 a) p ⟨(vopWF_of_vopOk a.vop hvop).1, ?_⟩ hp hneg
  · show a.subslot.isSome = true → a.slot.isSome = true
    intro hs
    rw [slotOk_eq] at hslot
    cases hsl : a.slot with
    | some _ => rfl
    | none =>
      rw [hsl] at hslot
      rw [hslot.1] at hs
      cases hs

/-- **soundness against the PMS text** — `_partial`: guarded by `PmsStrict a` (the version letter, if any, is lower
case; slot and sub-slot do not start with `+`).
Full statement: `parseAtom e s = .ok a → WF pms (pmsOpts e) (pmsRepoIds e) a`; it is false of the model and of the
code, see `parse_sound_pms_counterexample` (open findings `C03-uppercase-version-letter`, `C03-slot-leading-plus`,
both pinned by pkgcore's own tests). -/
theorem parse_sound_pms_partial (e : Eapi) (he : KnownEapi e) (s : Str) (a : Atom) (h : parseAtom e s = .ok a)
    (hs : PmsStrict a) : WF pms (pmsOpts e) (pmsRepoIds e) a := by
  obtain ⟨hw, hn⟩ := parse_wf e he s a h
  exact ⟨WF0_pms_of_lenient hw hs, hn⟩

/-- `=a/b-1A` and `a/b:+1` are accepted, yet not in the PMS grammar -/
theorem parse_sound_pms_counterexample :
    (∃ a, parseAtom none ['=', 'a', '/', 'b', '-', '1', 'A'] = .ok a ∧ ¬ WF pms (pmsOpts none) (pmsRepoIds none) a) ∧
    (∃ a, parseAtom none ['a', '/', 'b', ':', '+', '1'] = .ok a ∧ ¬ WF pms (pmsOpts none) (pmsRepoIds none) a) := by
  refine ⟨⟨_, rfl, ?_⟩, ⟨_, rfl, ?_⟩⟩
  · rintro ⟨⟨_, _, hvop, _⟩, _⟩
    have := hvop.1
    simp [verOk, pms] at this
  · rintro ⟨⟨_, _, _, _, _, hslot, _⟩, _⟩
    have := hslot.2.1
    simp [slotNameOk, pms, startsWithAny] at this

/-- **completeness against the PMS text** — `_partial`: guarded by "the package name is also valid in pkgcore's
reading" (`pkgOk lenient a.pkg`, i.e. no hyphen is followed by a version with an UPPER-case letter).
Full statement: `WF0 pms (pmsOpts e) (pmsRepoIds e) a → parseAtom e (render a) = .ok (norm a)`; false, see
`parse_complete_pms_counterexample` (the other half of `C03-uppercase-version-letter`). -/
theorem parse_complete_pms_partial (e : Eapi) (he : KnownEapi e) (a : Atom)
    (h : WF0 pms (pmsOpts e) (pmsRepoIds e) a) (hp : pkgOk lenient a.pkg) :
    parseAtom e (render a) = .ok (norm a) :=
  parse_complete e he a (WF0_lenient_of_pms h hp)

/-- `a/b-1A` is in the PMS grammar (`1A` is not a PMS version, so `b-1A` is a package name) and is rejected -/
theorem parse_complete_pms_counterexample :
    ∃ a, WF0 pms (pmsOpts none) (pmsRepoIds none) a ∧ render a = ['a', '/', 'b', '-', '1', 'A'] ∧
      ∃ err, parseAtom none (render a) = .error err := by
  refine ⟨⟨['a'], ['b', '-', '1', 'A'], none, false, false, false, none, none, none, none, none⟩, ?_, rfl, _,
    rfl⟩
  exact ⟨by decide, pkgOk_pms_b1A, trivial, (fun h => by cases h), rfl, ⟨rfl, Or.inl rfl⟩, trivial, trivial⟩

/-- `!!>=dev-lang/python-3.1_rc2-r03:3/3.1=[y,-x(+),!z?]` is well-formed under EAPI 7 (both readings) -/
example : WF0 pms (pmsOpts (some 7)) (pmsRepoIds (some 7))
    ⟨"dev-lang".toList, "python".toList, some (.ge, ⟨[['3'], ['1']], none, [(.rc, ['2'])]⟩, ['0', '3']), true, true, false,
      some ['3'], some ['3', '.', '1'], some ['='], some ["y".toList, "-x(+)".toList, "!z?".toList], none⟩ ∧
    pkgOk lenient "python".toList := by
  rw [String.toList_ofList, String.toList_ofList, String.toList_ofList, String.toList_ofList, String.toList_ofList]
  have hpk : ∀ d, pkgOk d ['p', 'y', 't', 'h', 'o', 'n'] := by
    intro d
    refine ⟨by decide +kernel, ?_⟩
    intro p t e _
    have : '-' ∈ ['p', 'y', 't', 'h', 'o', 'n'] := by rw [e]; simp
    exact absurd this (by decide +kernel)
  refine ⟨⟨by decide +kernel, hpk pms, ⟨by decide +kernel, by decide +kernel, (fun h => by cases h)⟩,
    (fun _ => ⟨rfl, rfl⟩), rfl, ⟨rfl, by decide +kernel, ⟨rfl, by decide +kernel⟩, Or.inr ⟨rfl, rfl⟩⟩,
    trivial, rfl, List.cons_ne_nil _ _, ?_⟩, hpk lenient⟩
  intro t ht
  simp only [List.mem_cons, List.not_mem_nil, or_false] at ht
  rcases ht with rfl | rfl | rfl
  · exact ⟨[], ['y'], [], [], by decide +kernel, by decide +kernel, by decide +kernel, rfl⟩
  · exact ⟨['-'], ['x'], ['(', '+', ')'], [], by decide +kernel, by decide +kernel, by decide +kernel, rfl⟩
  · exact ⟨['!'], ['z'], [], ['?'], by decide +kernel, by decide +kernel, by decide +kernel, rfl⟩

/-- accepted inputs exist for every feature: operator + version + revision, strong blocker, slot/sub-slot/`=`,
repository id (no EAPI), and the EAPI gates reject the same text where the PMS says so -/
example :
    (∃ a, parseAtom none "!!~dev-lang/python-3.1_rc2:3/3.1=::gentoo".toList = .ok a) ∧
    (∃ a, parseAtom (some 1) "!<a/b-r1-1.02b_p-r007:1.2".toList = .ok a) ∧
    (∃ err, parseAtom (some 0) "a/b:1".toList = .error err) ∧ (∃ err, parseAtom (some 1) "!!a/b".toList = .error err) ∧
    (∃ err, parseAtom (some 4) "a/b:1/2".toList = .error err) ∧ (∃ err, parseAtom (some 8) "a/b::gentoo".toList = .error err) ∧
    (∃ err, parseAtom none "a/b-1".toList = .error err) ∧ (∃ err, parseAtom none "~a/b-1-r1".toList = .error err) := by
  iterate 8 rw [String.toList_ofList]
  exact ⟨exists_ok_of_isOk (by decide +kernel), exists_ok_of_isOk (by decide +kernel),
    exists_error_of_not_isOk (by decide +kernel), exists_error_of_not_isOk (by decide +kernel),
    exists_error_of_not_isOk (by decide +kernel), exists_error_of_not_isOk (by decide +kernel),
    exists_error_of_not_isOk (by decide +kernel), exists_error_of_not_isOk (by decide +kernel)⟩

end Pkgcore.C03
