import Pkgcore.Proofs.C08
/-!
# C08 — repository queries return exactly the matching packages

`itermatch`, `candidates`, `identify`, … mirror `repository/prototype.py` after the `fix:` commits (`Model/C08.lean`);
`answer` is the brute-force filter of the property text (`Spec/C08.lean`).  Quantified over every repository
(duplicate-free mappings, `WF`), every restriction tree (C06 `R`: all-of / any-of / exactly-one-of / at-most-one-of
with negate, `Negate`, atoms) over arbitrary leaves (category / package restrictions with wrapper- and value-level
negation, exact or arbitrary value restrictions, any other package predicate), every environment for the opaque
predicates, every lawful sorter.
-/
namespace Pkgcore.C08
open Pkgcore.C08.Spec
open Pkgcore.C06 (R)

/-- **pruning is sound**: whatever the restriction matches has its (category, package) among the candidates. -/
theorem candidates_superset (env : Env) (tbl : Nat → Leaf) (repo : Repo) (S : Sorter) (hS : Lawful S) (r : R)
    (hk : atomsKeyed tbl r = true) (pk : Pkg) (hp : pk.name ∈ repo.packages pk.cat)
    (hm : pmatches env tbl r pk = true) : (pk.cat, pk.name) ∈ candidates env tbl repo S r :=
  candidates_mem hS hk hp (by rw [← pmatches_eq_holds]; exact hm)

/-- not vacuous: the witness of the repaired defect — `And(PackageRestriction("category", == "a", negate=True))`
against a package of category `b` -/
example :
    let tbl : Nat → Leaf := fun _ => .cat true (.exact ['a'] false)
    let repo : Repo := ⟨[(['a'], [(['x'], [['1']])]), (['b'], [(['x'], [['1']])])]⟩
    let pk : Pkg := ⟨['b'], ['x'], some ['1']⟩
    let S : Sorter := ⟨true, id, id, id⟩
    let env : Env := ⟨fun _ _ => false, fun _ _ => false⟩
    pmatches env tbl (.and false [.leaf 0]) pk = true ∧ pk.name ∈ repo.packages pk.cat ∧
      candidates env tbl repo S (.and false [.leaf 0]) = [(['a'], ['x']), (['b'], ['x'])] := by decide

/-- each package at most once -/
theorem itermatch_nodup (env : Env) (tbl : Nat → Leaf) (repo : Repo) (S : Sorter) (hS : Lawful S) (hwf : WF repo)
    (versioned : Bool) (r : R) : (itermatch env tbl repo S versioned r).Nodup :=
  List.Pairwise.filter _ (genCandidates_nodup hS hwf (candidates_nodup hS hwf))

/-- **a query yields every matching package and nothing else, each exactly once**: the result is a permutation of
the brute-force answer, for versioned and unversioned queries alike. -/
theorem itermatch_exact (env : Env) (tbl : Nat → Leaf) (repo : Repo) (S : Sorter) (hS : Lawful S) (hwf : WF repo)
    (versioned : Bool) (r : R) (hk : atomsKeyed tbl r = true) :
    (itermatch env tbl repo S versioned r).Perm (answer env tbl repo versioned r) :=
  (List.perm_ext_iff_of_nodup (itermatch_nodup env tbl repo S hS hwf versioned r)
      (List.Pairwise.filter _ (allOf_nodup hwf))).mpr
    (fun pk => mem_itermatch_iff hS versioned r hk pk)

example : WF ⟨[(['a'], [(['x'], [['1'], ['2']]), (['y'], [])]), (['b'], [(['x'], [['1']])])]⟩ ∧
    Lawful ⟨true, id, id, id⟩ ∧ Lawful ⟨false, List.reverse, List.reverse, List.reverse⟩ :=
  ⟨WF_of_wfCheck _ (by decide), lawful_id,
    ⟨fun _ => List.reverse_perm _, fun _ => List.reverse_perm _, fun _ => List.reverse_perm _⟩⟩

/-- an atom `app/foo[…]`: PackageDep, CategoryDep and one more member -/
example :
    let tbl : Nat → Leaf := fun i => if i = 0 then .pkg false (.exact "foo".toList false)
      else if i = 1 then .cat false (.exact "app".toList false) else .other 0
    atomsKeyed tbl (.atom [.leaf 0, .leaf 1, .leaf 2]) = true ∧
      atomsKeyed tbl (.or true [.atom [.leaf 2], .neg (.leaf 0)]) = true := by decide

/-- **an unversioned query yields exactly the matching category/package pairs** that have a version -/
theorem unversioned_exact (env : Env) (tbl : Nat → Leaf) (repo : Repo) (S : Sorter) (hS : Lawful S) (r : R)
    (hk : atomsKeyed tbl r = true) (c p : Str) :
    (⟨c, p, none⟩ : Pkg) ∈ itermatch env tbl repo S false r ↔
      (p ∈ repo.packages c ∧ repo.versions (c, p) ≠ [] ∧ holds env tbl r ⟨c, p, none⟩ = true) := by
  rw [mem_itermatch_iff hS false r hk]
  simp only [answer, List.mem_filter, mem_allOf, Listed, Bool.false_eq_true, if_false]
  constructor
  · rintro ⟨⟨hne, _⟩, hm⟩
    obtain ⟨v, hv⟩ := List.exists_mem_of_ne_nil _ hne
    exact ⟨versions_mem_packages hv, hne, hm⟩
  · rintro ⟨_, hne, hm⟩
    exact ⟨⟨hne, trivial⟩, hm⟩

/-- **a sorted query yields the same packages**: whatever (lawful) sorter is passed, the result is a permutation
of the unsorted one -/
theorem sorted_same_multiset (env : Env) (tbl : Nat → Leaf) (repo : Repo) (S S' : Sorter) (hS : Lawful S)
    (hS' : Lawful S') (hwf : WF repo) (versioned : Bool) (r : R) (hk : atomsKeyed tbl r = true) :
    (itermatch env tbl repo S versioned r).Perm (itermatch env tbl repo S' versioned r) :=
  (itermatch_exact env tbl repo S hS hwf versioned r hk).trans
    (itermatch_exact env tbl repo S' hS' hwf versioned r hk).symm

/-- **a stack of repositories answers with the union of its members' answers** (as a multiset: a package present
in two member repositories is reported by both) -/
theorem multiplex_union (env : Env) (tbl : Nat → Leaf) (trees : List Repo) (S : Sorter) (hS : Lawful S)
    (hwf : ∀ t ∈ trees, WF t) (versioned : Bool) (r : R) (hk : atomsKeyed tbl r = true) (pk : Pkg) :
    (pk ∈ multiplexMatch env tbl trees S versioned r ↔ ∃ t ∈ trees, pk ∈ answer env tbl t versioned r) ∧
    (multiplexMatch env tbl trees S versioned r).count pk =
      (trees.map fun t => (answer env tbl t versioned r).count pk).sum := by
  constructor
  · simp only [multiplexMatch, List.mem_flatMap]
    constructor
    · rintro ⟨t, ht, h⟩
      exact ⟨t, ht, (mem_itermatch_iff hS versioned r hk pk).mp h⟩
    · rintro ⟨t, ht, h⟩
      exact ⟨t, ht, (mem_itermatch_iff hS versioned r hk pk).mpr h⟩
  · simp only [multiplexMatch, List.count_flatMap]
    congr 1
    apply List.map_congr_left
    intro t ht
    exact (itermatch_exact env tbl t S hS (hwf t ht) versioned r hk).count_eq pk

/-- **a filtered repository** answers with the wrapped repository's answer restricted to the packages on which
the filter restriction gives the sentinel value (default: the filter's matches are masked out) -/
theorem filtered_exact (env : Env) (tbl : Nat → Leaf) (repo : Repo) (S : Sorter) (hS : Lawful S) (hwf : WF repo)
    (versioned : Bool) (mask : R) (sentinel : Bool) (r : R) (hk : atomsKeyed tbl r = true) :
    (filteredMatch env tbl repo S versioned mask sentinel r).Perm
      ((answer env tbl repo versioned r).filter fun pk => holds env tbl mask pk == sentinel) := by
  simp only [filteredMatch]
  have h := (itermatch_exact env tbl repo S hS hwf versioned r hk).filter
    (fun pk => pmatches env tbl mask pk == sentinel)
  simpa only [pmatches_eq_holds] using h

/-! ## stacks of stacks

A member of a `multiplex.tree` only has to offer `itermatch`; it may itself be a stack:
`multiplex.tree(multiplex.tree(a, b), c)`, and `stack + stack` (`__add__` appends the other stack as one member).
`multiplex.tree.itermatch` (default sorter) chains the members' `itermatch` whatever they are, so the nesting is
irrelevant: the answer is that of the flat stack of the leaves.  `Stack` is such a nesting, `leaves` its repositories in
stacking order, `stackMatch` the chained `itermatch`.  (The real nested stacks are compared with the union of the
leaves' brute-force answers by the harness.) -/

inductive Stack where
  | repo (t : Repo)
  | mux (members : List Stack)

mutual
def Stack.leaves : Stack → List Repo
  | .repo t => [t]
  | .mux ms => leavesL ms
def leavesL : List Stack → List Repo
  | [] => []
  | s :: ss => s.leaves ++ leavesL ss
end

mutual
def stackMatch (env : Env) (tbl : Nat → Leaf) (S : Sorter) (versioned : Bool) (r : R) : Stack → List Pkg
  | .repo t => itermatch env tbl t S versioned r
  | .mux ms => stackMatchL env tbl S versioned r ms
def stackMatchL (env : Env) (tbl : Nat → Leaf) (S : Sorter) (versioned : Bool) (r : R) : List Stack → List Pkg
  | [] => []
  | s :: ss => stackMatch env tbl S versioned r s ++ stackMatchL env tbl S versioned r ss
end

mutual
theorem stackMatch_flat (env : Env) (tbl : Nat → Leaf) (S : Sorter) (versioned : Bool) (r : R) :
    (s : Stack) → stackMatch env tbl S versioned r s = multiplexMatch env tbl s.leaves S versioned r
  | .repo t => by simp [stackMatch, Stack.leaves, multiplexMatch]
  | .mux ms => by
    simp only [stackMatch, Stack.leaves]
    exact stackMatchL_flat env tbl S versioned r ms
theorem stackMatchL_flat (env : Env) (tbl : Nat → Leaf) (S : Sorter) (versioned : Bool) (r : R) :
    (ss : List Stack) → stackMatchL env tbl S versioned r ss = multiplexMatch env tbl (leavesL ss) S versioned r
  | [] => by simp [stackMatchL, leavesL, multiplexMatch]
  | s :: ss => by
    simp only [stackMatchL, leavesL]
    rw [stackMatch_flat env tbl S versioned r s, stackMatchL_flat env tbl S versioned r ss]
    simp [multiplexMatch, List.flatMap_append]
end

/-- **a stack of stacks answers with the union of the answers of the repositories at its leaves**, however they are nested
(as a multiset, like `multiplex_union`; for every restriction — in particular atoms pinned to a repository are just leaves
that look at the package) -/
theorem nested_multiplex_union (env : Env) (tbl : Nat → Leaf) (s : Stack) (S : Sorter) (hS : Lawful S)
    (hwf : ∀ t ∈ s.leaves, WF t) (versioned : Bool) (r : R) (hk : atomsKeyed tbl r = true) (pk : Pkg) :
    (pk ∈ stackMatch env tbl S versioned r s ↔ ∃ t ∈ s.leaves, pk ∈ answer env tbl t versioned r) ∧
    (stackMatch env tbl S versioned r s).count pk =
      (s.leaves.map fun t => (answer env tbl t versioned r).count pk).sum := by
  rw [stackMatch_flat]
  exact multiplex_union env tbl s.leaves S hS hwf versioned r hk pk

/-- `multiplex.tree(multiplex.tree(a, b), multiplex.tree(), c)`: three leaves, all well-formed -/
example :
    let a : Repo := ⟨[(['a'], [(['x'], [['1'], ['2']])])]⟩
    let b : Repo := ⟨[(['a'], [(['x'], [['1']])]), (['b'], [(['y'], [['3']])])]⟩
    let c : Repo := ⟨[(['b'], [(['y'], [['3']])])]⟩
    let s : Stack := .mux [.mux [.repo a, .repo b], .mux [], .repo c]
    s.leaves = [a, b, c] ∧ ∀ t ∈ s.leaves, WF t := by
  refine ⟨by simp [Stack.leaves, leavesL], ?_⟩
  intro t ht
  simp only [Stack.leaves, leavesL, List.append_nil, List.nil_append, List.cons_append, List.mem_cons, List.not_mem_nil,
    or_false] at ht
  rcases ht with rfl | rfl | rfl <;> exact WF_of_wfCheck _ (by decide)

end Pkgcore.C08
