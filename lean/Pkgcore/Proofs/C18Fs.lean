import Pkgcore.Spec.C18
import Pkgcore.Proofs.Lib
/-!
# C18 — the file-system library

The `view` of the four state transformers `del/put/alloc/updIno`; `hasChild`, `parentErr`; what a successful system
call has found and done (`step_*_ok`), what four failing ones tell; well-formedness and its preservation (`step_WF`
to `Traj.WF`: paired with `next` not falling); trajectories (`Traj`); the contract of a code fragment (`Frag`) and its
rules; `tmpOf`, ancestors and `statFollow`; last, what lets the drivers evaluate a specification about all paths on the
keys.
-/
namespace Pkgcore.C18
open Pkgcore.C18.Spec

theorem lookup_eq_find? (l : List Dirent) (p : Path) :
    lookup l p = (l.find? (fun d => decide (d.1 = p))).map (·.2) := by
  induction l with
  | nil => rfl
  | cons d t ih => simp only [lookup, List.find?_cons, ih]; split <;> simp [*]

theorem lookup_filter (l : List Dirent) (p q : Path) :
    lookup (l.filter (fun d => decide (d.1 ≠ p))) q = if q = p then none else lookup l q := by
  rw [lookup_eq_find?, lookup_eq_find?, Lib.find?_filter_of_imp (c := ¬ q = p) (fun d hd => by
    rw [decide_eq_true_eq, of_decide_eq_true hd]) l, ite_not, apply_ite (Option.map _), Option.map_none]

theorem lookup_map_upd (l : List Dirent) (i : Nat) (f : Inode → Inode) (q : Path) :
    lookup (l.map (fun d => if d.2.1 = i then (d.1, d.2.1, f d.2.2) else d)) q =
      (lookup l q).map (fun v => if v.1 = i then (v.1, f v.2) else v) := by
  rw [lookup_eq_find?, lookup_eq_find?, List.find?_map, Option.map_map, Option.map_map]
  congr 1
  · funext d; dsimp only [Function.comp]; split <;> rfl
  · congr 1; funext d; dsimp only [Function.comp]; split <;> rfl

theorem mem_keys_iff {fs : Fs} {q : Path} : q ∈ keys fs ↔ fs.view q ≠ none := by
  simp only [keys, Fs.view, lookup_eq_find?, ne_eq, Option.map_eq_none_iff, List.find?_eq_none, List.mem_map,
    decide_eq_true_eq, Classical.not_forall, Classical.not_not, exists_prop]

theorem view_none_of_not_key {fs : Fs} {q : Path} (h : q ∉ keys fs) : fs.view q = none :=
  Classical.not_not.mp (mt mem_keys_iff.mpr h)

theorem mem_locs {es : List Entry} {q : Path} : q ∈ locs es ↔ ∃ e ∈ es, e.loc = q := by
  simp [locs]

namespace Fs

@[simp] theorem view_del (fs : Fs) (p q : Path) : (fs.del p).view q = if q = p then none else fs.view q :=
  lookup_filter fs.ents p q

@[simp] theorem view_put (fs : Fs) (p q : Path) (i : Nat) (nd : Inode) :
    (fs.put p i nd).view q = if q = p then some (i, nd) else fs.view q := by
  show lookup ((p, i, nd) :: fs.ents.filter (fun d => decide (d.1 ≠ p))) q = _
  by_cases h : q = p
  · subst h; simp [lookup]
  · have h' : ¬ p = q := fun e => h e.symm
    rw [lookup, if_neg h', lookup_filter, if_neg h, if_neg h]; rfl

@[simp] theorem view_alloc (fs : Fs) (p q : Path) (nd : Inode) :
    (fs.alloc p nd).view q = if q = p then some (fs.next, nd) else fs.view q :=
  view_put fs p q fs.next nd

@[simp] theorem view_updIno (fs : Fs) (i : Nat) (f : Inode → Inode) (q : Path) :
    (fs.updIno i f).view q = (fs.view q).map (fun v => if v.1 = i then (v.1, f v.2) else v) := by
  simp [view, updIno, lookup_map_upd]

@[simp] theorem next_del (fs : Fs) (p : Path) : (fs.del p).next = fs.next := rfl
@[simp] theorem next_put (fs : Fs) (p : Path) (i : Nat) (nd : Inode) : (fs.put p i nd).next = fs.next := rfl
@[simp] theorem next_alloc (fs : Fs) (p : Path) (nd : Inode) : (fs.alloc p nd).next = fs.next + 1 := rfl
@[simp] theorem next_updIno (fs : Fs) (i : Nat) (f : Inode → Inode) : (fs.updIno i f).next = fs.next := rfl

end Fs

theorem view_updIno_of_ne_ino {fs : Fs} {i : Nat} {f : Inode → Inode} {q : Path}
    (h : ∀ j nd, fs.view q = some (j, nd) → j ≠ i) : (fs.updIno i f).view q = fs.view q := by
  rw [Fs.view_updIno]
  cases hv : fs.view q with
  | none => rfl
  | some v =>
    obtain ⟨j, nd⟩ := v
    have := h j nd hv
    simp [this]

theorem view_updIno_self {fs : Fs} {i : Nat} {nd : Inode} {p : Path} (h : fs.view p = some (i, nd))
    (f : Inode → Inode) : (fs.updIno i f).view p = some (i, f nd) := by
  simp [h]

theorem view_del_some {fs : Fs} {p q : Path} {v : Nat × Inode} (h : (fs.del p).view q = some v) :
    fs.view q = some v := by
  rw [Fs.view_del] at h
  split at h
  · cases h
  · exact h

theorem view_updIno_some {fs : Fs} {i j : Nat} {f : Inode → Inode} {q : Path} {nd : Inode}
    (h : (fs.updIno i f).view q = some (j, nd)) : ∃ nd0, fs.view q = some (j, nd0) ∧ (nd = f nd0 ∨ nd = nd0) := by
  rw [Fs.view_updIno] at h
  cases hq : fs.view q with
  | none => rw [hq] at h; cases h
  | some v =>
    rw [hq, Option.map_some] at h
    split at h <;> cases h
    · exact ⟨_, rfl, Or.inl rfl⟩
    · exact ⟨_, rfl, Or.inr rfl⟩

theorem hasChild_iff {fs : Fs} {p : Path} : fs.hasChild p = true ↔ ∃ n, fs.view (n :: p) ≠ none := by
  simp only [← mem_keys_iff, keys, List.mem_map, Fs.hasChild, List.any_eq_true]
  constructor
  · rintro ⟨d, hd, hm⟩
    cases hdp : d.1 with
    | nil => rw [hdp] at hm; cases hm
    | cons n q =>
      rw [hdp] at hm
      exact ⟨n, d, hd, by rw [hdp, of_decide_eq_true hm]⟩
  · rintro ⟨n, d, hd, hdp⟩
    exact ⟨d, hd, by rw [hdp]; simp⟩

theorem hasChild_of_shrunk {a b : Fs} (h : ∀ q, b.view q = a.view q ∨ b.view q = none) {p : Path}
    (hc : b.hasChild p = true) : a.hasChild p = true := by
  rw [hasChild_iff] at hc ⊢
  obtain ⟨n, hn⟩ := hc
  refine ⟨n, ?_⟩
  rcases h (n :: p) with h1 | h1
  · rw [← h1]; exact hn
  · exact absurd h1 hn

theorem parentErr_none_iff {fs : Fs} {n : Name} {q : Path} :
    fs.parentErr (n :: q) = none ↔ ∃ i nd, fs.view q = some (i, nd) ∧ nd.kind = .dir := by
  unfold Fs.parentErr
  cases hv : fs.view q with
  | none =>
    simp only
    constructor
    · intro h
      split at h
      · cases h
      · split at h <;> cases h
    · rintro ⟨i, nd, h, _⟩; cases h
  | some v =>
    obtain ⟨i, nd⟩ := v
    simp only
    constructor
    · intro h
      split at h
      · next hk => exact ⟨i, nd, rfl, hk⟩
      · cases h
    · rintro ⟨i', nd', h, hk⟩
      cases h
      rw [if_pos hk]

theorem parentErr_ne_EEXIST (fs : Fs) (p : Path) : fs.parentErr p ≠ some .EEXIST := by
  cases p with
  | nil => simp [Fs.parentErr]
  | cons n q =>
    unfold Fs.parentErr
    split
    · split <;> simp
    · split
      · simp
      · split <;> simp

theorem parentErr_none_ne_nil {fs : Fs} {p : Path} (h : fs.parentErr p = none) : p ≠ [] := by
  intro e; subst e; simp [Fs.parentErr] at h

theorem step_mkdir_ok {env : Env} {fs fs' : Fs} {p : Path} {m : Nat} (h : step env fs (.mkdir p m) = .ok fs') :
    (p ≠ [] → fs.parentErr p = none) ∧ fs.view p = none ∧
      fs' = fs.alloc p ⟨.dir, newDirMode fs p (m &&& 0o1777), env.uid, newGid env fs p, 0⟩ := by
  simp only [step] at h
  split at h
  · cases h
  · next hpe =>
    split at h
    · cases h
    · next hv =>
      injection h with h
      exact ⟨fun hp => by rwa [if_neg hp] at hpe, Option.not_isSome_iff_eq_none.mp hv, h.symm⟩

theorem step_symlink_ok {env : Env} {fs fs' : Fs} {p : Path} {t : String} (h : step env fs (.symlink t p) = .ok fs') :
    fs.parentErr p = none ∧ fs.view p = none ∧ fs' = fs.alloc p ⟨.sym t, 0o777, env.uid, newGid env fs p, 0⟩ := by
  simp only [step] at h
  split at h
  · cases h
  · next hpe =>
    split at h
    · cases h
    · next hv => injection h with h; exact ⟨hpe, Option.not_isSome_iff_eq_none.mp hv, h.symm⟩

theorem step_mkfifo_ok {env : Env} {fs fs' : Fs} {p : Path} {m : Nat} (h : step env fs (.mkfifo p m) = .ok fs') :
    fs.parentErr p = none ∧ fs.view p = none ∧ fs' = fs.alloc p ⟨.fifo, m, env.uid, newGid env fs p, 0⟩ := by
  simp only [step] at h
  split at h
  · cases h
  · next hpe =>
    split at h
    · cases h
    · next hv => injection h with h; exact ⟨hpe, Option.not_isSome_iff_eq_none.mp hv, h.symm⟩

theorem step_creat_ok {env : Env} {fs fs' : Fs} {p : Path} {m : Nat} (h : step env fs (.creat p m) = .ok fs') :
    fs.parentErr p = none ∧
      ((fs.view p = none ∧ fs' = fs.alloc p ⟨.file "", m, env.uid, newGid env fs p, 0⟩) ∨
       ∃ i nd d, fs.view p = some (i, nd) ∧ nd.kind = .file d ∧
         fs' = fs.updIno i fun n => { n with kind := .file "", mtime := 0 }) := by
  simp only [step] at h
  split at h
  · cases h
  · next hpe =>
    refine ⟨hpe, ?_⟩
    split at h
    · next hv => injection h with h; exact Or.inl ⟨hv, h.symm⟩
    · next i nd hv =>
      split at h
      · next d hk => injection h with h; exact Or.inr ⟨i, nd, d, hv, hk, h.symm⟩
      · cases h
      · cases h

theorem step_write_ok {env : Env} {fs fs' : Fs} {p : Path} {data : String} (h : step env fs (.write p data) = .ok fs') :
    ∃ i nd d, fs.view p = some (i, nd) ∧ nd.kind = .file d ∧
      fs' = fs.updIno i fun n => { n with kind := .file (d ++ data), mtime := 0 } := by
  simp only [step] at h
  split at h
  · cases h
  · next i nd hv =>
    split at h
    · next d hk => injection h with h; exact ⟨i, nd, d, hv, hk, h.symm⟩
    · cases h

theorem step_unlink_ok {env : Env} {fs fs' : Fs} {p : Path} (h : step env fs (.unlink p) = .ok fs') :
    ∃ i nd, fs.view p = some (i, nd) ∧ nd.kind ≠ .dir ∧ fs' = fs.del p := by
  simp only [step] at h
  split at h
  · cases h
  · next i nd hv =>
    split at h
    · cases h
    · next hk => injection h with h; exact ⟨i, nd, hv, hk, h.symm⟩

theorem step_rmdir_ok {env : Env} {fs fs' : Fs} {p : Path} (h : step env fs (.rmdir p) = .ok fs') :
    ∃ i nd, fs.view p = some (i, nd) ∧ nd.kind = .dir ∧ p ≠ [] ∧ fs.hasChild p = false ∧ fs' = fs.del p := by
  simp only [step] at h
  split at h
  · cases h
  · next i nd hv =>
    split at h
    · cases h
    · next hk =>
      split at h
      · cases h
      · next hp =>
        split at h
        · cases h
        · next hc =>
          injection h with h
          exact ⟨i, nd, hv, Classical.not_not.mp hk, hp, by simpa using hc, h.symm⟩

theorem step_link_ok {env : Env} {fs fs' : Fs} {src dst : Path} (h : step env fs (.link src dst) = .ok fs') :
    ∃ i nd, fs.view src = some (i, nd) ∧ nd.kind ≠ .dir ∧ fs.parentErr dst = none ∧ fs.view dst = none ∧
      fs' = fs.put dst i nd := by
  simp only [step] at h
  split at h
  · cases h
  · next i nd hv =>
    split at h
    · cases h
    · next hk =>
      split at h
      · cases h
      · next hpe =>
        split at h
        · cases h
        · next hd => injection h with h; exact ⟨i, nd, hv, hk, hpe, Option.not_isSome_iff_eq_none.mp hd, h.symm⟩

theorem step_rename_ok {env : Env} {fs fs' : Fs} {src dst : Path} (h : step env fs (.rename src dst) = .ok fs') :
    ∃ i nd, fs.view src = some (i, nd) ∧ nd.kind ≠ .dir ∧ fs.parentErr dst = none ∧
      (((∃ nd', fs.view dst = some (i, nd')) ∧ fs' = fs) ∨
       ((∀ j nd', fs.view dst = some (j, nd') → j ≠ i ∧ nd'.kind ≠ .dir) ∧ fs' = (fs.del src).put dst i nd)) := by
  simp only [step] at h
  split at h
  · cases h
  · next i nd hv =>
    split at h
    · cases h
    · next hpe =>
      split at h
      · cases h
      · next hk =>
        refine ⟨i, nd, hv, hk, hpe, ?_⟩
        split at h
        · next hd =>
          injection h with h
          exact Or.inr ⟨fun j nd' hj => (by rw [hd] at hj; cases hj), h.symm⟩
        · next j nd' hd =>
          split at h
          · next hji => injection h with h; exact Or.inl ⟨⟨nd', hji ▸ hd⟩, h.symm⟩
          · next hji =>
            split at h
            · cases h
            · next hk' =>
              injection h with h
              exact Or.inr ⟨fun j' nd'' hj => (by rw [hd] at hj; cases hj; exact ⟨hji, hk'⟩), h.symm⟩

theorem step_lchown_ok {env : Env} {fs fs' : Fs} {p : Path} {u g : Nat} (h : step env fs (.lchown p u g) = .ok fs') :
    ∃ i nd, fs.view p = some (i, nd) ∧ fs' = fs.updIno i fun n => { n with uid := u, gid := g } := by
  simp only [step] at h
  split at h
  · cases h
  · next i nd hv => injection h with h; exact ⟨i, nd, hv, h.symm⟩

theorem step_chmod_ok {env : Env} {fs fs' : Fs} {p : Path} {m : Nat} (h : step env fs (.chmod p m) = .ok fs') :
    ∃ i nd, fs.view p = some (i, nd) ∧ (∀ t, nd.kind ≠ .sym t) ∧ fs' = fs.updIno i fun n => { n with mode := m } := by
  simp only [step] at h
  split at h
  · cases h
  · next i nd hv =>
    split at h
    · cases h
    · next hk => injection h with h; exact ⟨i, nd, hv, hk, h.symm⟩

theorem step_utime_ok {env : Env} {fs fs' : Fs} {p : Path} {t : Nat} {fl : Bool}
    (h : step env fs (.utime p t fl) = .ok fs') :
    ∃ i nd, fs.view p = some (i, nd) ∧
      ((nd.kind = .dir ∧ fs' = fs) ∨ (nd.kind ≠ .dir ∧ fs' = fs.updIno i fun n => { n with mtime := t })) := by
  simp only [step] at h
  split at h
  · cases h
  · next i nd hv =>
    refine ⟨i, nd, hv, ?_⟩
    split at h
    · next hk => injection h with h; exact Or.inl ⟨hk, h.symm⟩
    · next t' hk =>
      split at h
      · cases h
      · injection h with h; exact Or.inr ⟨by rw [hk]; simp, h.symm⟩
    · next h1 h2 =>
      injection h with h
      exact Or.inr ⟨h1, h.symm⟩

theorem step_mkdir_EEXIST {env : Env} {fs : Fs} {p : Path} {m : Nat} (h : step env fs (.mkdir p m) = .error .EEXIST) :
    ∃ v, fs.view p = some v := by
  simp only [step] at h
  split at h
  · next e hpe =>
    injection h with h; subst h
    split at hpe
    · cases hpe
    · exact absurd hpe (parentErr_ne_EEXIST _ _)
  · split at h
    · next hv => exact Option.isSome_iff_exists.mp hv
    · cases h

theorem step_link_EEXIST {env : Env} {fs : Fs} {src dst : Path} {i : Nat} {nd : Inode}
    (hsrc : fs.view src = some (i, nd)) (h : step env fs (.link src dst) = .error .EEXIST) :
    fs.parentErr dst = none ∧ ∃ v, fs.view dst = some v := by
  simp only [step, hsrc] at h
  split at h
  · cases h
  · split at h
    · next e hpe => injection h with h; subst h; exact absurd hpe (parentErr_ne_EEXIST _ _)
    · next hpe =>
      split at h
      · next hv => exact ⟨hpe, Option.isSome_iff_exists.mp hv⟩
      · cases h

theorem step_unlink_ENOENT {env : Env} {fs : Fs} {p : Path} (h : step env fs (.unlink p) = .error .ENOENT) :
    fs.view p = none := by
  simp only [step] at h
  split at h
  · assumption
  · split at h <;> cases h

theorem step_rmdir_dir_error {env : Env} {fs : Fs} {p : Path} {e : Errno} {j : Nat} {nd : Inode}
    (h : step env fs (.rmdir p) = .error e) (hv : fs.view p = some (j, nd)) (hk : nd.kind = .dir) :
    fs.hasChild p = true ∨ p = [] := by
  simp only [step, hv] at h
  have : ¬ (nd.kind ≠ .dir) := by simp [hk]
  rw [if_neg this] at h
  split at h
  · next hp => exact Or.inr hp
  · split at h
    · next hc => exact Or.inl hc
    · cases h

namespace Fs

/-- what makes a newly allocated inode shared with nobody -/
def WF1 (fs : Fs) : Prop := ∀ p i nd, fs.view p = some (i, nd) → i < fs.next

/-- a directory has one name (no hard links to directories) -/
def WF2 (fs : Fs) : Prop :=
  ∀ p q i nd nd', fs.view p = some (i, nd) → fs.view q = some (i, nd') → nd.kind = .dir → p = q

structure WF (fs : Fs) : Prop where
  lt : WF1 fs
  dir1 : WF2 fs

end Fs

theorem map_upd_next {fs : Fs} (hwf : fs.WF1) (f : Inode → Inode) (q : Path) :
    (fs.view q).map (fun v => if v.1 = fs.next then (v.1, f v.2) else v) = fs.view q := by
  rw [← Fs.view_updIno]
  exact view_updIno_of_ne_ino fun j nd hv => Nat.ne_of_lt (hwf q j nd hv)

theorem WF_del {fs : Fs} (h : fs.WF) (p : Path) : (fs.del p).WF :=
  ⟨fun q i nd hv => h.lt q i nd (view_del_some hv),
    fun a b i nd nd' ha hb hk => h.dir1 a b i nd nd' (view_del_some ha) (view_del_some hb) hk⟩

theorem WF_alloc {fs : Fs} (h : fs.WF) (p : Path) (nd0 : Inode) : (fs.alloc p nd0).WF := by
  constructor
  · intro q i nd hv
    simp only [Fs.view_alloc] at hv
    split at hv
    · cases hv; simp
    · have := h.lt q i nd hv; simp; omega
  · intro a b i nd nd' ha hb hk
    simp only [Fs.view_alloc] at ha hb
    split at ha
    · split at hb
      · simp_all
      · cases ha
        exact absurd (h.lt b _ nd' hb) (Nat.lt_irrefl _)
    · split at hb
      · cases hb
        exact absurd (h.lt a _ nd ha) (Nat.lt_irrefl _)
      · exact h.dir1 a b i nd nd' ha hb hk

theorem WF_put {fs : Fs} (h : fs.WF) (dst : Path) {i : Nat} {nd0 : Inode} (hlt : i < fs.next) (hk0 : nd0.kind ≠ .dir)
    (hi : ∀ a nd, fs.view a = some (i, nd) → nd.kind ≠ .dir) : (fs.put dst i nd0).WF := by
  constructor
  · intro q j nd hv
    simp only [Fs.view_put] at hv
    split at hv
    · cases hv; exact hlt
    · exact h.lt q j nd hv
  · intro a b j nd nd' ha hb hk
    simp only [Fs.view_put] at ha hb
    split at ha
    · cases ha; exact absurd hk hk0
    · split at hb
      · cases hb; exact absurd hk (hi a nd ha)
      · exact h.dir1 a b j nd nd' ha hb hk

theorem WF_updIno {fs : Fs} (h : fs.WF) (i : Nat) (f : Inode → Inode)
    (hf : ∀ nd, (f nd).kind = .dir → nd.kind = .dir) : (fs.updIno i f).WF := by
  constructor
  · intro q j nd hv
    obtain ⟨nd0, h0, -⟩ := view_updIno_some hv
    exact h.lt q j nd0 h0
  · intro a b j nd nd' ha hb hk
    obtain ⟨na, h1, e1⟩ := view_updIno_some ha
    obtain ⟨nb, h2, -⟩ := view_updIno_some hb
    refine h.dir1 a b j na nb h1 h2 ?_
    rcases e1 with rfl | rfl
    · exact hf _ hk
    · exact hk

/-- `dir1` read backwards -/
theorem Fs.WF.nondir_names {fs : Fs} (h : fs.WF) {src : Path} {i : Nat} {nd : Inode} (hv : fs.view src = some (i, nd))
    (hk : nd.kind ≠ .dir) : ∀ a nd', fs.view a = some (i, nd') → nd'.kind ≠ .dir := by
  intro a nd' ha hk'
  have := h.dir1 a src i nd' nd ha hv hk'
  subst this
  rw [hv] at ha; cases ha; exact hk hk'

theorem step_WF {env : Env} {fs fs' : Fs} {op : Op} (h : fs.WF) (hs : step env fs op = .ok fs') :
    fs'.WF ∧ fs.next ≤ fs'.next := by
  cases op with
  | mkdir p m => obtain ⟨-, -, rfl⟩ := step_mkdir_ok hs; exact ⟨WF_alloc h _ _, by simp⟩
  | symlink t p => obtain ⟨-, -, rfl⟩ := step_symlink_ok hs; exact ⟨WF_alloc h _ _, by simp⟩
  | mkfifo p m => obtain ⟨-, -, rfl⟩ := step_mkfifo_ok hs; exact ⟨WF_alloc h _ _, by simp⟩
  | creat p m =>
    obtain ⟨-, ⟨-, rfl⟩ | ⟨i, nd, d, -, -, rfl⟩⟩ := step_creat_ok hs
    · exact ⟨WF_alloc h _ _, by simp⟩
    · exact ⟨WF_updIno h _ _ (by intro nd hk; simp at hk), by simp⟩
  | write p data =>
    obtain ⟨i, nd, d, -, -, rfl⟩ := step_write_ok hs
    exact ⟨WF_updIno h _ _ (by intro nd hk; simp at hk), by simp⟩
  | rmdir p => obtain ⟨i, nd, -, -, -, -, rfl⟩ := step_rmdir_ok hs; exact ⟨WF_del h _, by simp⟩
  | unlink p => obtain ⟨i, nd, -, -, rfl⟩ := step_unlink_ok hs; exact ⟨WF_del h _, by simp⟩
  | link src dst =>
    obtain ⟨i, nd, hv, hk, -, -, rfl⟩ := step_link_ok hs
    exact ⟨WF_put h dst (h.lt _ _ _ hv) hk (h.nondir_names hv hk), by simp⟩
  | rename src dst =>
    obtain ⟨i, nd, hv, hk, -, ⟨-, rfl⟩ | ⟨-, rfl⟩⟩ := step_rename_ok hs
    · exact ⟨h, Nat.le_refl _⟩
    · exact ⟨WF_put (WF_del h src) dst (h.lt _ _ _ hv) hk fun a nd' ha => h.nondir_names hv hk a nd' (view_del_some ha),
        by simp⟩
  | lchown p u g => obtain ⟨i, nd, -, rfl⟩ := step_lchown_ok hs; exact ⟨WF_updIno h _ _ (fun _ hk => hk), by simp⟩
  | chmod p m => obtain ⟨i, nd, -, -, rfl⟩ := step_chmod_ok hs; exact ⟨WF_updIno h _ _ (fun _ hk => hk), by simp⟩
  | utime p t fl =>
    obtain ⟨i, nd, -, ⟨-, rfl⟩ | ⟨-, rfl⟩⟩ := step_utime_ok hs
    · exact ⟨h, Nat.le_refl _⟩
    · exact ⟨WF_updIno h _ _ (fun _ hk => hk), by simp⟩

theorem applyOp_WF {env : Env} {fs : Fs} (op : Op) (h : fs.WF) :
    (applyOp env fs op).WF ∧ fs.next ≤ (applyOp env fs op).next := by
  unfold applyOp
  cases hs : step env fs op with
  | ok f => exact step_WF h hs
  | error e => exact ⟨h, Nat.le_refl _⟩

theorem run_WF {env : Env} {fs : Fs} (ops : List Op) (h : fs.WF) :
    (run env fs ops).WF ∧ fs.next ≤ (run env fs ops).next := by
  induction ops generalizing fs with
  | nil => exact ⟨h, Nat.le_refl _⟩
  | cons op ops ih =>
    have h1 := applyOp_WF (env := env) op h
    have h2 := ih h1.1
    exact ⟨h2.1, Nat.le_trans h1.2 h2.2⟩

theorem applyOp_ok {env : Env} {fs fs' : Fs} {op : Op} (h : step env fs op = .ok fs') : applyOp env fs op = fs' := by
  simp [applyOp, h]

theorem applyOp_err {env : Env} {fs : Fs} {op : Op} {e : Errno} (h : step env fs op = .error e) :
    applyOp env fs op = fs := by
  simp [applyOp, h]

@[simp] theorem run_nil (env : Env) (fs : Fs) : run env fs [] = fs := rfl
@[simp] theorem run_cons (env : Env) (fs : Fs) (op : Op) (ops : List Op) :
    run env fs (op :: ops) = run env (applyOp env fs op) ops := rfl
theorem run_append (env : Env) (fs : Fs) (a b : List Op) : run env fs (a ++ b) = run env (run env fs a) b := by
  simp [run, List.foldl_append]

/-- `s'` is reached from `s` by appending system calls to the log; its file system is the replay of those calls
from `s.fs`; and **every** intermediate file system (every prefix of the calls, both ends included) satisfies `P` -/
def Traj (env : Env) (P : Fs → Prop) (s s' : St) : Prop :=
  ∃ ops : List (Op × Option Errno), s'.log = s.log ++ ops ∧
    s'.fs = run env s.fs (ops.map Prod.fst) ∧ ∀ k, P (run env s.fs ((ops.map Prod.fst).take k))

theorem Traj.refl {env : Env} {P : Fs → Prop} {s : St} (h : P s.fs) : Traj env P s s :=
  ⟨[], by simp, by simp, by intro k; simpa using h⟩

theorem Traj.start {env : Env} {P : Fs → Prop} {s s' : St} (h : Traj env P s s') : P s.fs := by
  obtain ⟨ops, _, _, hk⟩ := h
  simpa using hk 0

theorem Traj.final {env : Env} {P : Fs → Prop} {s s' : St} (h : Traj env P s s') : P s'.fs := by
  obtain ⟨ops, _, hf, hk⟩ := h
  have := hk (ops.map Prod.fst).length
  rw [List.take_length] at this
  rwa [hf]

theorem Traj.mono {env : Env} {P Q : Fs → Prop} {s s' : St} (h : Traj env P s s') (hPQ : ∀ f, P f → Q f) :
    Traj env Q s s' := by
  obtain ⟨ops, h1, h2, h3⟩ := h
  exact ⟨ops, h1, h2, fun k => hPQ _ (h3 k)⟩

theorem Traj.trans {env : Env} {P : Fs → Prop} {s s1 s2 : St} (h1 : Traj env P s s1) (h2 : Traj env P s1 s2) :
    Traj env P s s2 := by
  obtain ⟨a, ha1, ha2, ha3⟩ := h1
  obtain ⟨b, hb1, hb2, hb3⟩ := h2
  refine ⟨a ++ b, by rw [hb1, ha1, List.append_assoc], ?_, ?_⟩
  · rw [hb2, ha2, List.map_append, run_append]
  · intro k
    rw [List.map_append, List.take_append]
    rw [run_append]
    by_cases hk : k ≤ (a.map Prod.fst).length
    · have : k - (a.map Prod.fst).length = 0 := by omega
      rw [this]; simpa using ha3 k
    · have hk' : (a.map Prod.fst).length ≤ k := by omega
      rw [List.take_of_length_le hk', ← ha2]
      exact hb3 _

theorem Traj.WF {env : Env} {P : Fs → Prop} {s s' : St} (h : Traj env P s s') (hwf : s.fs.WF) :
    s'.fs.WF ∧ s.fs.next ≤ s'.fs.next := by
  obtain ⟨ops, _, hf, _⟩ := h
  rw [hf]; exact run_WF _ hwf

theorem St.sys_ok {env : Env} {s s' : St} {op : Op} (h : s.sys env op = (s', none)) :
    step env s.fs op = .ok s'.fs ∧ s'.log = s.log ++ [(op, none)] := by
  unfold St.sys at h
  cases hs : step env s.fs op with
  | ok f =>
    rw [hs] at h
    simp only [Prod.mk.injEq] at h
    obtain ⟨h, -⟩ := h
    subst h; simp
  | error e => rw [hs] at h; simp at h

theorem St.sys_err {env : Env} {s s' : St} {op : Op} {e : Errno} (h : s.sys env op = (s', some e)) :
    step env s.fs op = .error e ∧ s'.fs = s.fs ∧ s'.log = s.log ++ [(op, some e)] := by
  unfold St.sys at h
  cases hs : step env s.fs op with
  | ok f => rw [hs] at h; simp at h
  | error e' =>
    rw [hs] at h
    simp only [Prod.mk.injEq, Option.some.injEq] at h
    obtain ⟨h1, h2⟩ := h
    subst h1 h2; simp

theorem Traj.sys {env : Env} {P : Fs → Prop} {s s' : St} {op : Op} {r : Option Errno} (h : s.sys env op = (s', r))
    (h0 : P s.fs) (hok : r = none → P s'.fs) : Traj env P s s' := by
  have hfs : s'.fs = applyOp env s.fs op ∧ s'.log = s.log ++ [(op, r)] := by
    cases r with
    | none => obtain ⟨h1, h2⟩ := St.sys_ok h; exact ⟨(applyOp_ok h1).symm, h2⟩
    | some e => obtain ⟨h1, h2, h3⟩ := St.sys_err h; exact ⟨by rw [applyOp_err h1, h2], h3⟩
  refine ⟨[(op, r)], hfs.2, by simp [hfs.1], fun k => ?_⟩
  match k with
  | 0 => simpa using h0
  | k + 1 =>
    have : P s'.fs := by
      cases r with
      | none => exact hok rfl
      | some e => rw [(St.sys_err h).2.1]; exact h0
    simpa [← hfs.1] using this

theorem Traj.sys_err {env : Env} {P : Fs → Prop} {s s' : St} {op : Op} {e : Errno} (h : s.sys env op = (s', some e))
    (h0 : P s.fs) : Traj env P s s' :=
  Traj.sys h h0 (fun h => by cases h)

theorem sysAll_cons_of_ok {env : Env} {s s1 : St} {op : Op} (ops : List Op) (h : s.sys env op = (s1, none)) :
    s.sysAll env (op :: ops) = s1.sysAll env ops := by
  simp [St.sysAll, h]

theorem sysAll_error_os {env : Env} (ops : List Op) (s : St) {e : Exc} (h : (s.sysAll env ops).2 = .error e) :
    ∃ n, e = .os n := by
  induction ops generalizing s with
  | nil => cases h
  | cons op ops ih =>
    rw [St.sysAll] at h
    split at h
    · exact ih _ h
    · exact ⟨_, (Except.error.inj h).symm⟩

theorem sysAll_append_eq (env : Env) (s : St) (a b : List Op) :
    s.sysAll env (a ++ b) =
      match s.sysAll env a with
      | (s1, .ok ()) => s1.sysAll env b
      | (s1, .error e) => (s1, .error e) := by
  induction a generalizing s with
  | nil => rfl
  | cons op ops ih =>
    rw [List.cons_append, St.sysAll, St.sysAll]
    split
    · exact ih _
    · rfl

/-- The contract of a code fragment that runs from `s` and returns `out`, whatever the outcome: every state on the way
satisfies `P` (what a crash or an exception half-way may leave), and a normal return ends in a state satisfying `Q`.
The statements about fragments are `Frag env P Q s (fragment env s …)`, proved along the code. -/
def Frag (env : Env) (P : Fs → Prop) (Q : St → Prop) (s : St) (out : St × Except Exc Unit) : Prop :=
  Traj env P s out.1 ∧ (out.2 = .ok () → Q out.1)

section Frag
variable {env : Env} {P P' : Fs → Prop} {Q Q' : St → Prop} {s s' : St} {out : St × Except Exc Unit}

theorem Traj.ok (t : Traj env P s s') (q : Q s') : Frag env P Q s (s', .ok ()) := ⟨t, fun _ => q⟩

theorem Traj.error (t : Traj env P s s') (e : Exc) : Frag env P Q s (s', .error e) := ⟨t, fun h => by cases h⟩

theorem Traj.andThen (t : Traj env P s s') (f : Frag env P Q s' out) : Frag env P Q s out := ⟨t.trans f.1, f.2⟩

/-- the continuation gets the trajectory so far: `.final` is `P` of the state reached, `.WF` its well-formedness -/
theorem Frag.andThen (f : Frag env P Q' s (s', .ok ())) (k : Traj env P s s' → Q' s' → Frag env P Q s' out) :
    Frag env P Q s out :=
  f.1.andThen (k f.1 (f.2 rfl))

/-- The sequence rule.  The model writes "`out`, then `cont`, unless `out` raised" as the `match` below; a goal about
such a `match` of the model unifies with this statement when its arms stand in the same order, hence `Frag.seq'` for
the other order. -/
theorem Frag.seq {cont : St → St × Except Exc Unit} :
    Frag env P Q' s out → (∀ s1, Traj env P s s1 → Q' s1 → Frag env P Q s1 (cont s1)) →
    Frag env P Q s (match out with | (s1, .ok ()) => cont s1 | (s1, .error e) => (s1, .error e)) := by
  obtain ⟨s1, _ | _⟩ := out
  · exact fun f _ => f.1.error _
  · exact fun f k => f.andThen (k s1)

theorem Frag.seq' {cont : St → St × Except Exc Unit} :
    Frag env P Q' s out → (∀ s1, Traj env P s s1 → Q' s1 → Frag env P Q s1 (cont s1)) →
    Frag env P Q s (match out with | (s1, .error e) => (s1, .error e) | (s1, .ok ()) => cont s1) := by
  obtain ⟨s1, _ | _⟩ := out
  · exact fun f _ => f.1.error _
  · exact fun f k => f.andThen (k s1)

/-- `hQ` may use the trajectory itself: callers read `Traj.WF` of the whole run off it -/
theorem Frag.imp (f : Frag env P Q s out) (hP : ∀ fs, P fs → P' fs) (hQ : Traj env P s out.1 → Q out.1 → Q' out.1) :
    Frag env P' Q' s out :=
  ⟨f.1.mono hP, fun h => hQ f.1 (f.2 h)⟩

theorem Frag.mono (f : Frag env P Q s out) (hP : ∀ fs, P fs → P' fs) : Frag env P' Q s out := ⟨f.1.mono hP, f.2⟩

theorem Frag.post (f : Frag env P Q s out) (h : out = (s', .ok ())) : Q s' := by
  subst h; exact f.2 rfl

/-- a failing call is an exit; after a successful one `P s1.fs` is the start of the continuation's own trajectory -/
theorem Frag.sysAll_cons {op : Op} {ops : List Op} (h0 : P s.fs)
    (k : ∀ s1, s.sys env op = (s1, none) → Frag env P Q s1 (s1.sysAll env ops)) :
    Frag env P Q s (s.sysAll env (op :: ops)) := by
  rw [St.sysAll]
  split
  · next s1 h => exact (Traj.sys h h0 fun _ => (k s1 h).1.start).andThen (k s1 h)
  · next s1 e h => exact (Traj.sys_err h h0).error _

theorem Frag.sysAll_append {a b : List Op} (fa : Frag env P Q' s (s.sysAll env a))
    (k : ∀ s1, Traj env P s s1 → Q' s1 → Frag env P Q s1 (s1.sysAll env b)) : Frag env P Q s (s.sysAll env (a ++ b)) :=
  sysAll_append_eq env s a b ▸ fa.seq k

end Frag

theorem tmpName_ne (n : String) : n ++ "#new" ≠ n := by
  intro h
  have := congrArg String.length h
  simp [String.length_append] at this

theorem tmpOf_eq (p : Path) : tmpOf p = p.modifyHead (· ++ "#new") := by cases p <;> rfl

theorem tmpOf_ne {p : Path} (hp : p ≠ []) : tmpOf p ≠ p := by
  cases p with
  | nil => exact absurd rfl hp
  | cons n q => simp [tmpOf]

theorem tmpOf_length (p : Path) : (tmpOf p).length = p.length := tmpOf_eq p ▸ List.length_modifyHead

theorem tmpOf_tail (p : Path) : (tmpOf p).tail = p.tail := tmpOf_eq p ▸ List.tail_modifyHead

theorem tmpOf_ne_nil {p : Path} (hp : p ≠ []) : tmpOf p ≠ [] := tmpOf_eq p ▸ mt List.modifyHead_eq_nil_iff.1 hp

theorem tmpOf_inj {a b : Path} (h : tmpOf a = tmpOf b) : a = b := by
  cases a with
  | nil => cases b with
    | nil => rfl
    | cons n q => simp [tmpOf] at h
  | cons n q => cases b with
    | nil => simp [tmpOf] at h
    | cons n' q' =>
      simp only [tmpOf, List.cons.injEq] at h
      obtain ⟨h1, h2⟩ := h
      have := congrArg String.toList h1
      simp only [String.toList_append] at this
      have := List.append_cancel_right this
      rw [String.toList_inj.mp this, h2]

theorem tmpOf_not_properAnc (p : Path) : ¬ ProperAnc (tmpOf p) p := by
  rintro ⟨hne, hs⟩
  exact hne (hs.eq_of_length (tmpOf_length p))

theorem mem_ancestorsIncl {q p : Path} : q ∈ ancestorsIncl p ↔ q <:+ p := by
  induction p with
  | nil => simp [ancestorsIncl]
  | cons n t ih =>
    simp only [ancestorsIncl, List.mem_append, ih, List.mem_singleton]
    constructor
    · rintro (h | h)
      · exact h.trans (List.suffix_cons n t)
      · rw [h]; exact List.suffix_refl _
    · intro h
      rcases List.suffix_cons_iff.mp h with h | h
      · exact Or.inr h
      · exact Or.inl h

theorem properAnc_iff_suffix_tail {q p : Path} : ProperAnc q p ↔ p ≠ [] ∧ q <:+ p.tail := by
  cases p with
  | nil =>
    constructor
    · rintro ⟨hne, hs⟩; exact absurd (List.suffix_nil.mp hs) hne
    · rintro ⟨hp, -⟩; exact absurd rfl hp
  | cons n t =>
    simp only [ProperAnc, List.tail_cons, List.suffix_cons_iff]
    constructor
    · rintro ⟨hne, h | h⟩
      · exact absurd h hne
      · exact ⟨by simp, h⟩
    · rintro ⟨-, h⟩
      refine ⟨?_, Or.inr h⟩
      rintro rfl
      have := h.length_le
      simp at this
      omega

theorem nil_properAnc {p : Path} (hp : p ≠ []) : ProperAnc [] p := ⟨fun e => hp e.symm, List.nil_suffix⟩

theorem statFollow_view_none {fs : Fs} {p : Path} (fuel : Nat) (h : fs.view p = none) :
    statFollow fs fuel p = none := by
  cases fuel <;> simp [statFollow, h]

theorem statFollow_nonsym {fs : Fs} {p : Path} {i : Nat} {nd : Inode} (fuel : Nat) (h : fs.view p = some (i, nd))
    (hk : ∀ t, nd.kind ≠ .sym t) : statFollow fs (fuel + 1) p = some (p, i, nd) := by
  cases hkk : nd.kind with
  | sym t => exact absurd hkk (hk t)
  | dir => simp [statFollow, h, hkk]
  | file d => simp [statFollow, h, hkk]
  | fifo => simp [statFollow, h, hkk]

theorem statFollow_none_sym {fs : Fs} {p : Path} {i : Nat} {nd : Inode} (fuel : Nat) (h : fs.view p = some (i, nd))
    (hn : statFollow fs (fuel + 1) p = none) : ∃ t, nd.kind = .sym t := by
  simp only [statFollow, h] at hn
  split at hn
  · next t ht => exact ⟨t, ht⟩
  · cases hn

/-! A statement about all paths that holds wherever the file system (or both of them, the one before and the one
after) has nothing is a statement about the keys: this is how the drivers evaluate the specifications. -/

theorem forall_path_iff_keys {fs : Fs} {P : Path → Prop} (h0 : ∀ q, fs.view q = none → P q) :
    (∀ q, P q) ↔ ∀ q ∈ keys fs, P q :=
  ⟨fun h q _ => h q, fun h q => if hm : q ∈ keys fs then h q hm else h0 q (view_none_of_not_key hm)⟩

theorem forall_path_iff_keys₂ {pre fin : Fs} {P : Path → Prop}
    (h0 : ∀ q, pre.view q = none → fin.view q = none → P q) :
    (∀ q, P q) ↔ ∀ q ∈ keys pre ++ keys fin, P q := by
  refine ⟨fun h q _ => h q, fun h q => ?_⟩
  by_cases hm : q ∈ keys pre ++ keys fin
  · exact h q hm
  · rw [List.mem_append, not_or] at hm
    exact h0 q (view_none_of_not_key hm.1) (view_none_of_not_key hm.2)

end Pkgcore.C18
