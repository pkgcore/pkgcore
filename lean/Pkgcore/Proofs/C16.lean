import Pkgcore.Spec.C16
import Pkgcore.Proofs.C01
import Pkgcore.Proofs.Lib
/-!
Generic part: for a comparison `cmp` that is a total preorder on the elements satisfying `P` (`Laws`), the stable
descending sort `sortDesc` returns a descending permutation of its input, a descending list is determined by its
elements when no two of them compare equal (`desc_unique`), and the merge `iterSort`, fed with descending streams,
returns a descending permutation of their concatenation (`LoopInv`, `loop_spec`, `iterSort_spec`).  Specific part:
`fHighest` and `cmpPkg` are such comparisons on well-formed candidates (through C01's order embedding `key`), hence
`merged_spec` for the streams of the two strategies; last the fold behind `insolubleAfter`.
-/
namespace Pkgcore.C16
open List

structure Laws {α} (P : α → Prop) (cmp : α → α → Ordering) : Prop where
  swap : ∀ x y, P x → P y → cmp x y = (cmp y x).swap
  trans : ∀ x y z, P x → P y → P z → cmp x y ≠ .lt → cmp y z ≠ .lt → cmp x z ≠ .lt

def Desc {α} (cmp : α → α → Ordering) (l : List α) : Prop := l.Pairwise fun a b => cmp a b ≠ .lt

variable {α : Type} {P : α → Prop} {cmp : α → α → Ordering}

theorem Laws.ne_lt_of_not_gt (L : Laws P cmp) {a b : α} (ha : P a) (hb : P b) (h : cmp b a ≠ .gt) :
    cmp a b ≠ .lt := by
  rw [L.swap a b ha hb]
  revert h
  cases cmp b a <;> decide

theorem Laws.antisymm (L : Laws P cmp) {a b : α} (ha : P a) (hb : P b) (h1 : cmp a b ≠ .lt) (h2 : cmp b a ≠ .lt) :
    cmp a b = .eq := by
  rw [L.swap b a hb ha] at h2
  revert h1 h2
  cases cmp a b <;> decide

theorem insertDesc_perm (cmp : α → α → Ordering) (a : α) (l : List α) : insertDesc cmp a l ~ a :: l :=
  Lib.insert_perm (insertDesc cmp) (stop := fun a b => ¬ (cmp b a == .gt) = true) (fun _ => rfl)
    (fun _ _ _ => by rw [insertDesc, ite_not]) a l

theorem sortDesc_perm (cmp : α → α → Ordering) (l : List α) : sortDesc cmp l ~ l := by
  induction l with
  | nil => exact .refl _
  | cons a l ih => exact (insertDesc_perm cmp a _).trans (ih.cons a)

theorem insertDesc_desc (L : Laws P cmp) {a : α} {l : List α} (ha : P a) (hl : ∀ x ∈ l, P x) (d : Desc cmp l) :
    Desc cmp (insertDesc cmp a l) := by
  -- not `Lib.insert_pairwise`: that asks for a relation transitive on all of `α`, `L.trans` holds on `P` only
  induction l with
  | nil => simp [insertDesc, Desc]
  | cons b l ih =>
    have hb : P b := hl b (by simp)
    have hl' : ∀ x ∈ l, P x := fun x hx => hl x (by simp [hx])
    obtain ⟨hbl, dl⟩ := List.pairwise_cons.mp d
    simp only [insertDesc]
    split
    · rename_i hgt
      have hgt' : cmp b a = .gt := by simpa using hgt
      refine List.pairwise_cons.mpr ⟨?_, ih hl' dl⟩
      intro x hx
      rcases (List.mem_cons.mp ((insertDesc_perm cmp a l).mem_iff.mp hx)) with rfl | hx
      · rw [hgt']; decide
      · exact hbl x hx
    · rename_i hngt
      have hab : cmp a b ≠ .lt := L.ne_lt_of_not_gt ha hb fun e => hngt (by rw [e]; rfl)
      refine List.pairwise_cons.mpr ⟨?_, d⟩
      intro x hx
      rcases List.mem_cons.mp hx with rfl | hx
      · exact hab
      · exact L.trans a b x ha hb (hl' x hx) hab (hbl x hx)

theorem sortDesc_desc (L : Laws P cmp) {l : List α} (hl : ∀ x ∈ l, P x) : Desc cmp (sortDesc cmp l) := by
  induction l with
  | nil => simp [sortDesc, Desc]
  | cons a l ih =>
    have hl' : ∀ x ∈ l, P x := fun x hx => hl x (by simp [hx])
    exact insertDesc_desc L (hl a (by simp)) (fun x hx => hl' x ((sortDesc_perm cmp l).mem_iff.mp hx))
      (ih hl')

theorem desc_unique (L : Laws P cmp) {l₁ l₂ : List α} (h : l₁ ~ l₂) (hp : ∀ x ∈ l₁, P x)
    (strict : ∀ x ∈ l₁, ∀ y ∈ l₁, cmp x y = .eq → x = y) (d₁ : Desc cmp l₁) (d₂ : Desc cmp l₂) :
    l₁ = l₂ :=
  h.eq_of_pairwise (fun a b ha hb hab hba =>
    have hb' := h.mem_iff.mpr hb
    strict a ha b hb' (L.antisymm (hp a ha) (hp b hb') hab hba)) d₁ d₂

/-- everything still to be yielded: each `[head, iterator]` pair with its head put back in front -/
def elems (l : List (α × List α)) : List α := l.flatMap fun p => p.1 :: p.2

theorem elems_cons (h : α) (r : List α) (l : List (α × List α)) : elems ((h, r) :: l) = h :: (r ++ elems l) := rfl

theorem mem_elems {l : List (α × List α)} {x : α} : x ∈ elems l ↔ ∃ s ∈ l, x = s.1 ∨ x ∈ s.2 := by
  simp [elems, List.mem_flatMap]

theorem elems_perm {l l' : List (α × List α)} (h : l ~ l') : elems l ~ elems l' := h.flatMap_right _

/-- `sort_cmp(l, f, key=itemgetter(0))`: the pairs are compared by their heads -/
def headCmp (cmp : α → α → Ordering) (a b : α × List α) : Ordering := cmp a.1 b.1

theorem headLaws (L : Laws P cmp) : Laws (fun p : α × List α => P p.1) (headCmp cmp) :=
  ⟨fun x y hx hy => L.swap x.1 y.1 hx hy, fun x y z hx hy hz => L.trans x.1 y.1 z.1 hx hy hz⟩

/-- invariant of the `while` loop of `iter_sort` -/
structure LoopInv (P : α → Prop) (cmp : α → α → Ordering) (l : List (α × List α)) : Prop where
  p : ∀ x ∈ elems l, P x
  streams : ∀ s ∈ l, Desc cmp (s.1 :: s.2)
  heads : Desc (headCmp cmp) l

theorem head_ge_all (L : Laws P cmp) {h : α} {r : List α} {l : List (α × List α)}
    (I : LoopInv P cmp ((h, r) :: l)) : ∀ x ∈ r ++ elems l, cmp h x ≠ .lt := by
  have ph : P h := I.p h List.mem_cons_self
  obtain ⟨hr, _⟩ := List.pairwise_cons.mp (I.streams (h, r) (by simp))
  obtain ⟨hh, _⟩ := List.pairwise_cons.mp I.heads
  intro x hx
  rcases List.mem_append.mp hx with hx | hx
  · exact hr x hx
  · obtain ⟨s, hs, hxs⟩ := mem_elems.mp hx
    have hs1 : cmp h s.1 ≠ .lt := hh s hs
    have tl : ∀ y ∈ elems l, P y := fun y hy => I.p y (List.mem_cons_of_mem _ (List.mem_append_right _ hy))
    have ps1 : P s.1 := tl s.1 (mem_elems.mpr ⟨s, hs, .inl rfl⟩)
    rcases hxs with rfl | hxs
    · exact hs1
    · have px : P x := tl x hx
      obtain ⟨hsr, _⟩ := List.pairwise_cons.mp (I.streams s (by simp [hs]))
      exact L.trans h s.1 x ph ps1 px hs1 (hsr x hxs)

theorem loopInv_tail {h : α} {r : List α} {l : List (α × List α)} (I : LoopInv P cmp ((h, r) :: l)) :
    LoopInv P cmp l :=
  ⟨fun x hx => I.p x (List.mem_cons_of_mem _ (List.mem_append_right _ hx)),
   fun s hs => I.streams s (by simp [hs]), (List.pairwise_cons.mp I.heads).2⟩

theorem loopInv_advance (L : Laws P cmp) {h y : α} {r : List α} {l : List (α × List α)}
    (I : LoopInv P cmp ((h, y :: r) :: l)) :
    LoopInv P cmp (sortDesc (headCmp cmp) ((y, r) :: l)) := by
  have hperm := sortDesc_perm (headCmp cmp) ((y, r) :: l)
  have pall : ∀ x ∈ elems ((y, r) :: l), P x := by
    intro x hx
    rw [elems_cons] at hx
    exact I.p x (by rw [elems_cons]; exact List.mem_cons_of_mem h hx)
  refine ⟨fun x hx => pall x ((elems_perm hperm).mem_iff.mp hx), ?_, ?_⟩
  · intro s hs
    rcases List.mem_cons.mp (hperm.mem_iff.mp hs) with rfl | hs
    · exact (List.pairwise_cons.mp (I.streams (h, y :: r) (by simp))).2
    · exact I.streams s (by simp [hs])
  · apply sortDesc_desc (headLaws L)
    intro s hs
    apply pall
    exact mem_elems.mpr ⟨s, hs, .inl rfl⟩

theorem loop_nil (sorter : List (α × List α) → List (α × List α)) (n : Nat) :
    iterSortLoop sorter n [] = [] := by
  cases n <;> rfl

theorem perm_desc_cons {h : α} {out rest : List α} (hge : ∀ x ∈ rest, cmp h x ≠ .lt) (p : out ~ rest)
    (d : Desc cmp out) :
    h :: out ~ h :: rest ∧ Desc cmp (h :: out) :=
  ⟨p.cons h, List.pairwise_cons.mpr ⟨fun x hx => hge x (p.mem_iff.mp hx), d⟩⟩

theorem loop_spec (L : Laws P cmp) :
    ∀ (n : Nat) (l : List (α × List α)), (elems l).length ≤ n → LoopInv P cmp l →
      iterSortLoop (sortDesc (headCmp cmp)) n l ~ elems l ∧
        Desc cmp (iterSortLoop (sortDesc (headCmp cmp)) n l) := by
  intro n
  induction n with
  | zero =>
    intro l hn _
    rw [List.length_eq_zero_iff.mp (Nat.le_zero.mp hn)]
    exact ⟨.refl _, List.Pairwise.nil⟩
  | succ n ih =>
    intro l hn I
    match l, hn, I with
    | [], _, _ => exact ⟨.refl _, List.Pairwise.nil⟩
    | (h, y :: r) :: l, hn, I =>
      have hperm := elems_perm (sortDesc_perm (headCmp cmp) ((y, r) :: l))
      obtain ⟨p1, d1⟩ := ih _ (hperm.length_eq ▸ Nat.le_of_succ_le_succ hn) (loopInv_advance L I)
      exact perm_desc_cons (head_ge_all L I) (p1.trans hperm) d1
    | [(h, []), (h2, r2)], _, I =>
      exact perm_desc_cons (rest := [] ++ elems [(h2, r2)]) (head_ge_all L I) (by simp [elems])
        (I.streams (h2, r2) (by simp))
    | [(h, [])], _, _ =>
      simp only [iterSortLoop, loop_nil]
      exact ⟨.refl _, List.pairwise_singleton _ h⟩
    | (h, []) :: a :: b :: l, hn, I =>
      obtain ⟨p1, d1⟩ := ih _ (Nat.le_of_succ_le_succ hn) (loopInv_tail I)
      exact perm_desc_cons (head_ge_all L I) p1 d1

theorem elems_heads (its : List (List α)) : elems (heads its) = its.flatten := by
  induction its with
  | nil => simp [heads, elems]
  | cons it its ih =>
    cases it with
    | nil => simpa [heads, elems] using ih
    | cons x xs =>
      simp only [heads, List.filterMap_cons, elems, List.flatMap_cons, List.flatten_cons] at ih ⊢
      rw [ih]

theorem heads_streams {its : List (List α)} (h : ∀ it ∈ its, Desc cmp it) :
    ∀ s ∈ heads its, Desc cmp (s.1 :: s.2) := by
  intro s hs
  simp only [heads, List.mem_filterMap] at hs
  obtain ⟨it, hit, e⟩ := hs
  cases it with
  | nil => cases e
  | cons x xs =>
    simp only [Option.some.injEq] at e
    subst e
    exact h _ hit

theorem iterSort_spec (L : Laws P cmp) {its : List (List α)} (hp : ∀ it ∈ its, ∀ x ∈ it, P x)
    (hd : ∀ it ∈ its, Desc cmp it) :
    iterSort (sortDesc (headCmp cmp)) its ~ its.flatten ∧ Desc cmp (iterSort (sortDesc (headCmp cmp)) its) := by
  have pall : ∀ x ∈ elems (heads its), P x := by
    intro x hx
    rw [elems_heads] at hx
    obtain ⟨it, hit, hx⟩ := List.mem_flatten.mp hx
    exact hp it hit x hx
  have hst := heads_streams hd
  unfold iterSort
  split
  · rename_i h r hh
    have e : its.flatten = h :: r := by rw [← elems_heads, hh]; simp [elems]
    rw [e]
    exact ⟨.refl _, by simpa [hh] using hst (h, r) (by simp [hh])⟩
  · have hperm := sortDesc_perm (headCmp cmp) (heads its)
    have I : LoopInv P cmp (sortDesc (headCmp cmp) (heads its)) :=
      ⟨fun x hx => pall x ((elems_perm hperm).mem_iff.mp hx), fun s hs => hst s (hperm.mem_iff.mp hs),
       sortDesc_desc (headLaws L) fun s hs => pall s.1 (mem_elems.mpr ⟨s, hs, .inl rfl⟩)⟩
    have hlen : (elems (sortDesc (headCmp cmp) (heads its))).length ≤ (its.map List.length).sum + 1 := by
      rw [(elems_perm hperm).length_eq, elems_heads, List.length_flatten]; omega
    obtain ⟨p1, d1⟩ := loop_spec L _ _ hlen I
    exact ⟨elems_heads its ▸ p1.trans (elems_perm hperm), d1⟩

open Pkgcore.C01 Pkgcore.C01.Spec Std
attribute [local instance] lexOrd

theorem cmpPkg_eq_pms (x y : Cand) : cmpPkg x y = pms x y :=
  verCmp_eq_pmsCmp x.ver y.ver (some x.rev) (some y.rev) (Or.inr ⟨rfl, rfl⟩)

theorem fHighest_eq (x y : Cand) : fHighest x y = (pms x y).then (compare x.livefs y.livefs) := by
  unfold fHighest
  rw [cmpPkg_eq_pms]
  cases pms x y <;> cases x.livefs <;> cases y.livefs <;> decide

/-- order embedding: PMS key of the version, then `livefs` (`false < true`) -/
def highestKey (x : Cand) : Key × Bool := (key x.ver (some x.rev), x.livefs)

theorem fHighest_key (x y : Cand) (hx : CandWF x) (hy : CandWF y) :
    fHighest x y = compare (highestKey x) (highestKey y) := by
  rw [fHighest_eq, pms, pmsCmp_eq_key _ _ _ _ hx hy]
  exact (Lib.lex_pair _ _ _ _).symm

theorem cmpPkg_key (x y : Cand) (hx : CandWF x) (hy : CandWF y) :
    cmpPkg x y = compare (key x.ver (some x.rev)) (key y.ver (some y.rev)) := by
  rw [cmpPkg_eq_pms, pms, pmsCmp_eq_key _ _ _ _ hx hy]

theorem laws_of_key {κ} [Ord κ] [TransCmp (compare : κ → κ → Ordering)] (k : Cand → κ)
    (c : Cand → Cand → Ordering) (h : ∀ x y, CandWF x → CandWF y → c x y = compare (k x) (k y)) :
    Laws CandWF c where
  swap x y hx hy := by rw [h x y hx hy, h y x hy hx]; exact OrientedCmp.eq_swap
  trans x y z hx hy hz h1 h2 := by
    rw [h x y hx hy, ne_eq, Ordering.ne_lt_iff_isGE] at h1
    rw [h y z hy hz, ne_eq, Ordering.ne_lt_iff_isGE] at h2
    rw [h x z hx hz, ne_eq, Ordering.ne_lt_iff_isGE]
    exact TransCmp.isGE_trans h1 h2

theorem lawsHighest : Laws CandWF fHighest := laws_of_key highestKey fHighest fHighest_key
theorem lawsPkg : Laws CandWF cmpPkg := laws_of_key (fun x => key x.ver (some x.rev)) cmpPkg cmpPkg_key

theorem pms_swap {x y : Cand} (hx : CandWF x) (hy : CandWF y) : pms x y = (pms y x).swap := by
  rw [← cmpPkg_eq_pms, ← cmpPkg_eq_pms]; exact lawsPkg.swap x y hx hy

theorem pms_self {x : Cand} (hx : CandWF x) : pms x x = .eq := by
  have := pms_swap hx hx
  revert this
  cases pms x x <;> decide

theorem fHighest_ne_lt_iff (x y : Cand) : fHighest x y ≠ .lt ↔ Before x y := by
  rw [fHighest_eq, Before]
  cases pms x y <;> cases x.livefs <;> cases y.livefs <;> decide

theorem desc_iff_ordered (l : List Cand) : Desc fHighest l ↔ UpgradeOrdered l :=
  ⟨fun h => h.imp fun hab => (fHighest_ne_lt_iff _ _).mp hab,
   fun h => h.imp fun hab => (fHighest_ne_lt_iff _ _).mpr hab⟩

/-- a repository's own stream (sorted by version only) is also descending for `highest_iter_sort`'s comparator,
because all its packages share `repo.livefs` -/
theorem repoStream_desc {r : Repo} (hw : ∀ c ∈ r, CandWF c) (ho : RepoOk r) : Desc fHighest (repoStream r) := by
  have hperm := sortDesc_perm cmpPkg r
  have d : Desc cmpPkg (repoStream r) := sortDesc_desc lawsPkg hw
  unfold Desc at d ⊢
  refine List.Pairwise.imp_of_mem ?_ d
  intro a b ha hb hab
  have e : a.livefs = b.livefs := ho a (hperm.mem_iff.mp ha) b (hperm.mem_iff.mp hb)
  rw [cmpPkg_eq_pms] at hab
  rw [fHighest_eq, e]
  cases hp : pms a b <;> cases b.livefs <;> simp_all [Ordering.then]

theorem highestSorter_eq : highestSorter = sortDesc (headCmp fHighest) := rfl

theorem flatten_repoStream_perm (dbs : List Repo) : (dbs.map repoStream).flatten ~ dbs.flatten := by
  induction dbs with
  | nil => exact .refl _
  | cons r dbs ih => exact (sortDesc_perm cmpPkg r).append ih

/-- every `multiplex_sorting_repo(highest_iter_sort, repos)` stream is a permutation of the candidates, ordered by the
policy -/
theorem merged_spec {dbs : List Repo} (hw : ∀ r ∈ dbs, ∀ c ∈ r, CandWF c) (ho : ∀ r ∈ dbs, RepoOk r) :
    iterSort highestSorter (dbs.map repoStream) ~ dbs.flatten ∧
      UpgradeOrdered (iterSort highestSorter (dbs.map repoStream)) := by
  rw [highestSorter_eq]
  have hp : ∀ it ∈ dbs.map repoStream, ∀ x ∈ it, CandWF x := by
    intro it hit x hx
    obtain ⟨r, hr, rfl⟩ := List.mem_map.mp hit
    exact hw r hr x ((sortDesc_perm cmpPkg r).mem_iff.mp hx)
  have hd : ∀ it ∈ dbs.map repoStream, Desc fHighest it := by
    intro it hit
    obtain ⟨r, hr, rfl⟩ := List.mem_map.mp hit
    exact repoStream_desc (hw r hr) (ho r hr)
  obtain ⟨p1, d1⟩ := iterSort_spec lawsHighest hp hd
  exact ⟨p1.trans (flatten_repoStream_perm dbs), (desc_iff_ordered _).mp d1⟩

theorem preferLivefs_perm (dbs : List Repo) : preferLivefs dbs ~ dbs := List.filter_append_perm isLivefs dbs

theorem mem_foldl_markInsoluble {a : Nat} (ls : List Lookup) (ins : List Nat) (h : a ∈ ls.foldl markInsoluble ins) :
    a ∈ ins ∨ ∃ l ∈ ls, l.atom = a ∧ l.cands = [] := by
  refine List.foldlRecOn (motive := fun s => a ∈ s → a ∈ ins ∨ ∃ l ∈ ls, l.atom = a ∧ l.cands = []) ls
    markInsoluble .inl (fun s hs l hl h1 => ?_) h
  unfold markInsoluble at h1
  by_cases hc : (!l.limited && (lookupMatches l).isEmpty) = true
  · rw [if_pos hc] at h1
    rcases List.mem_cons.mp h1 with rfl | h1
    · simp only [Bool.and_eq_true, Bool.not_eq_true', List.isEmpty_iff] at hc
      exact .inr ⟨l, hl, rfl, by simpa [lookupMatches, hc.1] using hc.2⟩
    · exact hs h1
  · rw [if_neg hc] at h1; exact hs h1

end Pkgcore.C16
