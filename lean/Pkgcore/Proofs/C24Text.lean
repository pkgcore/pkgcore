import Pkgcore.Spec.C24
import Pkgcore.Proofs.Lib
/-! # Strings, lines and numbers of the file formats of C24, C27 and C28

Split/join (core's `List.splitOn`/`List.intercalate`), what has no line break, and a text written line by line read
back (`lines_render`); then numbers: the decimal and the hexadecimal round trip, and `numChars`, the characters a
rendered number consists of (`IsNum`). -/
namespace Pkgcore.C24

theorem splitOn_eq_core (sep : Char) (s : Str) : splitOn sep s = s.splitOn sep := by
  induction s with
  | nil => rfl
  | cons c cs ih =>
    rw [splitOn, List.splitOn_cons_eq_if_modifyHead, ih]
    simp only [beq_iff_eq]
    split
    · rfl
    · cases h : cs.splitOn sep with
      | nil => exact absurd h (List.splitOn_ne_nil sep cs)
      | cons => rfl

theorem joinWith_eq_core (sep : Char) : ∀ l : List Str, joinWith sep l = [sep].intercalate l
  | [] => rfl
  | [_] => List.intercalate_singleton.symm
  | a :: b :: t => by rw [joinWith, Lib.intercalate_cons_cons, joinWith_eq_core sep (b :: t)]

theorem splitOn_ne_nil (sep : Char) (a : Str) : splitOn sep a ≠ [] :=
  splitOn_eq_core sep a ▸ List.splitOn_ne_nil sep a

theorem splitOn_cons_ne (sep c : Char) (cs : Str) (h : c ≠ sep) :
    ∃ hd tl, splitOn sep cs = hd :: tl ∧ splitOn sep (c :: cs) = (c :: hd) :: tl := by
  cases hs : splitOn sep cs with
  | nil => exact absurd hs (splitOn_ne_nil sep cs)
  | cons hd tl => exact ⟨hd, tl, rfl, by rw [splitOn_eq_core] at hs ⊢; exact Lib.splitOn_cons_ne sep h hs⟩

theorem splitOn_append_sep (sep : Char) (a b : Str) :
    splitOn sep (a ++ sep :: b) = splitOn sep a ++ splitOn sep b := by
  simp only [splitOn_eq_core]; exact List.splitOn_append_cons_self a b

theorem splitOn_of_not_mem (sep : Char) (a : Str) (h : sep ∉ a) : splitOn sep a = [a] :=
  splitOn_eq_core sep a ▸ List.splitOn_eq_singleton h

theorem joinWith_cons_head (sep c : Char) (hd : Str) (tl : List Str) :
    joinWith sep ((c :: hd) :: tl) = c :: joinWith sep (hd :: tl) := by
  cases tl <;> rfl

theorem joinWith_splitOn (sep : Char) (a : Str) : joinWith sep (splitOn sep a) = a := by
  rw [splitOn_eq_core, joinWith_eq_core]; exact List.intercalate_splitOn sep

theorem splitOn_joinWith (sep : Char) (comps : List Str) (hne : comps ≠ []) (h : ∀ c ∈ comps, sep ∉ c) :
    splitOn sep (joinWith sep comps) = comps := by
  rw [joinWith_eq_core, splitOn_eq_core]; exact List.splitOn_intercalate sep h hne

theorem noLineBreak_iff (s : Str) : Spec.noLineBreak s ↔ ∀ c ∈ s, c ≠ '\n' ∧ c ≠ '\r' :=
  ⟨fun h _ hc => ⟨fun e => h.1 (e ▸ hc), fun e => h.2 (e ▸ hc)⟩,
    fun h => ⟨fun m => (h _ m).1 rfl, fun m => (h _ m).2 rfl⟩⟩

theorem noLineBreak_append (a b : Str) (ha : Spec.noLineBreak a) (hb : Spec.noLineBreak b) :
    Spec.noLineBreak (a ++ b) :=
  ⟨fun m => (List.mem_append.mp m).elim ha.1 hb.1, fun m => (List.mem_append.mp m).elim ha.2 hb.2⟩

theorem noLineBreak_joinWith (sep : Char) (hsep : sep ≠ '\n' ∧ sep ≠ '\r') (pieces : List Str)
    (h : ∀ p ∈ pieces, Spec.noLineBreak p) : Spec.noLineBreak (joinWith sep pieces) :=
  (noLineBreak_iff _).mpr fun c hc => by
    rw [joinWith_eq_core] at hc
    rcases Lib.mem_intercalate _ hc with rfl | ⟨p, hp, hcp⟩
    · exact hsep
    · exact (noLineBreak_iff p).mp (h p hp) c hcp

theorem splitLines_ne_nil (a : Str) : splitLines a ≠ [] := by
  induction a with
  | nil => simp [splitLines]
  | cons c cs ih =>
    unfold splitLines
    split
    · simp
    · split <;> simp

theorem splitLines_line (l rest : Str) (h : Spec.noLineBreak l) :
    splitLines (l ++ '\n' :: rest) = l :: splitLines rest := by
  rw [noLineBreak_iff] at h
  induction l with
  | nil => simp [splitLines]
  | cons c cs ih =>
    have hc : ¬ (c = '\n' ∨ c = '\r') := not_or.mpr (h c List.mem_cons_self)
    simp only [List.cons_append, splitLines, if_neg hc, ih fun x hx => h x (List.mem_cons_of_mem _ hx)]

/-- Reading back a text written line by line, for both line splitters (`splitLines`, C27's `uniGo false`): `f` cuts
off a first line of which `P` holds at its `\n`. -/
theorem lines_render (f : Str → List Str) (P : Str → Prop) (h0 : f [] = [[]])
    (hline : ∀ l rest, P l → f (l ++ '\n' :: rest) = l :: f rest) (lines : List Str) (h : ∀ l ∈ lines, P l) :
    f (lines.flatMap fun l => l ++ ['\n']) = lines ++ [[]] := by
  induction lines with
  | nil => exact h0
  | cons l rest ih =>
    rw [List.flatMap_cons, List.append_assoc, List.singleton_append, hline l _ (h l List.mem_cons_self),
      ih fun x hx => h x (List.mem_cons_of_mem _ hx), List.cons_append]

theorem allDigits_toDigits (n : Nat) : allDigits (Nat.toDigits 10 n) = true := by
  unfold allDigits
  have hne : Nat.toDigits 10 n ≠ [] := Nat.toDigits_ne_nil
  have : (Nat.toDigits 10 n).isEmpty = false := by
    cases h : Nat.toDigits 10 n with
    | nil => exact absurd h hne
    | cons _ _ => rfl
  simp only [this, Bool.not_false, Bool.true_and, List.all_eq_true]
  intro c hc
  exact Nat.isDigit_of_mem_toDigits (by decide) (by decide) hc

theorem parseInt_digits (ds : Str) (h : allDigits ds = true) :
    parseInt ds = some (Nat.ofDigitChars 10 ds 0 : Int) := by
  cases ds with
  | nil => simp [allDigits] at h
  | cons c cs =>
    have hc : c.isDigit = true := by
      simp only [allDigits, List.all_cons, Bool.and_eq_true] at h
      exact h.2.1
    -- a digit is neither `-` nor `+`, so `parseInt` takes its third branch
    have hm : c ≠ '-' := Lib.ne_of_class hc (by decide)
    have hp : c ≠ '+' := Lib.ne_of_class hc (by decide)
    unfold parseInt
    split
    next heq => exact absurd (List.cons.inj heq).1 hm
    next heq => exact absurd (List.cons.inj heq).1 hp
    next => simp [h]

theorem parseInt_renderInt (i : Int) : parseInt (renderInt i) = some i := by
  unfold renderInt
  split
  · rename_i h
    simp only [parseInt, allDigits_toDigits, if_true, Nat.ofDigitChars_ten_toDigits]
    congr 1; omega
  · rename_i h
    rw [parseInt_digits _ (allDigits_toDigits _), Nat.ofDigitChars_ten_toDigits]
    congr 1; omega

theorem hexVal_digitChar : ∀ d, d < 16 → hexVal (Nat.digitChar d) = some d := by decide +kernel

theorem hexFold_toDigits (n : Nat) : (Nat.toDigits 16 n).foldl hexStep (some 0) = some n := by
  induction n using Nat.strongRecOn with
  | _ n ih =>
    rw [Nat.toDigits_eq_if (by decide)]
    split
    · rename_i h
      simp [hexStep, hexVal_digitChar n h]
    · simp only [List.foldl_append, ih (n / 16) (by omega), List.foldl_cons, List.foldl_nil, hexStep,
        hexVal_digitChar (n % 16) (by omega)]
      congr 1; omega

theorem hexFold_zeros (k : Nat) (rest : Str) :
    (List.replicate k '0' ++ rest).foldl hexStep (some 0) = rest.foldl hexStep (some 0) := by
  induction k with
  | zero => simp
  | succ k ih =>
    rw [List.replicate_succ, List.cons_append, List.foldl_cons]
    have : hexVal '0' = some 0 := by decide
    simp only [hexStep, this, Nat.mul_zero, Nat.add_zero]
    exact ih

/-- zero-padded hexadecimal: the text of `hexPad` and of C28's `hexPadTo` -/
theorem parseHex_zeroPadded (k n : Nat) : parseHex (List.replicate k '0' ++ Nat.toDigits 16 n) = some n := by
  rw [parseHex, if_neg (by simpa using fun _ => Nat.toDigits_ne_nil), hexFold_zeros, hexFold_toDigits]

theorem parseHex_hexPad (n : Nat) : parseHex (hexPad n) = some n := parseHex_zeroPadded _ n

/-- the characters a rendered number can consist of.  None is a blank or a line break (`numChars_plain`), so a string of
them is one token and one line (`num_token_line`). -/
def numChars : Str := "-0123456789abcdef".toList

theorem numChars_plain : ∀ c ∈ numChars, c ≠ ' ' ∧ c ≠ '\n' ∧ c ≠ '\r' := by decide +kernel

theorem digitChar_mem_numChars : ∀ d, d < 16 → Nat.digitChar d ∈ numChars := by decide +kernel

theorem toDigits_mem_numChars (b : Nat) (hb : 1 < b) (hb' : b ≤ 16) (n : Nat) :
    ∀ c ∈ Nat.toDigits b n, c ∈ numChars := by
  induction n using Nat.strongRecOn with
  | _ n ih =>
    rw [Nat.toDigits_eq_if hb]
    split
    · intro c hc
      rw [List.mem_singleton.mp hc]
      exact digitChar_mem_numChars n (by omega)
    · intro c hc
      rcases List.mem_append.mp hc with hc | hc
      · exact ih (n / b) (Nat.div_lt_self (by omega) hb) c hc
      · rw [List.mem_singleton.mp hc]
        exact digitChar_mem_numChars _ (by have := Nat.mod_lt n (show 0 < b by omega); omega)

/-- non-empty for C28's `noSpace` (`C28.num_noSpace`) -/
abbrev IsNum (s : Str) : Prop := s ≠ [] ∧ ∀ c ∈ s, c ∈ numChars

theorem renderInt_num (i : Int) : IsNum (renderInt i) := by
  unfold renderInt
  split
  · exact ⟨List.cons_ne_nil _ _, fun c hc =>
      (List.mem_cons.mp hc).elim (· ▸ by decide +kernel) (toDigits_mem_numChars 10 (by decide) (by decide) _ c)⟩
  · exact ⟨Nat.toDigits_ne_nil, toDigits_mem_numChars 10 (by decide) (by decide) _⟩

theorem zeroPadded_num (k n : Nat) : IsNum (List.replicate k '0' ++ Nat.toDigits 16 n) :=
  ⟨fun h => Nat.toDigits_ne_nil (List.append_eq_nil_iff.mp h).2, fun c hc =>
    (List.mem_append.mp hc).elim (fun h => (List.mem_replicate.mp h).2 ▸ by decide +kernel)
      (toDigits_mem_numChars 16 (by decide) (by decide) _ c)⟩

theorem hexPad_num (n : Nat) : IsNum (hexPad n) := zeroPadded_num _ n

theorem num_token_line {s : Str} (h : IsNum s) : splitOn ' ' s = [s] ∧ Spec.noLineBreak s :=
  ⟨splitOn_of_not_mem _ _ fun m => (numChars_plain _ (h.2 _ m)).1 rfl,
    (noLineBreak_iff s).mpr fun c hc => (numChars_plain c (h.2 c hc)).2⟩

end Pkgcore.C24
