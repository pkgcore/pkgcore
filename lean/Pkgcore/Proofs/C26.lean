import Pkgcore.Spec.C26
import Pkgcore.Proofs.Lib
/-!
The byte codecs come first.  Then the writer: `idxFrom` is the index `encodeLoop` produces and equals `Spec.index`, the
position written at lies inside the file (`startOf_le`), writes on a `Handle` concatenate (`write_before_pos`), and
`layout` is the segment laid down (`segment_eq_layout`).  Then the reader is run on `pre ++ layout idx dat` —
`checkMagic_layout`, `keysLoop_idx` with the expected entries `slotsFrom`, `getData_slots` — which gives
`items_segment`; last, reads through a shared file object.
-/
namespace Pkgcore.C26
open Pkgcore.Generated.C26

/-- the `dict` handed to `write_xpak` and returned by `items()`: keys and values in insertion order -/
abbrev Map := List (List Char × Val)

theorem magicPack_eq : Spec.magicPack = headerPre := by decide +kernel
theorem magicStop_eq : Spec.magicStop = trailerPre := by decide +kernel
theorem magicEnd_eq : Spec.magicEnd = trailerPost := by decide +kernel

theorem be32_length (n : Nat) : (be32 n).length = 4 := rfl

theorem rd32_be32 (n : Nat) (h : n < 4294967296) : rd32 (be32 n) = n := by
  have h1 := Nat.div_add_mod n 256
  have h2 := Nat.div_add_mod (n / 256) 256
  have h3 := Nat.div_add_mod (n / 256 / 256) 256
  have h4 : n / 256 / 256 / 256 < 256 := by
    rw [Nat.div_div_eq_div_mul, Nat.div_div_eq_div_mul]; exact Nat.div_lt_of_lt_mul h
  simp only [Nat.div_div_eq_div_mul, Nat.reduceMul] at h2 h3 h4
  simp only [be32, rd32, UInt8.toNat_ofNat', Nat.mod_eq_of_lt h4]
  -- with the quotients as variables the goal is linear in the four base-256 digits
  generalize n / 16777216 = a, n / 65536 = b, n / 256 = c at *
  omega

theorem u32_eq_be32 (n : Nat) : Spec.u32 n = be32 n := by
  have hmod : ∀ x, UInt8.ofNat (x % 256) = UInt8.ofNat x := fun _ => UInt8.ofNat_mod_size
  simp only [Spec.u32, be32, hmod, Nat.div_div_eq_div_mul, Nat.reduceMul]

theorem pack32_ok (n : Nat) (h : n < 4294967296) : pack32 n = .ok (be32 n) := by simp [pack32, h]

theorem encKey_eq (k : List Char) : encKey k = k.flatMap String.utf8EncodeChar := by
  simp [encKey, String.toUTF8, String.ofList, List.utf8Encode]

theorem utf8EncodeChar_ascii (c : Char) (h : c.toNat < 128) : String.utf8EncodeChar c = [UInt8.ofNat c.toNat] :=
  String.utf8EncodeChar_eq_singleton (Char.utf8Size_eq_one_iff.2 (by show c.toNat ≤ 127; omega))

theorem encKey_ascii (k : List Char) (h : Spec.asciiKey k) : encKey k = k.map fun c => UInt8.ofNat c.toNat := by
  rw [encKey_eq, List.map_eq_flatMap]
  exact Lib.flatMap_congr_left fun c hc => utf8EncodeChar_ascii c (h c hc)

theorem decAscii_encKey (k : List Char) (h : Spec.asciiKey k) : decAscii (encKey k) = some k := by
  rw [encKey_ascii k h]
  have h1 : (k.map fun c => UInt8.ofNat c.toNat).all (· < 128) = true := by
    simp only [List.all_map, List.all_eq_true]
    intro c hc
    have := h c hc
    simp only [Function.comp, decide_eq_true_eq, UInt8.lt_iff_toNat_lt, UInt8.toNat_ofNat']
    show c.toNat % 256 < 128
    omega
  simp only [decAscii, h1, if_true, List.map_map]
  congr 1
  conv => rhs; rw [← List.map_id k]
  apply List.map_congr_left
  intro c hc
  have := h c hc
  simp only [Function.comp, UInt8.toNat_ofNat', id]
  rw [Nat.mod_eq_of_lt (by omega)]
  exact Char.ofNat_toNat c

theorem decUtf8_raw (s : String) : decUtf8 (Val.text s).raw = some s := by
  have e : (⟨(Val.text s).raw.toArray⟩ : ByteArray) = s.toByteArray := by
    simp [Val.raw, String.toUTF8]
  unfold decUtf8
  rw [e]
  simp [String.fromUTF8?, s.isValidUTF8, String.fromUTF8]

/-- index records of `m` when the first value starts at data offset `cur` -/
def idxFrom : Map → Nat → Bytes
  | [], _ => []
  | (k, v) :: rest, cur =>
    be32 (encKey k).length ++ encKey k ++ be32 cur ++ be32 v.raw.length ++ idxFrom rest (cur + v.raw.length)

theorem idxFrom_length (m : Map) (c c' : Nat) : (idxFrom m c).length = (idxFrom m c').length := by
  induction m generalizing c c' with
  | nil => rfl
  | cons p r ih => simp [idxFrom, be32_length, ih (c + p.2.raw.length) (c' + p.2.raw.length)]

theorem length_le_idxFrom (m : Map) (c : Nat) : m.length ≤ (idxFrom m c).length := by
  induction m generalizing c with
  | nil => simp
  | cons p r ih =>
    have := ih (c + p.2.raw.length)
    simp only [idxFrom, List.length_append, be32_length, List.length_cons]; omega

theorem data_cons (p : List Char × Val) (r : Map) : Spec.data (p :: r) = p.2.raw ++ Spec.data r := rfl

theorem bound_cons (k : List Char) (v : Val) (r : Map) (cur : Nat)
    (h : (idxFrom ((k, v) :: r) cur).length + cur + (Spec.data ((k, v) :: r)).length < 4294967296) :
    (encKey k).length < 4294967296 ∧ cur < 4294967296 ∧ v.raw.length < 4294967296 ∧
      (idxFrom r (cur + v.raw.length)).length + (cur + v.raw.length) + (Spec.data r).length < 4294967296 := by
  simp only [idxFrom, data_cons, List.length_append, be32_length] at h
  omega

theorem encodeLoop_ok (m : Map) (cur : Nat)
    (h : (idxFrom m cur).length + cur + (Spec.data m).length < 4294967296) :
    encodeLoop m cur = .ok (idxFrom m cur, Spec.data m) := by
  induction m generalizing cur with
  | nil => rfl
  | cons p r ih =>
    obtain ⟨k, v⟩ := p
    obtain ⟨h1, h2, h3, hr⟩ := bound_cons k v r cur h
    simp only [encodeLoop, pack32_ok _ h1, pack32_ok _ h2, pack32_ok _ h3, ih _ hr,
      idxFrom, data_cons, bind, Except.bind, pure, Except.pure, List.append_assoc]

theorem spec_index_eq (m : Map) : Spec.index m = idxFrom m 0 := by
  -- `Spec.offsetOf` looks at the whole mapping, so the induction carries the part `done` already passed
  have aux (done rest : Map) :
      ((rest.zipIdx done.length).map fun x => Spec.indexRecord (done ++ rest) x.2 x.1).flatten
        = idxFrom rest ((done.map fun p => p.2.raw.length).sum) := by
    induction rest generalizing done with
    | nil => rfl
    | cons p r ih =>
      obtain ⟨k, v⟩ := p
      have e : done ++ (k, v) :: r = (done ++ [(k, v)]) ++ r := by simp
      have ih' := ih (done ++ [(k, v)])
      simp only [List.length_append, List.length_singleton, List.map_append, List.sum_append, List.map_cons,
        List.map_nil, List.sum_cons, List.sum_nil, Nat.add_zero] at ih'
      rw [← e] at ih'
      simp only [List.zipIdx_cons, List.map_cons, List.flatten_cons, ih', idxFrom]
      simp only [Spec.indexRecord, Spec.offsetOf, List.take_left' rfl, u32_eq_be32, List.append_assoc]
  simpa [Spec.index] using aux [] m

/-- `Spec.Dom.fits` over `idxFrom`; at `cur = 0` it implies the bound the loops carry (hypothesis of `bound_cons`) -/
theorem fits_bound (m : Map) (h : (Spec.index m).length + (Spec.data m).length + 24 < 4294967296) :
    (idxFrom m 0).length + (Spec.data m).length + 24 < 4294967296 := by
  rwa [spec_index_eq] at h

/-- `checkMagic` is five guards in front of one result whose start is `f.length - _` -/
theorem checkMagic_start_le (f : Bytes) (t : Nat × Nat × Nat) (hc : checkMagic f = .ok t) : t.1 ≤ f.length := by
  cases (Lib.ite_error_eq_ok (Lib.ite_error_eq_ok (Lib.ite_error_eq_ok (Lib.ite_error_eq_ok
    (Lib.ite_error_eq_ok hc).2).2).2).2).2
  exact Nat.sub_le _ _

theorem startOf_le (f : Bytes) (s : Nat) (hs : startOf f = .ok s) : s ≤ f.length := by
  unfold startOf at hs
  split at hs
  · cases hc : checkMagic f with
    | error e => simp [hc, Except.map] at hs
    | ok t =>
      simp only [hc, Except.map, Except.ok.injEq] at hs
      exact hs ▸ checkMagic_start_le f t hc
  · simp only [Except.ok.injEq] at hs; omega
  · simp only [Except.ok.injEq] at hs; omega
  · cases hs

theorem write_before_pos (h : Handle) (b : Bytes) (hp : h.pos ≤ h.content.length) :
    (h.write b).content.take (h.write b).pos = h.content.take h.pos ++ b ∧
    (h.write b).pos ≤ (h.write b).content.length := by
  have e : h.pos - h.content.length = 0 := by omega
  simp only [Handle.write, e, List.replicate_zero, List.append_nil]
  constructor
  · apply List.take_left'
    simp [List.length_take]; omega
  · simp [List.length_take]; omega

theorem truncate_content (h : Handle) (hp : h.pos ≤ h.content.length) :
    h.truncate.content = h.content.take h.pos := by
  have e : h.pos - h.content.length = 0 := by omega
  simp [Handle.truncate, e]

theorem write_sequence (f : Bytes) (start : Nat) (a b c : Bytes) (hs : start ≤ f.length) :
    ((((Handle.mk f 0).seek start).write a).write b |>.write c).truncate.content = f.take start ++ a ++ b ++ c := by
  let h0 := (Handle.mk f 0).seek start
  have p0 : h0.pos ≤ h0.content.length := hs
  have ⟨t1, p1⟩ := write_before_pos h0 a p0
  have ⟨t2, p2⟩ := write_before_pos (h0.write a) b p1
  have ⟨t3, p3⟩ := write_before_pos ((h0.write a).write b) c p2
  rw [truncate_content _ p3, t3, t2, t1]
  rfl

/-- the 16-byte header `write_xpak` packs: magic, index length, data length -/
def header (il dl : Nat) : Bytes := headerPre ++ (be32 il ++ be32 dl)
/-- the 16-byte trailer for an index and data of `n` bytes together: magic, offset back to the header, magic -/
def trailer (n : Nat) : Bytes := trailerPre ++ (be32 (n + 24) ++ trailerPost)

/-- the bytes `write_xpak` lays down for index `idx` and data `dat`; nested to the right, unlike `Spec.segment`,
so that the reader peels field after field (`List.take_left'`) -/
def layout (idx dat : Bytes) : Bytes :=
  header idx.length dat.length ++ (idx ++ (dat ++ trailer (idx.length + dat.length)))

theorem headerPre_length : headerPre.length = 8 := rfl
theorem trailerPre_length : trailerPre.length = 8 := rfl
theorem trailerPost_length : trailerPost.length = 4 := rfl
theorem header_length (il dl : Nat) : (header il dl).length = 16 := rfl
theorem trailer_length (n : Nat) : (trailer n).length = 16 := rfl

theorem layout_length (idx dat : Bytes) : (layout idx dat).length = idx.length + dat.length + 32 := by
  simp only [layout, List.length_append, header_length, trailer_length]; omega

theorem drop_layout (pre idx dat : Bytes) :
    (pre ++ layout idx dat).drop (pre.length + 16) = idx ++ (dat ++ trailer (idx.length + dat.length)) := by
  rw [← List.drop_drop, List.drop_left' rfl, layout, List.drop_left' (header_length _ _)]

theorem segment_eq_layout (m : Map) : Spec.segment m = layout (idxFrom m 0) (Spec.data m) := by
  simp [Spec.segment, layout, header, trailer, spec_index_eq, magicPack_eq, magicStop_eq, magicEnd_eq,
    u32_eq_be32]

theorem take_drop_fields (a b c : Bytes) {i j : Nat} (ha : a.length = i) (hb : b.length = j) :
    (a ++ (b ++ c)).take i = a ∧ ((a ++ (b ++ c)).drop i).take j = b ∧ (a ++ (b ++ c)).drop (i + j) = c :=
  ⟨List.take_left' ha, by rw [List.drop_left' ha]; exact List.take_left' hb,
    by rw [← List.drop_drop, List.drop_left' ha, List.drop_left' hb]⟩

theorem checkMagic_layout (pre idx dat : Bytes) (h : idx.length + dat.length + 24 < 4294967296) :
    checkMagic (pre ++ layout idx dat) = .ok (pre.length, idx.length, dat.length) := by
  -- the last 16 bytes are the trailer (`htr`), whose offset field leads back to `pre.length` (`hst`), where the header
  -- lies (`hhd`); the three `if_neg` are the guards "file too short", "wrong magic", "offset before the start"
  obtain ⟨t8, t4, t12⟩ :=
    take_drop_fields trailerPre (be32 (idx.length + dat.length + 24)) trailerPost (i := 8) (j := 4) rfl rfl
  obtain ⟨h8, h4, h12⟩ :=
    take_drop_fields headerPre (be32 idx.length) (be32 dat.length) (i := 8) (j := 4) rfl rfl
  have hlen : (pre ++ layout idx dat).length = pre.length + 16 + idx.length + dat.length + 16 := by
    rw [List.length_append, layout_length]; omega
  have htr : (pre ++ layout idx dat).drop (pre.length + 16 + idx.length + dat.length)
      = trailer (idx.length + dat.length) := by
    rw [← List.drop_drop, ← List.drop_drop, drop_layout, List.drop_left' rfl, List.drop_left' rfl]
  have hhd : ((pre ++ layout idx dat).drop pre.length).take 16 = header idx.length dat.length := by
    rw [List.drop_left' rfl]; exact List.take_left' rfl
  have hst : pre.length + 16 + idx.length + dat.length + 16 - (idx.length + dat.length + 24 + 8) = pre.length := by
    omega
  unfold checkMagic
  simp only [trailerSize, headerSize, hlen, Nat.add_sub_cancel, htr, trailer, t8, t4, t12, rd32_be32 _ h]
  rw [if_neg (by omega), if_neg (by simp), if_neg (by omega)]
  simp only [hst, hhd, header_length, Nat.lt_irrefl, if_false]
  simp only [header, h8, h4, h12, ne_eq, not_true_eq_false, if_false,
    rd32_be32 _ (show idx.length < 4294967296 by omega), rd32_be32 _ (show dat.length < 4294967296 by omega)]

/-- the `keys_dict` entries the loop must produce for `m` (data block at `ds`, first value at `cur`) -/
def slotsFrom (ds : Nat) : Map → Nat → List (List Char × Slot)
  | [], _ => []
  | (k, v) :: rest, cur =>
    (rewriteKey k, (ds + cur, v.raw.length, !isEnvKey (rewriteKey k))) :: slotsFrom ds rest (cur + v.raw.length)

theorem slotsFrom_keys (ds : Nat) (m : Map) (cur : Nat) :
    (slotsFrom ds m cur).map (·.1) = m.map (rewriteKey ·.1) := by
  induction m generalizing cur with
  | nil => rfl
  | cons p r ih => exact congrArg (_ :: ·) (ih _)

theorem be32_pair (a b : Nat) (r : Bytes) :
    (be32 a ++ (be32 b ++ r)).take 8 = be32 a ++ be32 b ∧ (be32 a ++ (be32 b ++ r)).drop 8 = r := by
  rw [← List.append_assoc]; exact ⟨List.take_left' rfl, List.drop_left' rfl⟩

theorem keysLoop_idx (m : Map) (cur fuel ds : Nat) (tail : Bytes) (acc : List (List Char × Slot))
    (hb : (idxFrom m cur).length + cur + (Spec.data m).length < 4294967296)
    (ha : ∀ p ∈ m, Spec.asciiKey p.1) (hf : m.length ≤ fuel) :
    keysLoop fuel (idxFrom m cur ++ tail) (idxFrom m cur).length ds acc
      = .ok ((slotsFrom ds m cur).foldl (fun a p => odSet a p.1 p.2) acc) := by
  induction m generalizing cur fuel acc with
  | nil => cases fuel <;> rfl
  | cons p r ih =>
    obtain ⟨k, v⟩ := p
    obtain ⟨h1, h2, h3, hr⟩ := bound_cons k v r cur hb
    cases fuel with
    | zero => cases hf
    | succ fuel =>
      have hlen : (idxFrom ((k, v) :: r) cur).length
          = (idxFrom r (cur + v.raw.length)).length + ((encKey k).length + 12) := by
        simp only [idxFrom, List.length_append, be32_length]; omega
      have h12 : 12 + (encKey k).length = 4 + (encKey k).length + 8 := by omega
      rw [keysLoop, hlen, if_neg (by omega), Int.natCast_add]
      -- one record: key length, key, offset and data length, each cut at its offset and decoded
      -- (`h12`: the third's offset, bracketed as `← List.drop_drop` is to split it)
      simp only [idxFrom, List.append_assoc, h12, ← List.drop_drop, List.take_left' (be32_length _),
        List.drop_left' (be32_length _), List.take_left, List.drop_left, be32_length, Nat.lt_irrefl, if_false,
        rd32_be32 _ h1, decAscii_encKey k (ha _ List.mem_cons_self),
        ne_eq, not_true_eq_false, be32_pair, List.length_append, Nat.reduceAdd,
        rd32_be32 _ h2, rd32_be32 _ h3]
      rw [Int.add_sub_cancel, ih _ _ _ hr (fun p hp => ha p (List.mem_cons_of_mem _ hp))
        (Nat.le_of_succ_le_succ hf)]
      rfl

theorem keysDict_layout (pre : Bytes) (m : Map) (hb : (idxFrom m 0).length + (Spec.data m).length + 24 < 4294967296)
    (ha : ∀ p ∈ m, Spec.asciiKey p.1) :
    keysDict (pre ++ layout (idxFrom m 0) (Spec.data m))
      = .ok ((slotsFrom (pre.length + 16 + (idxFrom m 0).length) m 0).foldl (fun a p => odSet a p.1 p.2) []) := by
  unfold keysDict
  rw [checkMagic_layout pre _ _ hb]
  simp only [headerSize, drop_layout]
  refine keysLoop_idx m 0 _ _ _ [] (by omega) ha ?_
  have := length_le_idxFrom m 0
  rw [List.length_append, layout_length]
  omega

theorem odSet_eq_putBy (d : List (List Char × Slot)) (k : List Char) (v : Slot) :
    odSet d k v = Lib.putBy Prod.fst d (k, v) := rfl

theorem foldl_odSet_nodup (l acc : List (List Char × Slot)) (h : ((acc ++ l).map (·.1)).Nodup) :
    l.foldl (fun a p => odSet a p.1 p.2) acc = acc ++ l :=
  Lib.foldl_fresh Prod.fst (fun d p hp => (odSet_eq_putBy d p.1 p.2).trans (Lib.putBy_fresh Prod.fst d p hp)) l acc h

/-- what reading returns for a stored mapping -/
def readBack (m : Map) : Map := Spec.expected (m.map fun p => (rewriteKey p.1, p.2))

/-- no key of `m` is touched by `Xpak._reading_key_rewrites` (with the pinned table: no key is `repo`) -/
def NotRewritten (m : Map) : Prop := ∀ p ∈ m, rewriteKey p.1 = p.1

theorem readBack_eq (m : Map) (hn : NotRewritten m) : readBack m = Spec.expected m := by
  rw [readBack, List.map_congr_left (g := id) fun p hp => congrArg (·, p.2) (hn p hp), List.map_id]

theorem getData_slots (f : Bytes) (ds : Nat) (m : Map) (cur : Nat) (tail : Bytes)
    (hf : f.drop (ds + cur) = Spec.data m ++ tail)
    (ht : ∀ p ∈ m, isEnvKey (rewriteKey p.1) = false → ∃ s, p.2 = .text s) :
    (slotsFrom ds m cur).mapM (fun (k, s) => (getData f s).map fun v => (k, v)) = .ok (readBack m) := by
  induction m generalizing cur with
  | nil => rfl
  | cons p r ih =>
    obtain ⟨k, v⟩ := p
    have hslice : (f.drop (ds + cur)).take v.raw.length = v.raw := by
      rw [hf, data_cons, List.append_assoc]; exact List.take_left' rfl
    have hget : getData f (ds + cur, v.raw.length, !isEnvKey (rewriteKey k))
        = .ok (Spec.expectedVal (rewriteKey k) v) := by
      unfold getData
      simp only [hslice, ne_eq, not_true_eq_false, if_false]
      cases he : isEnvKey (rewriteKey k) with
      | true => simp [Spec.expectedVal, he]
      | false =>
        obtain ⟨s, rfl⟩ : ∃ s, v = .text s := ht (k, v) List.mem_cons_self he
        simp [Spec.expectedVal, he, decUtf8_raw]
    simp only [slotsFrom, List.mapM_cons, hget,
      ih (cur + v.raw.length)
        (by rw [← Nat.add_assoc, ← List.drop_drop, hf, data_cons, List.append_assoc, List.drop_left' rfl])
        (fun p hp => ht p (List.mem_cons_of_mem _ hp))]
    rfl

theorem items_segment (pre : Bytes) (m : Map) (hfit : (Spec.index m).length + (Spec.data m).length + 24 < 4294967296)
    (ha : ∀ p ∈ m, Spec.asciiKey p.1) (hd : (m.map (rewriteKey ·.1)).Nodup)
    (ht : ∀ p ∈ m, isEnvKey (rewriteKey p.1) = false → ∃ s, p.2 = .text s) :
    items (pre ++ Spec.segment m) = .ok (readBack m) := by
  unfold items
  rw [segment_eq_layout, keysDict_layout pre m (fits_bound m hfit) ha,
    foldl_odSet_nodup _ [] (by simpa [slotsFrom_keys] using hd), List.nil_append]
  refine getData_slots _ _ m 0 (trailer ((idxFrom m 0).length + (Spec.data m).length)) ?_ ht
  rw [Nat.add_zero, ← List.drop_drop, drop_layout, List.drop_left' rfl]

theorem getDataFd_eq (f : Bytes) (p : Nat) (s : Slot) :
    getDataFd ⟨f, p⟩ s = (getData f s, ⟨f, s.1 + ((f.drop s.1).take s.2.1).length⟩) := by
  have e : (if p ≠ s.1 then ({ content := f, pos := s.1 } : RFd) else ⟨f, p⟩) = ⟨f, s.1⟩ := by
    split
    · rfl
    · rename_i h; rw [Decidable.not_not.mp h]
  unfold getDataFd getData
  simp only [e]
  split
  · rfl
  · split
    · split <;> rfl
    · rfl

theorem keysDict_reads_listed (f : Bytes) (d : List (List Char × Slot)) (l : Map) (hk : keysDict f = .ok d)
    (hit : items f = .ok l) : ∀ ks ∈ d, ∃ v, getData f ks.2 = .ok v ∧ (ks.1, v) ∈ l := by
  unfold items at hit
  rw [hk] at hit
  intro ks hks
  obtain ⟨b, hm, hb⟩ := List.mem_map.1 (Lib.map_of_mapM_ok hit ▸ List.mem_map_of_mem hks)
  cases hg : getData f ks.2 with
  | error e => simp [hg, Except.map] at hb
  | ok v =>
    simp only [hg, Except.map, Except.ok.injEq] at hb
    subst hb
    exact ⟨v, rfl, hm⟩

end Pkgcore.C26
