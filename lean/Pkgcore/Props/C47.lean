import Pkgcore.Proofs.C47
/-!
# C47 — tarball sync: old or new, never neither; a failed sync changes nothing; the next sync completes

`syncOps st repo d u files etag modified` is the list of operations one `tar_syncer.sync()` performs on the
repos directory `st`, for a download outcome `d`, an unpack outcome `u`, the files of the tarball and the
optional ETag / Last-Modified values; crash points are the elements of `states` (= prefixes); `treeAt s repo` is
what a reader finds at the repository path.
-/
namespace Pkgcore.C47
open Pkgcore.C29 Pkgcore.C47.Spec

/- Full statement (FALSE for every repository that already exists, see `sync_gap`):
   `OldOrNew (syncOps st repo .ok .ok files etag modified) st repo (content (extracted files))`. -/

/-- **a successful sync shows the old tree, the new tree, or — only between its two renames — no
repository path at all** (partial; open finding `C47-tar-sync-gap`); the finished sync shows the new tree. -/
theorem sync_old_or_new_partial (st : Store) (repo : Name) (X files : List (Name × Content)) (etag modified : Option Content)
    (hr : st repo = some (.dir X)) (hnf : NoFiles st repo) :
    OldGapOrNew (syncOps st repo .ok .ok files etag modified) st repo (content (extracted files)) :=
  (sync_ok_no_recover st repo files etag modified (recover_nil_of_some st repo _ hr) hnf).1

/-- the full statement is false whenever a repository exists: some crash point has no repository path -/
theorem sync_gap (st : Store) (repo : Name) (X files : List (Name × Content)) (etag modified : Option Content)
    (hr : st repo = some (.dir X)) (hnf : NoFiles st repo) :
    ∃ s ∈ states (syncOps st repo .ok .ok files etag modified) st, s repo = none :=
  (sync_ok_no_recover st repo files etag modified (recover_nil_of_some st repo _ hr) hnf).2.1

/-- **the first sync of a repository is atomic**: nothing, then the complete new tree -/
theorem first_sync_old_or_new (st : Store) (repo : Name) (files : List (Name × Content)) (etag modified : Option Content)
    (hr : st repo = none) (hrec : recoverOps st repo = []) (hnf : NoFiles st repo) :
    OldOrNew (syncOps st repo .ok .ok files etag modified) st repo (content (extracted files)) := by
  obtain ⟨h1, h2⟩ := (sync_ok_no_recover st repo files etag modified hrec hnf).1
  have h0 : treeAt st repo = [] := by simp [treeAt, hr]
  refine ⟨fun s hs => ?_, h2⟩
  rcases h1 s hs with h | h | h
  · exact Or.inl h
  · exact Or.inl (by rw [h0]; simp [treeAt, h])
  · exact Or.inr h

/-- **a failed download or unpack leaves the previous tree untouched** — unreachable server, unchanged
content, connection lost while reading, tar failing after any number of files: at every crash point and at
the end the reader sees exactly the old tree -/
theorem failed_sync_keeps_old (st : Store) (repo : Name) (X : List (Name × Content)) (d : Download) (u : Unpack)
    (files : List (Name × Content)) (etag modified : Option Content)
    (hr : st repo = some (.dir X)) (hnf : NoFiles st repo) (hfail : d ≠ .ok ∨ ∃ k, u = .fails k) :
    Untouched (syncOps st repo d u files etag modified) st repo ∧
    treeAt (run (syncOps st repo d u files etag modified) st) repo = content X := by
  have h := failed_no_recover st repo d u files etag modified (recover_nil_of_some st repo _ hr) hnf hfail
  exact ⟨h, by rw [h _ (run_mem_states _ _)]; exact treeAt_dir st repo X hr⟩

/-- **the next sync completes**, from *any* state of the repos directory — leftovers of interrupted or failed
runs in `.repo.update` / `.repo.old`, missing repository path, anything but regular files in the way: it ends
with the complete new tree in place and no staging directory left -/
theorem next_sync_completes (st : Store) (repo : Name) (files : List (Name × Content)) (etag modified : Option Content)
    (hnf : NoFiles st repo) :
    treeAt (run (syncOps st repo .ok .ok files etag modified) st) repo = content (extracted files) ∧
    run (syncOps st repo .ok .ok files etag modified) st (updOf repo) = none := by
  rcases recover_cases st repo with hrec | ⟨p, fs, hr, ho⟩
  · have h := sync_ok_no_recover st repo files etag modified hrec hnf
    exact ⟨h.1.2, h.2.2⟩
  · rw [syncOps_recover st repo p fs hr ho, run_cons]
    have h := sync_ok_no_recover _ repo files etag modified
      (recover_nil_of_some _ repo _ (recover_repo st repo p fs hr ho)) (recover_noFiles st repo p fs hr ho hnf.2.1)
    exact ⟨h.1.2, h.2.2⟩

/-- **after an interruption in the gap the old tree comes back first**: when the repository path is missing
and `.repo.old` holds a tree, the first operation of the next sync — whatever its outcome — restores that
tree, and if that sync then fails the restored tree stays -/
theorem interrupted_sync_recovers (s : Store) (repo : Name) (p : Name × Content) (fs : List (Name × Content))
    (hr : s repo = none) (ho : s (oldOf repo) = some (.dir (p :: fs))) (hu : ∀ c, s (updOf repo) ≠ some (.file c))
    (d : Download) (u : Unpack) (files : List (Name × Content)) (etag modified : Option Content) :
    (∃ rest, syncOps s repo d u files etag modified = .rename (oldOf repo) repo :: rest) ∧
    treeAt (step s (.rename (oldOf repo) repo)) repo = content (p :: fs) ∧
    ((d ≠ .ok ∨ ∃ k, u = .fails k) →
      treeAt (run (syncOps s repo d u files etag modified) s) repo = content (p :: fs)) := by
  have h1 := treeAt_dir _ repo _ (recover_repo s repo p fs hr ho)
  refine ⟨⟨_, syncOps_recover s repo p fs hr ho d u files etag modified⟩, h1, fun hfail => ?_⟩
  rw [syncOps_recover s repo p fs hr ho, run_cons]
  have := failed_no_recover _ repo d u files etag modified
    (recover_nil_of_some _ repo _ (recover_repo s repo p fs hr ho)) (recover_noFiles s repo p fs hr ho hu) hfail
  rw [this _ (run_mem_states _ _)]
  exact h1

/-- the tree that becomes visible is exactly the tarball's file list (distinct paths, no bookkeeping names) -/
theorem new_tree_is_the_tarball (files : List (Name × Content)) (hd : (files.map (·.1)).Nodup)
    (hb : ∀ p ∈ files, p.1 ∉ bookkeeping) : content (extracted files) = files := by
  rw [extracted_of_nodup files hd]
  unfold content
  rw [List.filter_eq_self]
  intro p hp
  simpa using hb p hp

def exRepos : Store := fun n =>
  if n = ['r'] then some (.dir [(['a'], ['1']), (bookkeeping[0], ['e'])])
  else if n = oldOf ['r'] then some (.dir [(['z'], ['0'])])          -- leftover of an earlier run
  else none

example : NoFiles exRepos ['r'] := by
  refine ⟨?_, ?_, ?_⟩ <;> intro c h <;> simp [exRepos, updOf, oldOf] at h

example : treeAt (run (syncOps exRepos ['r'] .ok .ok [(['a'], ['2']), (['b'], ['3'])] (some ['E']) none) exRepos) ['r']
    = [(['a'], ['2']), (['b'], ['3'])] := by decide +kernel

/-- the gap on the example: after 7 of the operations there is no repository path, between the old tree and the new -/
theorem sync_gap_counterexample :
    let ops := syncOps exRepos ['r'] .ok .ok [(['a'], ['2'])] none none
    (run (ops.take 7) exRepos) ['r'] = none ∧ treeAt exRepos ['r'] = [(['a'], ['1'])] ∧
    treeAt (run ops exRepos) ['r'] = [(['a'], ['2'])] := by decide +kernel

/-- before the `fix:` commit a leftover staging directory made the sync stop at `os.makedirs`: the tree stays
the old one although the download and the tarball were fine; the repaired routine installs the new tree -/
theorem unfixed_sync_stuck_counterexample :
    treeAt (run (syncUnfixed exRepos ['r'] [(['a'], ['2'])]) exRepos) ['r'] = [(['a'], ['1'])] ∧
    treeAt (run (syncOps exRepos ['r'] .ok .ok [(['a'], ['2'])] none none) exRepos) ['r'] = [(['a'], ['2'])] := by
  decide +kernel

end Pkgcore.C47
