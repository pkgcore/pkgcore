import Pkgcore.Proofs.C36
/-!
# C36 — fetching returns only verified files and uses every allowed attempt

`fetch t n f outs` mirrors `pkgcore.fetch.custom.fetcher.fetch` with `attempts = n`, `f` the file initially at
`distdir/filename` and `outs` the behaviour of the external fetch command for each URI in turn (any file state,
any exit status).  All theorems hold for every target, every attempt budget, every initial file and every
outcome sequence of any length.  `Chained` and `lastLeft` are defined in `Proofs/C36.lean`.
-/
namespace Pkgcore.C36
open Pkgcore.C36.Spec

/-- **a path is returned only for a verified file**: the file then at the path has the stated size and
every stated checksum, is not a wrong-checksum file, and is the file that was there initially or the
one some run of the fetch command left. -/
theorem fetch_returns_only_verified (t : Target) (n : Nat) (f : File) (outs : List Outcome)
    (h : (fetch t n f outs).result = .returned) :
    Verified t (fetch t n f outs).final = true ∧ Wrong t (fetch t n f outs).final = false ∧
      ((fetch t n f outs).final = f ∨ ∃ o ∈ outs, (fetch t n f outs).final = o.file) := by
  obtain ⟨hv, hl⟩ := (fetch_spec t n f outs).returned h
  refine ⟨((verify_spec _ _).ok.1 hv).1, ?_,
    hl.imp And.right fun ⟨s, _, hm, he, hf⟩ => ⟨s.out, hm, he.trans hf⟩⟩
  cases hw : Wrong t (fetch t n f outs).final with
  | false => rfl
  | true => rw [(verify_spec _ _).chksum.2 hw] at hv; cases hv

example : (fetch ⟨some 5, true⟩ 1 .missing [⟨.present 5 true, false⟩]).result = .returned := by decide +kernel

/-- **… and the returned file is one an attempt really "left"**, also for targets that state no size or no
checksum at all (where `Verified` alone says little): the file at the returned path is never empty unless a
size of 0 is stated, and it is either the initial file — then no fetch command was run — or the file written
by the *last* executed run, and that outcome is `Acceptable` (for a target without checksums: the run exited
0).  So the loop stops early only on an acceptable file; it never hands out a file that `_verify` rejects. -/
theorem fetch_returned_file_acceptable (t : Target) (n : Nat) (f : File) (outs : List Outcome)
    (h : (fetch t n f outs).result = .returned) :
    (t.size.isSome = true ∨ File.nonEmpty (fetch t n f outs).final = true) ∧
    (((fetch t n f outs).steps = [] ∧ (fetch t n f outs).final = f ∧ Acceptable t ⟨f, true⟩ = true) ∨
      ∃ s, (fetch t n f outs).steps.getLast? = some s ∧ (fetch t n f outs).final = s.out.file ∧
        Acceptable t s.out = true) := by
  obtain ⟨hv, hl⟩ := (fetch_spec t n f outs).returned h
  refine ⟨((verify_spec _ _).ok.1 hv).2, ?_⟩
  rcases hl with ⟨h0, he⟩ | ⟨s, hs, -, he, hf⟩ <;> rw [he] at hv ⊢
  · exact Or.inl ⟨h0, rfl, (verify_ok_iff_acceptable t f).1 hv⟩
  · exact Or.inr ⟨s, hs, hf, (verify_left_ok_iff t s.out).1 hv⟩

example : (fetch ⟨none, false⟩ 3 .missing [⟨.present 0 true, true⟩, ⟨.present 7 true, true⟩]).result = .returned ∧
    (fetch ⟨none, false⟩ 3 .missing [⟨.present 0 true, true⟩, ⟨.present 7 true, true⟩]).final = .present 7 true := by
  decide +kernel

/-- **a fetch returns whenever some attempt leaves a verified file** — also the very last allowed one
(this is what failed before the `fix:` commit), also when the fetch command exits non-zero
(checksums are trusted, not the exit status), also when the file was already there. -/
theorem fetch_returns_if_any_attempt_correct (t : Target) (n : Nat) (f : File) (outs : List Outcome)
    (h : Acceptable t ⟨f, true⟩ = true ∨ ∃ s ∈ (fetch t n f outs).steps, Acceptable t s.out = true) :
    (fetch t n f outs).result = .returned := by
  rcases h with h | h
  · exact fetch_of_verify_ok t n f outs ((verify_ok_iff_acceptable t f).2 h)
  · obtain ⟨s, hs, ha⟩ := h
    have hv : verify t s.left = .ok := by
      rw [((fetch_spec t n f outs).step s hs).left]; exact (verify_left_ok_iff t s.out).2 ha
    rw [(fetch_spec t n f outs).decisive s hs (Or.inl hv), hv]; rfl

example : ∃ s ∈ (fetch ⟨some 5, true⟩ 3 (.present 2 false)
      [⟨.present 4 false, true⟩, ⟨.missing, false⟩, ⟨.present 5 true, false⟩, ⟨.missing, true⟩]).steps,
    Acceptable ⟨some 5, true⟩ s.out = true :=
  ⟨⟨.missing, .missing, .fresh, ⟨.present 5 true, false⟩, .present 5 true⟩, by decide +kernel,
    by decide +kernel⟩

/-- **exact characterisation** in terms of the inputs alone: among the initial file and the results of
the first `min n outs.length` runs, the fetch returns iff some state is acceptable and no earlier state
is a wrong-checksum file (where the code deliberately gives up with `ChksumFailure`). -/
theorem fetch_returns_iff (t : Target) (n : Nat) (f : File) (outs : List Outcome) :
    (fetch t n f outs).result = .returned ↔ specReturns t n f outs = true :=
  fetch_returned_iff t n ⟨f, true⟩ outs

theorem fetch_returns_iff_exists (t : Target) (n : Nat) (f : File) (outs : List Outcome) :
    (fetch t n f outs).result = .returned ↔
      ∃ k, ∃ h : k < ((⟨f, true⟩ : Outcome) :: outs.take n).length,
        Acceptable t (((⟨f, true⟩ : Outcome) :: outs.take n)[k]) = true ∧
        ∀ j, ∀ hj : j < k, Wrong t ((((⟨f, true⟩ : Outcome) :: outs.take n)[j]'(by omega)).file) = false := by
  rw [fetch_returns_iff, specReturns, firstDecisive_iff]

/-- **every allowed attempt is used**: a fetch gives up with a "not there / too small / empty" failure
only after `n` runs of the fetch command, and with "ran out of urls" only after one run per URI; it never
runs the command more than `n` times, and the runs consume the URIs (outcomes) in order. -/
theorem fetch_uses_every_attempt (t : Target) (n : Nat) (f : File) (outs : List Outcome) :
    let r := fetch t n f outs
    (r.result = .missing ∨ r.result = .tooSmall ∨ r.result = .empty → r.steps.length = n) ∧
    (r.result = .outOfUris → r.steps.length = outs.length ∧ r.steps.length < n) ∧
    r.steps.length ≤ n ∧ r.steps.map (·.out) = outs.take r.steps.length ∧ Chained f r.steps := by
  have hr := fetch_spec t n f outs
  exact ⟨hr.spent, fun h => ⟨(hr.dry h).1, (hr.dry h).2.1⟩, hr.le, hr.inOrder, hr.chained⟩

example : (fetch ⟨some 5, true⟩ 2 .missing [⟨.missing, true⟩, ⟨.present 3 false, true⟩, ⟨.present 5 true, true⟩]).result
    = .tooSmall := by decide +kernel
example : (fetch ⟨some 5, true⟩ 4 .missing [⟨.missing, true⟩]).result = .outOfUris := by decide +kernel

/-- **resumable partial files are kept for the resume command**: a file shorter than the stated size is
handed untouched to the *resume* command, the resume command is used for nothing else, and the only file
the loop ever removes before a run is an empty one whose size is not stated. -/
theorem partial_kept_for_resume (t : Target) (n : Nat) (f : File) (outs : List Outcome) :
    ∀ s ∈ (fetch t n f outs).steps,
      (Partial t s.seen = true → s.handed = s.seen ∧ s.cmd = .resume) ∧
      (s.cmd = .resume → Partial t s.seen = true) ∧
      (s.handed ≠ s.seen → t.size = none ∧ s.handed = .missing ∧ ∃ ok, s.seen = .present 0 ok) := by
  intro s hs
  obtain ⟨hh, hc, -, -⟩ := (fetch_spec t n f outs).step s hs
  refine ⟨fun hp => ?_, fun hr => ?_, fun hne => ?_⟩
  · have := (verify_spec t s.seen).tooSmall.2 hp
    rw [hh, hc, this]; simp [handedOf, cmdOf]
  · rw [hc] at hr
    by_cases hv : verify t s.seen = .tooSmall
    · exact (verify_spec _ _).tooSmall.1 hv
    · simp [cmdOf, hv] at hr
  · rw [hh] at hne ⊢
    by_cases hv : verify t s.seen = .empty
    · obtain ⟨h1, h2⟩ := (verify_spec _ _).empty.1 hv
      exact ⟨h1, by simp [handedOf, hv], h2⟩
    · simp [handedOf, hv] at hne

example : (fetch ⟨some 5, true⟩ 2 (.present 2 false) [⟨.present 5 true, true⟩]).steps
    = [⟨.present 2 false, .present 2 false, .resume, ⟨.present 5 true, true⟩, .present 5 true⟩] := by decide +kernel

/-- … and when checksums are stated, whatever the fetch command leaves is never removed by the loop,
so a partial file that remains when the fetch fails is still in place afterwards. -/
theorem partial_survives_failed_fetch (t : Target) (n : Nat) (f : File) (outs : List Outcome) :
    (t.noChksums = false → ∀ s ∈ (fetch t n f outs).steps, s.left = s.out.file) ∧
    (Partial t (lastLeft f (fetch t n f outs).steps) = true →
      (fetch t n f outs).final = lastLeft f (fetch t n f outs).steps ∧
      ((fetch t n f outs).result = .tooSmall ∨ (fetch t n f outs).result = .outOfUris)) := by
  refine ⟨fun hn s hs => ?_, fun hp => ?_⟩
  · rw [((fetch_spec t n f outs).step s hs).left]; simp [leftOf, hn]
  · have hv := (verify_spec _ _).tooSmall.2 hp
    have hr := fetch_spec t n f outs
    by_cases ho : (fetch t n f outs).result = .outOfUris
    · exact ⟨by rw [(hr.dry ho).2.2.1, hv]; simp [handedOf], Or.inr ho⟩
    · exact ⟨(hr.ended ho).2, Or.inl (by rw [(hr.ended ho).1, hv]; rfl)⟩

example : Partial ⟨some 5, true⟩ (lastLeft .missing
    (fetch ⟨some 5, true⟩ 1 .missing [⟨.present 3 false, false⟩]).steps) = true := by decide +kernel

/-- **a file with a wrong checksum is never reported as fetched**: whenever the initial file or the file
left by an executed run is oversized or fails a stated checksum, the fetch ends with `ChksumFailure`. -/
theorem wrong_checksum_never_reported (t : Target) (n : Nat) (f : File) (outs : List Outcome)
    (h : Wrong t f = true ∨ ∃ s ∈ (fetch t n f outs).steps, Wrong t s.out.file = true) :
    (fetch t n f outs).result = .chksum := by
  rcases h with h | h
  · exact fetch_of_verify_chksum t n f outs ((verify_spec _ _).chksum.2 h)
  · obtain ⟨s, hs, hw⟩ := h
    have hv : verify t s.left = .chksum := by
      rw [((fetch_spec t n f outs).step s hs).left]; exact (verify_left_chksum_iff t s.out).2 hw
    rw [(fetch_spec t n f outs).decisive s hs (Or.inr hv), hv]; rfl

example : (fetch ⟨some 5, true⟩ 3 .missing [⟨.present 5 false, true⟩, ⟨.present 5 true, true⟩]).result = .chksum := by
  decide +kernel

/-- **any exit status**: for a target without checksums every non-zero value returned by `spawn_bash` — exit
codes 1..255 and `signal <<< 8` for a command killed by a signal, whose low byte is 0 — makes the run a failure:
what it wrote is discarded and it is never an acceptable download. -/
theorem nonzero_status_is_failure (t : Target) (f : File) (ret : Nat) (h : ret ≠ 0) (hn : t.noChksums = true) :
    leftOf t (.ofStatus f ret) = .missing ∧ Acceptable t (.ofStatus f ret) = false := by
  have h0 : (ret == 0) = false := by simpa using h
  simp [Outcome.ofStatus, leftOf, Acceptable, h0, hn]

example : Acceptable ⟨none, false⟩ (.ofStatus (.present 7 true) (15 <<< 8)) = false ∧
    (fetch ⟨none, false⟩ 2 .missing [.ofStatus (.present 7 true) (15 <<< 8), .ofStatus (.present 20 true) 0]).final
      = .present 20 true := by decide +kernel

/-- **histories on one fetcher object**: however many fetches were made before on the same object and distdir —
of the same file name with the same or with other checksums, with the file left in place or replaced —, a fetch
that returns a path does so only for a file that has the size and checksums of *its own* target. -/
theorem fetchSeq_each_verified (f : File) (rs : List Request) :
    (fetchSeq f rs).length = rs.length ∧
    ∀ p ∈ rs.zip (fetchSeq f rs), p.2.result = .returned →
      Verified p.1.t p.2.final = true ∧ Wrong p.1.t p.2.final = false := by
  induction rs generalizing f with
  | nil => simp [fetchSeq]
  | cons r rs ih =>
    simp only [fetchSeq, List.length_cons, List.zip_cons_cons, List.mem_cons]
    refine ⟨by rw [(ih _).1], ?_⟩
    rintro p (rfl | hp) h
    · have := fetch_returns_only_verified r.t r.n _ r.outs h
      exact ⟨this.1, this.2.1⟩
    · exact (ih _).2 p hp h

/-- the file verified for the first target is not handed out for a re-rolled one of the same name and size -/
example : ((fetchSeq .missing [⟨none, ⟨some 5, true⟩, 2, [⟨.present 5 true, true⟩]⟩,
      ⟨none, ⟨some 5, true⟩, 2, []⟩, ⟨some (.present 5 false), ⟨some 5, true⟩, 2, [⟨.present 5 true, true⟩]⟩]).map (·.result))
    = [.returned, .returned, .chksum] := by decide +kernel

/-- the loop as it was before the `fix:` commit (verification only *before* each run, `raise last_exc`
after the last one) loses a correct download made by the final attempt -/
theorem unfixed_loop_counterexample :
    (fetchUnfixed ⟨some 5, true⟩ 2 .missing .unknown [⟨.missing, false⟩, ⟨.present 5 true, true⟩]) = (.missing, .present 5 true) ∧
    (fetch ⟨some 5, true⟩ 2 .missing [⟨.missing, false⟩, ⟨.present 5 true, true⟩]).result = .returned := by
  decide +kernel

end Pkgcore.C36
