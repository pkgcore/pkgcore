import Pkgcore.Spec.C40
/-!
# C40 — what is suggested, what one request line yields, the run over the request list

`mem_suggested` unfolds `suggested_keywords`; the two `suggested_*_iff` read it as the specification's candidates for
well-formed KEYWORDS.  `Good` collects what the property demands of a yielded request; `tailStep_spec` says what the
loop body remembers and yields, `good_filtered` that the filtered list is `Good`, and `runLines_good` carries it
through the run.  `runLines_append` cuts a run at a request line (the requests before an invalid one).
-/
namespace Pkgcore.C40
open Spec

theorem lstrip_plain {k : Str} (h : PlainArch k) : lstrip ['~'] k = k ∧ lstrip ['~', '-'] k = k := by
  obtain ⟨hne, h1, h2⟩ := h
  cases k with
  | nil => exact absurd rfl hne
  | cons c k =>
    have c1 : c ≠ '~' := fun e => h1 (by simp [e])
    have c2 : c ≠ '-' := fun e => h2 (by simp [e])
    constructor <;> simp [lstrip, List.dropWhile, c1, c2]

theorem lstrip_tilde {k : Str} (h : PlainArch k) :
    lstrip ['~'] ('~' :: k) = k ∧ lstrip ['~', '-'] ('~' :: k) = k := by
  have := lstrip_plain h
  constructor
  · show lstrip ['~'] k = k
    exact this.1
  · show lstrip ['~', '-'] k = k
    exact this.2

theorem lstrip_minus {k : Str} (h : PlainArch k) : lstrip ['~', '-'] ('-' :: k) = k := by
  show lstrip ['~', '-'] k = k
  exact (lstrip_plain h).2

theorem isPrefixKw_false {k : Str} : isPrefixKw k = false ↔ '-' ∉ k := by
  rw [isPrefixKw, List.contains_eq_mem, decide_eq_false_iff_not]

/-- `k` is suggested iff some version of the package carries it in an allowed form (first conjunct, `x` the KEYWORDS
entry), this version's own KEYWORDS pass the test of the mode (testing here / not mentioned here), and it is no prefix
keyword — the three filters of `suggested_keywords` in the order the code applies them -/
theorem mem_suggested (repo : Repo) (p : Pkg) (stable : Bool) (k : Str) :
    k ∈ suggested repo p stable ↔
      ((∃ x, (∃ q, q ∈ repo.pkgs ∧ q.key = p.key ∧ x ∈ q.keywords) ∧
          x.headD ' ' ∉ (if stable then ['-', '~'] else ['-']) ∧ x ≠ [] ∧ lstrip ['~'] x = k) ∧
        (if stable then ∃ y, y ∈ p.keywords ∧ y.head? = some '~' ∧ lstrip ['~'] y = k
         else ¬ ∃ y, y ∈ p.keywords ∧ lstrip ['~', '-'] y = k)) ∧ '-' ∉ k := by
  unfold suggested filterPrefix dedup sameKey
  cases stable <;>
    simp only [List.mem_filter, List.mem_eraseDups, List.mem_map, List.mem_flatMap, Bool.and_eq_true, decide_eq_true_eq,
      Bool.not_eq_eq_eq_not, Bool.not_true, List.contains_eq_mem, decide_eq_false_iff_not, and_assoc, if_true,
      Bool.false_eq_true, if_false]

theorem headD_ne {x : Str} {c : Char} (hne : x ≠ []) : (x.headD ' ' = c) ↔ x.head? = some c := by
  cases x with
  | nil => exact absurd rfl hne
  | cons a x => simp

theorem head_not_in {x : Str} {cs : List Char} (hne : x ≠ []) (h : x.headD ' ' ∉ cs) :
    ∀ c ∈ cs, x.head? ≠ some c :=
  fun _ hc e => h ((headD_ne hne).2 e ▸ hc)

theorem plain_headD {k : Str} (h : PlainArch k) : k.headD ' ' ∉ ['-', '~'] ∧ k.headD ' ' ∉ ['-'] := by
  have h1 : k.headD ' ' ≠ '~' := fun e => h.2.1 ((headD_ne h.1).1 e)
  have h2 : k.headD ' ' ≠ '-' := fun e => h.2.2 ((headD_ne h.1).1 e)
  simp only [List.mem_cons, List.not_mem_nil, or_false, h1, h2, not_false_eq_true, and_self]

theorem suggested_stable_iff (repo : Repo) (p : Pkg) (hwp : WfKeywords p) (hwr : ∀ q ∈ repo.pkgs, WfKeywords q)
    (k : Str) :
    k ∈ suggested repo p true ↔ StableCandidate repo p k := by
  rw [mem_suggested]
  simp only [if_true]
  constructor
  · rintro ⟨⟨⟨x, ⟨q, hq, hkey, hx⟩, hd, hne, rfl⟩, y, hy, hh, e⟩, hpre⟩
    have hx' : PlainArch x := by
      rcases hwr q hq x hx with h | ⟨a, rfl, _⟩ | ⟨a, rfl, _⟩
      · exact h
      · exact absurd rfl (head_not_in hne hd '~' (by simp))
      · exact absurd rfl (head_not_in hne hd '-' (by simp))
    rw [(lstrip_plain hx').1] at hpre e ⊢
    refine ⟨isPrefixKw_false.2 hpre, hx', ?_, q, hq, hkey, hx⟩
    rcases hwp y hy with h | ⟨a, rfl, ha⟩ | ⟨a, rfl, _⟩
    · exact absurd hh h.2.1
    · rw [(lstrip_tilde ha).1] at e
      subst e
      exact hy
    · simp at hh
  · rintro ⟨hpre, hk, ht, q, hq, hkey, hs⟩
    exact ⟨⟨⟨k, ⟨q, hq, hkey, hs⟩, (plain_headD hk).1, hk.1, (lstrip_plain hk).1⟩,
      '~' :: k, ht, rfl, (lstrip_tilde hk).1⟩, isPrefixKw_false.1 hpre⟩

/-- the code's test for "`p` has the arch in some form", strip `~` and `-` and compare, is the specification's
`mentions` when the KEYWORDS are well formed -/
theorem mentions_iff {p : Pkg} (hwp : WfKeywords p) {k : Str} (hk : PlainArch k) :
    mentions p k ↔ ∃ y, y ∈ p.keywords ∧ lstrip ['~', '-'] y = k := by
  constructor
  · rintro (h | h | h)
    · exact ⟨k, h, (lstrip_plain hk).2⟩
    · exact ⟨_, h, (lstrip_tilde hk).2⟩
    · exact ⟨_, h, lstrip_minus hk⟩
  · rintro ⟨y, hy, rfl⟩
    rcases hwp y hy with h | ⟨a, rfl, ha⟩ | ⟨a, rfl, ha⟩
    · rw [(lstrip_plain h).2]
      exact .inl hy
    · rw [(lstrip_tilde ha).2]
      exact .inr (.inl hy)
    · rw [lstrip_minus ha]
      exact .inr (.inr hy)

theorem suggested_keywording_iff (repo : Repo) (p : Pkg) (hwp : WfKeywords p) (hwr : ∀ q ∈ repo.pkgs, WfKeywords q)
    (k : Str) :
    k ∈ suggested repo p false ↔ KeywordCandidate repo p k := by
  rw [mem_suggested]
  simp only [Bool.false_eq_true, if_false]
  constructor
  · rintro ⟨⟨⟨x, ⟨q, hq, hkey, hx⟩, hd, hne, rfl⟩, hno⟩, hpre⟩
    rcases hwr q hq x hx with h | ⟨a, rfl, ha⟩ | ⟨a, rfl, _⟩
    · rw [(lstrip_plain h).1] at hpre hno ⊢
      exact ⟨isPrefixKw_false.2 hpre, h, ⟨q, hq, hkey, Or.inl hx⟩, mt (mentions_iff hwp h).1 hno⟩
    · rw [(lstrip_tilde ha).1] at hpre hno ⊢
      exact ⟨isPrefixKw_false.2 hpre, ha, ⟨q, hq, hkey, Or.inr hx⟩, mt (mentions_iff hwp ha).1 hno⟩
    · exact absurd rfl (head_not_in hne hd '-' (by simp))
  · rintro ⟨hpre, hk, ⟨q, hq, hkey, hs⟩, hnm⟩
    refine ⟨⟨?_, mt (mentions_iff hwp hk).2 hnm⟩, isPrefixKw_false.1 hpre⟩
    rcases hs with hs | hs
    · exact ⟨k, ⟨q, hq, hkey, hs⟩, (plain_headD hk).2, hk.1, (lstrip_plain hk).1⟩
    · exact ⟨'~' :: k, ⟨q, hq, hkey, hs⟩, by simp, by simp, (lstrip_tilde hk).1⟩

/-- what the property demands of one yielded request, keyword by keyword; the first clause under the caller's contract
that `cc_arches` are known arches -/
def Good (repo : Repo) (o : Opts) (y : Nat × List Str) : Prop :=
  ∃ pkg, repo.pkgs[y.1]? = some pkg ∧ ∀ k ∈ y.2,
    ((∀ c ∈ o.cc, c ∈ repo.known) → k ∈ repo.known) ∧
    (o.cc ≠ [] → allarchesMode o = false → k ∈ o.cc) ∧
    (o.filterArch ≠ [] → k ∈ o.filterArch ∨ (allarchesMode o = true ∧ k ∈ suggested repo pkg true)) ∧
    (o.onlyNew = true →
      (k ∉ pkg.keywords ∧ (o.stable = true ∨ ('~' :: k) ∉ pkg.keywords)) ∨
      (allarchesMode o = true ∧ k ∈ suggested repo pkg true))

theorem isEmpty_false_ne {α : Type} {l : List α} : l.isEmpty = false ↔ l ≠ [] := List.isEmpty_eq_false_iff

theorem mem_ccStep {o : Opts} {kws : List Str} {k : Str} (h : k ∈ ccStep o kws) :
    (k ∈ o.cc ∨ (o.cc = [] ∧ k ∈ kws)) ∧ (k ∈ kws ∨ (kws = [] ∧ k ∈ o.cc)) := by
  unfold ccStep at h
  by_cases h1 : kws.isEmpty = true
  · rw [if_pos h1] at h
    have : kws = [] := List.isEmpty_iff.1 h1
    exact ⟨Or.inl h, Or.inr ⟨this, h⟩⟩
  · rw [if_neg h1] at h
    by_cases h2 : o.cc.isEmpty = true
    · rw [if_pos h2] at h
      have : o.cc = [] := List.isEmpty_iff.1 h2
      exact ⟨Or.inr ⟨this, h⟩, Or.inl h⟩
    · rw [if_neg h2, List.mem_filter, List.contains_iff_mem] at h
      exact ⟨Or.inl h.2, Or.inl h.1⟩

theorem mem_onlyNewStep {o : Opts} {pkg : Pkg} {kws : List Str} {k : Str} (h : k ∈ onlyNewStep o pkg kws) :
    k ∈ kws ∧ (o.onlyNew = true → k ∉ pkg.keywords ∧ (o.stable = true ∨ ('~' :: k) ∉ pkg.keywords)) := by
  unfold onlyNewStep at h
  by_cases h1 : o.onlyNew = true
  · rw [if_pos h1, List.mem_filter] at h
    simpa only [Bool.and_eq_true, Bool.or_eq_true, Bool.not_eq_true', List.contains_eq_mem, decide_eq_false_iff_not,
      h1, true_imp_iff] using h
  · rw [if_neg h1] at h
    exact ⟨h, fun e => absurd e h1⟩

theorem mem_allarchesKw {repo : Repo} {o : Opts} {pkg : Pkg} {k : Str} (h : k ∈ allarchesKw repo o pkg) :
    allarchesMode o = true ∧ k ∈ suggested repo pkg true ∧ k ∈ repo.known := by
  unfold allarchesKw at h
  by_cases h1 : (o.allarches && o.stable && !o.filterArch.isEmpty) = true
  · rw [if_pos h1] at h
    have h' : k ∈ (suggested repo pkg true).filter (repo.known.contains ·) := by
      simpa [sortKw, List.mem_mergeSort] using h
    rw [List.mem_filter, List.contains_iff_mem] at h'
    exact ⟨h1, h'.1, h'.2⟩
  · rw [if_neg h1] at h
    cases h

theorem mem_filterStep {repo : Repo} {o : Opts} {pkg : Pkg} {kws : List Str} {k : Str}
    (h : k ∈ filterStep repo o pkg kws) :
    (k ∈ kws ∧ (o.filterArch ≠ [] → k ∈ o.filterArch)) ∨
      (allarchesMode o = true ∧ k ∈ suggested repo pkg true ∧ k ∈ repo.known) := by
  unfold filterStep at h
  by_cases h1 : o.filterArch.isEmpty = true
  · rw [if_pos h1] at h
    have : o.filterArch = [] := List.isEmpty_iff.1 h1
    exact Or.inl ⟨h, fun hne => absurd this hne⟩
  · rw [if_neg h1] at h
    simp only [List.mem_append, List.mem_filter, List.contains_iff_mem] at h
    rcases h with h | h
    · exact Or.inl ⟨h.1, fun _ => h.2⟩
    · exact Or.inr (mem_allarchesKw h.1)

/-- the loop body never raises; what it remembers for `^` is the cc-narrowed keyword list of the line, whatever
`only_new`, `filter_arch` and the all-arches mode do to the yielded request -/
theorem tailStep_spec (repo : Repo) (o : Opts) (st : St) (r : Req) (idx : Nat) (pkg : Pkg) (kws : List Str) :
    ∃ st', tailStep repo o st r idx pkg kws = .next st' ∧
      st'.previous = (if (ccStep o kws).isEmpty then st.previous else some (ccStep o kws)) ∧
      (st'.yields = st.yields ∨ ∃ l, st'.yields = st.yields ++ [(idx, l)] ∧
        (l = [] ∨ l = filterStep repo o pkg (onlyNewStep o pkg (ccStep o kws)))) := by
  unfold tailStep
  simp only
  cases h1 : (ccStep o kws).isEmpty with
  | true =>
    have he : ccStep o kws = [] := List.isEmpty_iff.1 h1
    simp only [Bool.and_true, if_true]
    split
    · exact ⟨_, rfl, rfl, .inl rfl⟩
    · refine ⟨_, rfl, ?_, .inr ⟨ccStep o kws, ?_, .inl he⟩⟩
      · split <;> rfl
      · split <;> rfl
  | false =>
    simp only [Bool.and_false, Bool.false_eq_true, if_false]
    split
    · exact ⟨_, rfl, rfl, .inl rfl⟩
    · split
      · exact ⟨_, rfl, rfl, .inl rfl⟩
      · exact ⟨_, rfl, rfl, .inr ⟨_, rfl, .inr rfl⟩⟩

theorem good_filtered {repo : Repo} {o : Opts} {idx : Nat} {pkg : Pkg} {kws : List Str}
    (hp : repo.pkgs[idx]? = some pkg) (hk : ∀ k ∈ kws, k ∈ repo.known) :
    Good repo o (idx, filterStep repo o pkg (onlyNewStep o pkg (ccStep o kws))) := by
  refine ⟨pkg, hp, fun k hk' => ?_⟩
  rcases mem_filterStep hk' with ⟨h1, hf⟩ | ⟨hm, hs, hkn⟩
  · obtain ⟨h2, hnew⟩ := mem_onlyNewStep h1
    obtain ⟨hcc, hkw⟩ := mem_ccStep h2
    exact ⟨fun hyp => hkw.elim (hk k) fun h => hyp k h.2, fun hne _ => hcc.elim id fun h => absurd h.1 hne,
      fun hfa => .inl (hf hfa), fun hn => .inl (hnew hn)⟩
  · exact ⟨fun _ => hkn, fun _ hmode => absurd (hmode.symm.trans hm) Bool.false_ne_true, fun _ => .inr ⟨hm, hs⟩,
      fun _ => .inr ⟨hm, hs⟩⟩

theorem tailStep_good {repo : Repo} {o : Opts} {st st' : St} {r : Req} {idx : Nat} {pkg : Pkg} {kws : List Str}
    (hp : repo.pkgs[idx]? = some pkg) (hk : ∀ k ∈ kws, k ∈ repo.known)
    (h : tailStep repo o st r idx pkg kws = .next st') (hg : ∀ y ∈ st.yields, Good repo o y) :
    ∀ y ∈ st'.yields, Good repo o y := by
  obtain ⟨st'', e, _, hy⟩ := tailStep_spec repo o st r idx pkg kws
  cases e.symm.trans h
  rcases hy with hy | ⟨l, hy, rfl | rfl⟩ <;> rw [hy]
  · exact hg
  · exact List.forall_mem_append.2 ⟨hg, List.forall_mem_singleton.2 ⟨pkg, hp, nofun⟩⟩
  · exact List.forall_mem_append.2 ⟨hg, List.forall_mem_singleton.2 (good_filtered hp hk)⟩

theorem foldl_keep_or_take {α : Type} {f : Option α → α → Option α}
    (hf : ∀ acc a, f acc a = acc ∨ f acc a = some a) {x : α} :
    ∀ (l : List α) (acc : Option α), l.foldl f acc = some x → x ∈ l ∨ acc = some x
  | [], _, h => .inr h
  | a :: l, acc, h => by
    rcases foldl_keep_or_take hf l _ h with h1 | h1
    · exact .inl (List.mem_cons_of_mem _ h1)
    · rcases hf acc a with e | e
      · exact .inr (e ▸ h1)
      · cases e.symm.trans h1
        exact .inl List.mem_cons_self

theorem bestOf_mem {ok : Pkg → Bool} {ms : List (Nat × Pkg)} {x : Nat × Pkg} (h : bestOf ok ms = some x) :
    x ∈ ms := by
  refine (foldl_keep_or_take (fun acc a => ?_) ms none h).resolve_right nofun
  split
  · split
    · exact .inr rfl
    · split
      · exact .inl rfl
      · exact .inr rfl
  · exact .inl rfl

theorem selectBest_mem {ms : List (Nat × Pkg)} {x : Nat × Pkg} (h : selectBest ms = some x) : x ∈ ms := by
  unfold selectBest at h
  cases h1 : bestOf (fun p => !p.keywords.isEmpty) ms with
  | some y =>
    rw [h1] at h
    cases h
    exact bestOf_mem h1
  | none =>
    rw [h1, Option.orElse_none] at h
    cases h2 : bestOf (fun p => !p.live) ms with
    | some y =>
      rw [h2] at h
      cases h
      exact bestOf_mem h2
    | none =>
      rw [h2, Option.orElse_none] at h
      exact bestOf_mem h

theorem pick_some {repo : Repo} {o : Opts} {r : Req} {idx : Nat} {pkg : Pkg} (h : pick repo o r = some (idx, pkg)) :
    repo.pkgs[idx]? = some pkg := by
  have hmem : (idx, pkg) ∈ r.matched.filterMap fun i => (repo.pkgs[i]?).map (i, ·) := by
    unfold pick at h
    dsimp only at h
    split at h
    · exact List.mem_of_mem_head? h
    · exact selectBest_mem h
  obtain ⟨i, _, hi⟩ := List.mem_filterMap.1 hmem
  obtain ⟨q, hq, e⟩ := Option.map_eq_some_iff.1 hi
  cases e
  exact hq

theorem sentinelStep_next {repo : Repo} {o : Opts} {st st' : St} {r : Req} {idx : Nat} {pkg : Pkg}
    (h : sentinelStep repo o st r idx pkg = .next st') :
    st' = st ∨ ∃ kws, (∀ k ∈ kws, k ∈ repo.known) ∧ tailStep repo o st r idx pkg kws = .next st' := by
  unfold sentinelStep at h
  cases he : expandSentinels repo o st r pkg with
  | skip =>
    simp only [he] at h
    cases h
    exact Or.inl rfl
  | bad =>
    simp only [he] at h
    cases h
  | kws kws =>
    simp only [he] at h
    split at h
    · cases h
    · rename_i hknown
      right
      refine ⟨kws, ?_, h⟩
      intro k hk
      simp only [List.any_eq_true, Bool.not_eq_true', not_exists, not_and, Bool.not_eq_false] at hknown
      exact List.contains_iff_mem.1 (hknown k hk)

theorem stepLine_good {repo : Repo} {o : Opts} {st st' : St} {r : Req} (h : stepLine repo o st r = .next st')
    (hg : ∀ y ∈ st.yields, Good repo o y) : ∀ y ∈ st'.yields, Good repo o y := by
  unfold stepLine at h
  split at h
  · cases h
  · split at h
    · cases h
    · rename_i idx pkg hp
      rcases sentinelStep_next h with rfl | ⟨kws, hk, ht⟩
      · exact hg
      · exact tailStep_good (pick_some hp) hk ht hg

theorem runLines_good (repo : Repo) (o : Opts) (reqs : List Req) (st : St) (hg : ∀ y ∈ st.yields, Good repo o y) :
    ∀ y ∈ (runLines repo o st reqs).1.yields, Good repo o y := by
  induction reqs generalizing st with
  | nil => exact hg
  | cons r rs ih =>
    unfold runLines
    cases hs : stepLine repo o st r with
    | raise e => exact hg
    | next st' => exact ih st' (stepLine_good hs hg)

theorem matchPackages_yields (repo : Repo) (o : Opts) (reqs : List Req) :
    (matchPackages repo o reqs).1 = (runLines repo o {} reqs).1.yields := by
  unfold matchPackages
  rcases h : runLines repo o {} reqs with ⟨st, _ | e⟩ <;> rfl

theorem matchPackages_good (repo : Repo) (o : Opts) (reqs : List Req) :
    ∀ y ∈ (matchPackages repo o reqs).1, Good repo o y := by
  rw [matchPackages_yields]
  exact runLines_good repo o reqs {} (by intro y hy; cases hy)

theorem runLines_append (repo : Repo) (o : Opts) (st : St) (a b : List Req) :
    runLines repo o st (a ++ b) =
      match runLines repo o st a with
      | (st', some e) => (st', some e)
      | (st', none) => runLines repo o st' b := by
  induction a generalizing st with
  | nil => simp [runLines]
  | cons r rs ih =>
    simp only [List.cons_append, runLines]
    cases stepLine repo o st r with
    | raise e => rfl
    | next st' => exact ih st'

end Pkgcore.C40
