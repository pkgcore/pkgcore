import Pkgcore.Proofs.C17Sim
/-!
`fwd U s e` is the effect on the state of the logged entry `e` alone and `Pre s e` its precondition; `fwd` keeps `Inv`
(`inv_fwd`).  On a consistent state filtering an object out of a list is the inverse of appending it (the list lemmas
at the head), so `revertEntry` undoes `fwd` up to `Sim` (`revert_fwd`; a `replace` entry as a `remove` entry followed by
an `add` entry), hence `revertAll` a whole `Chain` of entries (`revertAll_chain`).  Then `backtrack` itself, which may
be done in two stages (`backtrack_trans`).  Last `Outcome`, a chain up to `Sim`: `backtrack` to where it started undoes
it (`Outcome.undo`), to a position before that gives what it gave there (`Outcome.backtrack`).
-/
namespace Pkgcore.C17
open List

theorem count_filter' {α} [BEq α] [LawfulBEq α] (p : α → Bool) (a : α) (l : List α) :
    count a (filter p l) = if p a then count a l else 0 := by
  by_cases h : p a
  · rw [if_pos h, List.count_filter h]
  · rw [if_neg h, List.count_eq_zero]; exact fun hm => h (List.mem_filter.mp hm).2

theorem perm_append_erase {α} [BEq α] [LawfulBEq α] (l : List α) (x : α) : (l ++ [x]).erase x ~ l :=
  (List.perm_middle.erase x).trans (by rw [List.erase_cons_head, List.append_nil])

theorem perm_erase_append {α} [BEq α] [LawfulBEq α] {l : List α} {x : α} (h : x ∈ l) : l.erase x ++ [x] ~ l :=
  (List.perm_append_comm).trans (List.perm_cons_erase h).symm

theorem filter_ne_append_self {l : List Nat} {x : Nat} (h : x ∉ l) : (l ++ [x]).filter (· != x) = l := by
  rw [List.filter_append, List.filter_bne_eq_self_of_not_mem h]; simp

theorem perm_filter_ne_append {l : List Nat} {x : Nat} (h : count x l = 1) : l.filter (· != x) ++ [x] ~ l := by
  rw [List.perm_iff_count]; intro a
  rw [List.count_append, count_filter', List.count_singleton]
  by_cases h' : a = x
  · subst h'; simp [h]
  · have : ¬ x = a := fun e => h' e.symm
    simp [h', this]

/-- what `apply` does to the state on behalf of the entry it logs (the `decref`s a `remove`/`replace`
triggers are logged, and accounted for, separately) -/
def fwd (U : Univ) (s : State) : Entry → State
  | .add c p f => push (setChoice { s with slots := s.slots ++ [p] } p c) (.add c p f)
  | .hardref r => { push s (.hardref r) with forced := s.forced ++ [r] }
  | .backref c p => push s (.backref c p)
  | .remove c p =>
    { push s (.remove c p) with
      slots := s.slots.filter (· != p), choices := s.choices.filter (·.1 != p), vdb := s.vdb ++ [p] }
  | .replace c p f old oldc =>
    { push s (.replace c p f old oldc) with
      slots := s.slots.filter (· != old) ++ [p]
      choices := (p, c) :: s.choices.filter (·.1 != old)
      vdb := s.vdb ++ [old] }
  | .incref c b => (increfApply U s c b).1
  | .decref c b =>
    { push s (.decref c b) with
      refcnt := s.refcnt.erase b
      limiters := if b ∈ s.refcnt.erase b then s.limiters else s.limiters.filter (· != b)
      revb := s.revb.erase (c, b) }

/-- what `fwd U s e` needs of `s` for `revertEntry` to undo it (the operations' contract `applicable`, or a fact
`apply` has checked); `p = old`: a package object may replace itself -/
def Pre (s : State) : Entry → Prop
  | .add _ p _ => p ∉ s.slots
  | .hardref _ => True
  | .backref _ _ => True
  | .remove c p => p ∈ s.slots ∧ s.choices.lookup p = some c
  | .replace _ p _ old oldc => old ∈ s.slots ∧ s.choices.lookup old = some oldc ∧ (p = old ∨ p ∉ s.slots)
  | .incref _ _ => True
  | .decref c b => b ∈ s.refcnt ∧ (c, b) ∈ s.revb

theorem fwd_plan (U : Univ) (s : State) (e : Entry) : (fwd U s e).plan = s.plan ++ [e] := by
  cases e <;> rfl

theorem fwd_congr (U : Univ) {s t : State} (h : Sim s t) (e : Entry) : Sim (fwd U s e) (fwd U t e) := by
  have he (b : Nat) : s.refcnt.erase b ~ t.refcnt.erase b := h.refcnt.erase _
  cases e with
  | add c p f =>
    exact { h with slots := h.slots.append_right _
                   choices := fun q => by simp only [fwd, push, setChoice, List.lookup_cons, h.choices q] }
  | hardref r => exact { h with forced := h.forced.append_right _ }
  | backref c p => exact { h with }
  | remove c p =>
    exact { h with slots := h.slots.filter _, vdb := h.vdb.append_right _
                   choices := fun q => by simp only [fwd, push, Lib.lookup_filter_ne, h.choices q] }
  | replace c p f old oldc =>
    exact { h with slots := (h.slots.filter _).append_right _, vdb := h.vdb.append_right _
                   choices := fun q => by simp only [fwd, push, List.lookup_cons, Lib.lookup_filter_ne, h.choices q] }
  | incref c b =>
    exact { h with limiters := addLimiter_congr U h b, revb := h.revb.append_right _
                   refcnt := h.refcnt.append_right _ }
  | decref c b =>
    refine { h with limiters := ?_, revb := h.revb.erase _, refcnt := he b }
    show (if b ∈ s.refcnt.erase b then _ else _) ~ (if b ∈ t.refcnt.erase b then _ else _)
    by_cases hb : b ∈ s.refcnt.erase b
    · rw [if_pos hb, if_pos ((he b).mem_iff.mp hb)]; exact h.limiters
    · rw [if_neg hb, if_neg (mt (he b).mem_iff.mpr hb)]; exact h.limiters.filter _

theorem fwd_same (U : Univ) {s t : State} (h : Same s t) (e : Entry) : Same (fwd U s e) (fwd U t e) :=
  same_iff.mpr ⟨fwd_congr U h.sim e, by rw [fwd_plan, fwd_plan, List.length_append, List.length_append, h.plan]⟩

theorem fwd_replace (U : Univ) (s : State) (c p : Nat) (f : Bool) (old oldc : Nat) :
    fwd U s (.replace c p f old oldc) =
      { fwd U (fwd U s (.remove oldc old)) (.add c p f) with plan := s.plan ++ [.replace c p f old oldc] } := rfl

theorem pre_replace (U : Univ) {s : State} {c p : Nat} {f : Bool} {old oldc : Nat}
    (h : Pre s (.replace c p f old oldc)) :
    Pre s (.remove oldc old) ∧ Pre (fwd U s (.remove oldc old)) (.add c p f) := by
  obtain ⟨ho, hl, hp⟩ := h
  refine ⟨⟨ho, hl⟩, fun hm => ?_⟩
  obtain ⟨hm, hne⟩ := List.mem_filter.mp hm
  exact hp.elim (bne_iff_ne.mp hne) (· hm)

theorem revertEntry_replace (U : Univ) (s : State) (c p : Nat) (f : Bool) (old oldc : Nat) :
    revertEntry U s (.replace c p f old oldc) =
      (revertEntry U s (.add c p f)).bind fun s => revertEntry U s (.remove oldc old) := by
  simp only [revertEntry, fill_force]
  cases removeSlotting s p with
  | none => rfl
  | some a =>
    simp only [Option.bind_some, delChoice]
    split <;> rfl

theorem inv_add (U : Univ) {s : State} (i : Inv s) {c p : Nat} {f : Bool} (hp : Pre s (.add c p f)) :
    Inv (fwd U s (.add c p f)) := by
  refine ⟨Lib.nodup_concat i.nodup hp, fun q => ?_, i.lim⟩
  simp only [fwd, push, setChoice, List.mem_append, List.mem_singleton, List.lookup_cons]
  by_cases hq : q = p
  · simp [hq]
  · have : (q == p) = false := by simp [hq]
    simp [hq, this, i.dom q]

theorem inv_remove (U : Univ) {s : State} (i : Inv s) (c p : Nat) : Inv (fwd U s (.remove c p)) := by
  refine ⟨i.nodup.filter _, fun q => ?_, i.lim⟩
  simp only [fwd, push, List.mem_filter, Lib.lookup_filter_ne]
  by_cases hq : q = p
  · simp [hq]
  · simp [hq, i.dom q]

theorem inv_fwd (U : Univ) {s : State} {e : Entry} (i : Inv s) (h : Pre s e) : Inv (fwd U s e) := by
  cases e with
  | add c p f => exact inv_add U i h
  | hardref r => exact ⟨i.nodup, i.dom, i.lim⟩
  | backref c p => exact ⟨i.nodup, i.dom, i.lim⟩
  | remove c p => exact inv_remove U i c p
  | replace c p f old oldc =>
    exact (inv_add U (inv_remove U i oldc old) (pre_replace U h).2).of_sim (Sim.setPlan _ _).symm
  | incref c b =>
    -- `lim`: `b` is appended to the limiters with its first reference; every other blocker is untouched in both lists
    refine ⟨i.nodup, i.dom, ?_⟩
    intro x
    simp only [fwd, increfApply, push, addLimiter, List.mem_append, List.mem_singleton]
    by_cases hb : b ∈ s.refcnt
    · simp only [hb, if_true, i.lim x]
      by_cases hx : x = b
      · simp [hx, hb]
      · simp [hx]
    · simp only [hb, if_false, List.count_append, List.count_singleton, i.lim x]
      by_cases hx : x = b
      · subst hx; simp [hb]
      · have : ¬ b = x := fun e => hx e.symm
        simp [hx, this]
  | decref c b =>
    obtain ⟨hb, hcb⟩ : b ∈ s.refcnt ∧ (c, b) ∈ s.revb := h
    -- `lim`: `b` is filtered out of the limiters with its last reference; every other blocker is untouched
    refine ⟨i.nodup, i.dom, ?_⟩
    intro x
    simp only [fwd, push]
    by_cases hx : x = b
    · subst hx
      by_cases hb' : x ∈ s.refcnt.erase x
      · simp [hb', i.lim x, hb]
      · simp [hb', count_filter']
    · have hm : x ∈ s.refcnt.erase b ↔ x ∈ s.refcnt := List.mem_erase_of_ne hx
      by_cases hb' : b ∈ s.refcnt.erase b
      · simp [hb', i.lim x, hm]
      · simp [hb', hx, i.lim x, hm]

theorem revert_add (U : Univ) {s : State} (i : Inv s) {c p : Nat} {f : Bool} (hp : Pre s (.add c p f)) :
    OSim (revertEntry U (fwd U s (.add c p f)) (.add c p f)) (some s) := by
  have hl : s.choices.lookup p = none := i.lookup_none hp
  -- `p` goes out of the slot list it was appended to; its binding, which shadowed nothing, is filtered out
  simp [revertEntry, fwd, push, setChoice, removeSlotting, delChoice]
  refine .of_sim { Sim.refl s with slots := ?_, choices := ?_ }
  · simp [List.filter_bne_eq_self_of_not_mem hp]
  · intro q; simp only [Lib.lookup_filter_ne]
    by_cases hq : q = p
    · simp [hq, hl]
    · simp [hq]

theorem revert_remove (U : Univ) {s : State} (i : Inv s) {c p : Nat} (h : Pre s (.remove c p)) :
    OSim (revertEntry U (fwd U s (.remove c p)) (.remove c p)) (some s) := by
  obtain ⟨hp, hl⟩ := h
  -- `p` was slotted once, so filtering it out and appending it permutes the slot list; its binding comes back
  simp [revertEntry, fwd, push, setChoice, vdbRemove, fill_force]
  refine .of_sim { Sim.refl s with
    slots := perm_filter_ne_append (i.count_slot hp), choices := ?_, vdb := perm_append_erase _ _ }
  intro q; simp only [List.lookup_cons, Lib.lookup_filter_ne]
  by_cases hq : q = p
  · simp [hq, hl]
  · have : (q == p) = false := by simp [hq]
    simp [hq, this]

theorem revert_fwd (U : Univ) {s : State} {e : Entry} (i : Inv s) (h : Pre s e) :
    OSim (revertEntry U (fwd U s e) e) (some s) := by
  cases e with
  | add c p f => exact revert_add U i h
  | hardref r =>
    simp [revertEntry, fwd, push]
    exact .of_sim { Sim.refl s with forced := perm_append_erase _ _ }
  | backref c p => exact Sim.setPlan s _
  | remove c p => exact revert_remove U i h
  | replace c p f old oldc =>
    obtain ⟨hr, ha⟩ := pre_replace U h
    rw [revertEntry_replace, fwd_replace]
    -- undo the `add` (on a state that differs in the log only), then the `remove`
    exact ((revertEntry_congr U (Sim.setPlan _ _) _).trans (revert_add U (inv_remove U i oldc old) ha)).bind_some
      fun _ hab => (revertEntry_congr U hab _).trans (revert_remove U i hr)
  | incref c b =>
    have hmem : ∀ l : List Nat, b ∈ (l ++ [b]).erase b ↔ b ∈ l := fun l => (perm_append_erase l b).mem_iff
    by_cases hb : b ∈ s.refcnt
    · simp [revertEntry, fwd, increfApply, increfRevert, push, hb, hmem]
      exact .of_sim { Sim.refl s with revb := perm_append_erase _ _, refcnt := perm_append_erase _ _ }
    · have hlim : b ∉ s.limiters := by
        have := i.lim b
        rw [if_neg hb] at this
        exact List.count_eq_zero.mp this
      -- the blocker was not a limiter before (`Inv.lim`), so filtering it out of `limiters ++ [b]` gives `limiters`
      simp [revertEntry, fwd, increfApply, increfRevert, push, hb, hmem, addLimiter, removeLimiter]
      refine .of_sim { Sim.refl s with limiters := ?_, revb := perm_append_erase _ _, refcnt := perm_append_erase _ _ }
      simp [List.filter_bne_eq_self_of_not_mem hlim]
  | decref c b =>
    obtain ⟨hb, hcb⟩ : b ∈ s.refcnt ∧ (c, b) ∈ s.revb := h
    -- if the last reference went, the blocker was a limiter exactly once (`Inv.lim`) and is appended again
    simp [revertEntry, decrefRevert, fwd, push, addLimiter]
    refine .of_sim { Sim.refl s with limiters := ?_, revb := perm_erase_append hcb, refcnt := perm_erase_append hb }
    by_cases hb' : b ∈ s.refcnt.erase b
    · simp [hb']
    · simp only [hb', if_false]
      exact perm_filter_ne_append (i.count_limiter hb)

/-- each entry meets its `Pre` in the state the `fwd` of its predecessors left; `s'` is the last of these states -/
inductive Chain (U : Univ) : State → List Entry → State → Prop
  | nil (s : State) : Chain U s [] s
  | cons {s s' : State} {e : Entry} {es : List Entry} : Pre s e → Chain U (fwd U s e) es s' → Chain U s (e :: es) s'

theorem Chain.plan {U : Univ} {s s' : State} {es : List Entry} (h : Chain U s es s') : s'.plan = s.plan ++ es := by
  induction h with
  | nil s => exact (List.append_nil _).symm
  | cons _ _ ih => rw [ih, fwd_plan, List.append_assoc]; rfl

theorem Chain.append {U : Univ} {s m s' : State} {es fs : List Entry} (h1 : Chain U s es m) (h2 : Chain U m fs s') :
    Chain U s (es ++ fs) s' := by
  induction h1 with
  | nil => exact h2
  | cons hp _ ih => exact .cons hp (ih h2)

theorem Chain.inv {U : Univ} {s s' : State} {es : List Entry} (h : Chain U s es s') (i : Inv s) : Inv s' := by
  induction h with
  | nil => exact i
  | cons hp _ ih => exact ih (inv_fwd U i hp)

theorem revertAll_chain (U : Univ) {s s' : State} {es : List Entry} (i : Inv s) (h : Chain U s es s') :
    OSim (revertAll U s' es.reverse) (some s) := by
  induction h with
  | nil s => exact Sim.refl s
  | cons hp _ ih =>
    rw [List.reverse_cons, revertAll_append]
    -- `revertAll U · [e]` is `(revertEntry U · e).bind some`
    exact (ih (inv_fwd U i hp)).bind_some fun _ hab =>
      (revertAll_congr U hab _).trans ((revert_fwd U i hp).bind_some fun _ h => h)

theorem backtrack_trans (U : Univ) (s : State) {k m : Nat} (hk : k ≤ m) (hm : m ≤ s.plan.length) :
    backtrack U s k = (backtrack U s m).bind fun s' => backtrack U s' k := by
  have hsplit : (s.plan.drop k).reverse = (s.plan.drop m).reverse ++ ((s.plan.take m).drop k).reverse := by
    rw [← List.reverse_append]
    congr 1
    have : s.plan.drop k = (s.plan.take m ++ s.plan.drop m).drop k := by rw [List.take_append_drop]
    rw [this, List.drop_append_of_le_length (by simp; omega)]
  simp only [backtrack, Nat.le_trans hk hm, hm, if_true, hsplit, revertAll_append]
  cases h1 : revertAll U s (s.plan.drop m).reverse with
  | none => simp
  | some s1 =>
    have hp := revertAll_plan U h1
    simp only [Option.bind_some, Option.map_some, hp, List.length_take, Nat.min_eq_left hm, hk, if_true,
      revertAll_setplan]
    cases h2 : revertAll U s1 ((s.plan.take m).drop k).reverse with
    | none => simp
    | some s2 =>
      have hp2 := revertAll_plan U h2
      simp [hp2, hp, List.take_take, Nat.min_eq_left hk]

theorem backtrack_self (U : Univ) (s : State) : backtrack U s s.plan.length = some s := by
  simp [backtrack, revertAll]

theorem backtrack_plan (U : Univ) {s s' : State} {k : Nat} (h : backtrack U s k = some s') :
    k ≤ s.plan.length ∧ s'.plan = s.plan.take k := by
  unfold backtrack at h
  split at h
  · obtain ⟨a, h1, h2⟩ := Option.map_eq_some_iff.mp h
    exact ⟨‹_›, by rw [← h2, revertAll_plan U h1]⟩
  · cases h

theorem backtrack_congr (U : Univ) {s t : State} (h : Sim s t) (hp : s.plan = t.plan) (k : Nat) :
    OSim (backtrack U s k) (backtrack U t k) := by
  simp only [backtrack, ← hp]
  split
  · rw [Option.map_eq_bind, Option.map_eq_bind]
    exact (revertAll_congr U h _).bind fun _ _ hab => ((Sim.setPlan _ _).trans hab).trans (Sim.setPlan _ _).symm
  · trivial

/-- what a successful `apply` amounts to: a chain of logged entries — none when it was refused, and then the state
is only similar to what it was (the refused `replace` has been rolled back) -/
def Outcome (U : Univ) (s s' : State) : Prop :=
  ∃ es m, Chain U s es m ∧ Sim s' m ∧ s'.plan = m.plan

theorem Outcome.undo {U : Univ} {s s' : State} (o : Outcome U s s') (i : Inv s) :
    ∃ s'', backtrack U s' s.plan.length = some s'' ∧ Sim s'' s ∧ s''.plan = s.plan := by
  obtain ⟨es, m, ch, hs, hp⟩ := o
  obtain ⟨s1, h1, hs1⟩ := ((revertAll_congr U hs _).trans (revertAll_chain U i ch)).some_right
  have hp1 := revertAll_plan U h1
  rw [ch.plan] at hp
  refine ⟨{ s1 with plan := s1.plan.take s.plan.length }, ?_, (Sim.setPlan s1 _).trans hs1, ?_⟩
  · simp [backtrack, hp, h1]
  · simp [hp1, hp]

theorem Outcome.backtrack {U : Univ} {s s' sj : State} {k : Nat} (o : Outcome U s s') (i : Inv s)
    (hj : backtrack U s k = some sj) : ∃ sq, backtrack U s' k = some sq ∧ Sim sq sj ∧ sq.plan = sj.plan := by
  -- first to where the outcome started (`Outcome.undo`), from there as `hj` says
  obtain ⟨s'', hb, hs'', hp''⟩ := o.undo i
  obtain ⟨sq, hq, hsim⟩ := (hj ▸ backtrack_congr U hs''.symm hp''.symm k).some_left
  refine ⟨sq, ?_, hsim.symm, by rw [(backtrack_plan U hq).2, (backtrack_plan U hj).2, hp'']⟩
  rw [backtrack_trans U s' (backtrack_plan U hj).1 (backtrack_plan U hb).1, hb]; exact hq

theorem Outcome.inv {U : Univ} {s s' : State} (o : Outcome U s s') (i : Inv s) : Inv s' := by
  obtain ⟨es, m, ch, hs, -⟩ := o
  exact (ch.inv i).of_sim hs.symm

theorem Outcome.plan_le {U : Univ} {s s' : State} (o : Outcome U s s') : s.plan.length ≤ s'.plan.length := by
  obtain ⟨es, m, ch, -, hp⟩ := o
  rw [hp, ch.plan, List.length_append]; exact Nat.le_add_right _ _

end Pkgcore.C17
