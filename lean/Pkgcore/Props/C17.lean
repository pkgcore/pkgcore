import Pkgcore.Proofs.C17
/-!
# C17 — planner rollback restores the exact earlier state

`applyCmd`, `revertEntry`, `backtrack` mirror `pkgcore.resolver.state` / `pigeonholes` (after the six `fix:` commits); `exec`,
`surviving`, `replay`, `Same` are the specification (`Spec/C17.lean`).

Guard.  The theorems are stated for operations that respect their contract, `applicable`:
a forced `add_op` is not handed a package object that is already slotted, `remove_op(choices, pkg)` names the
choice point `pkg` was added with, `replace_op` is used on a slot that holds exactly one package.  Without the
guard the statements are false of the model *and of the code* (`…_counterexample` below, reproduced by the
harness and recorded as open findings); hence the suffix `_partial`.  The two theorems on a single operation also
assume the state consistent (`Inv`, which `reachable_inv` shows of every reachable one).  Everything else is
unrestricted: any universe of objects, any operations, any length, rollbacks to any recorded position, nested in any way.
-/
namespace Pkgcore.C17

/-- **Undoing any single operation** — including the compound ones (`remove`, `replace` with the `decref`s
they log, the refused `replace` with its internal rollback) — restores the state: after
`op.apply(plan)`, `plan.backtrack(position before)` does not raise and yields the same snapshot and the same log.

Full statement (false, see the counterexamples): the same without `applicable U s c = true`. -/
theorem revert_apply_partial (U : Univ) (s s' : State) (c : Cmd) (out : List Conf) (i : Inv s)
    (ha : applicable U s c = true) (h : applyCmd U s c = some (s', out)) :
    ∃ s'', backtrack U s' s.plan.length = some s'' ∧ Same s'' s ∧ s''.plan = s.plan := by
  obtain ⟨s'', h1, h2, h3⟩ := (apply_outcome U i ha h).undo i
  exact ⟨s'', h1, same_iff.mpr ⟨h2, by rw [h3]⟩, h3⟩

/-- the hypotheses are satisfiable by a non-trivial value: replacing a package that carries a blocker -/
example : ∃ U s s' out, Inv s ∧ applicable U s (.replace 1 1 false) = true ∧
    applyCmd U s (.replace 1 1 false) = some (s', out) ∧ s'.plan.length = s.plan.length + 2 := by
  refine ⟨⟨fun _ => 0, fun _ => 0, fun _ => 0, fun _ _ => false⟩,
    { slots := [0], choices := [(0, 0)], limiters := [5], refcnt := [5], revb := [(0, 5)],
      plan := [.add 0 0 false, .incref 0 5] }, _, _, ⟨by decide +kernel, ?_, ?_⟩, by decide +kernel, rfl,
    by decide +kernel⟩
  · intro p; by_cases hp : p = 0 <;> simp [hp]
  · intro b; by_cases hb : b = 5 <;> simp [hb, List.count_cons]
    intro h; exact absurd h.symm hb

/-- **A refused operation changes nothing**: when `apply` returns its conflicts without logging anything
(`add_op`, `replace_op`), the snapshot is what it was — in particular the displaced package and its blockers
are back after a refused `replace_op`. -/
theorem refused_apply_noop_partial (U : Univ) (s s' : State) (c : Cmd) (out : List Conf) (i : Inv s)
    (ha : applicable U s c = true) (h : applyCmd U s c = some (s', out)) (hp : s'.plan = s.plan) :
    Same s' s := by
  obtain ⟨s'', h1, h2, _⟩ := revert_apply_partial U s s' c out i ha h
  rw [← hp, backtrack_self] at h1
  exact Option.some.inj h1 ▸ h2

/-- a refused replace exists: the new package is blocked, the old one carries a blocker of its own -/
example : ∃ U s s' out, applicable U s (.replace 1 1 false) = true ∧
    applyCmd U s (.replace 1 1 false) = some (s', out) ∧ out ≠ [] ∧ s'.plan = s.plan ∧ s'.slots = s.slots := by
  refine ⟨⟨fun _ => 0, fun _ => 0, fun _ => 0, fun b p => b == 7 && p == 1⟩,
    { slots := [0], choices := [(0, 0)], limiters := [5, 7], refcnt := [5, 7], revb := [(0, 5), (3, 7)],
      plan := [.add 0 0 false, .incref 0 5, .incref 3 7] }, _, _, by decide +kernel, rfl, by decide +kernel,
    by decide +kernel, by decide +kernel⟩

/-- **Rollback = replay of what remains.**  For every history of operations and rollbacks (to any position
recorded between operations, in any nesting), run from the empty planner: if it runs through, replaying only
the operations that remain on a fresh planner succeeds and gives the same snapshot — slot occupancy, limiters,
reverse blocker table, blocker reference counts, `vdb_filter`, forced restrictions as multisets,
`pkg_choices` as a map, and a log of the same length.

Full statement (false): the same for `exec` without the `applicable` test. -/
theorem backtrack_eq_replay_partial (U : Univ) (h : List Step) (r : Run) (hr : exec U Run.init h = .ok r) :
    ∃ t, replay U init (surviving h []) = some t ∧ Same r.st t :=
  ((exec_stable (stable_true U) trivial fun _ _ => trivial).1 r hr).2.2

/-- a history with a nested rollback over a compound operation that runs through -/
example : ∃ U r, exec U Run.init
    [.op (.add 0 0 false), .op (.incref 0 5), .op (.add 1 1 false), .op (.replace 2 2 false), .rollback 3,
     .op (.remove 0 0), .rollback 2, .op (.hardref 9)] = .ok r ∧ r.st.plan.length = 3 :=
  ⟨⟨fun p => p % 2, fun _ => 0, fun _ => 0, fun _ _ => false⟩, _, rfl, by decide +kernel⟩

/-- **No rollback ever raises** (the `KeyError`s / `AssertionError` of the `revert` methods are unreachable):
a history can only stop at an operation — one that raises or breaks its contract — or at an unknown position. -/
theorem rollback_never_raises_partial (U : Univ) (h : List Step) : exec U Run.init h ≠ .error .rollbackRaised :=
  (exec_stable (stable_true U) trivial fun _ _ => trivial).2

/-- **Every reachable planner state is consistent**: a package object is slotted at most once,
`pkg_choices` is keyed by exactly the slotted packages, a blocker is a limiter exactly while its reference
count is positive. -/
theorem reachable_inv (U : Univ) (h : List Step) (r : Run) (hr : exec U Run.init h = .ok r) :
    r.st.slots.Nodup ∧ (∀ p, p ∈ r.st.slots ↔ (r.st.choices.lookup p).isSome) ∧
    (∀ b, r.st.limiters.count b = if b ∈ r.st.refcnt then 1 else 0) :=
  let i := ((exec_stable (stable_true U) trivial fun _ _ => trivial).1 r hr).1
  ⟨i.nodup, i.dom, i.lim⟩

/-- all packages in one slot of one key, no blocker matches anything -/
def U₀ : Univ := ⟨fun _ => 0, fun _ => 0, fun _ => 0, fun _ _ => false⟩

/-- forced `add_op` of an already slotted package object: undoing it removes both entries and the binding -/
theorem revert_apply_counterexample_forced_readd :
    ∃ s s', applyCmd U₀ init (.add 0 0 false) = some (s, []) ∧ applyCmd U₀ s (.add 0 0 true) = some (s', []) ∧
      (backtrack U₀ s' s.plan.length).map (fun x => (x.slots, x.choices)) = some ([], []) ∧
      (s.slots, s.choices) = ([0], [(0, 0)]) :=
  ⟨_, _, rfl, rfl, by decide +kernel, by decide +kernel⟩

/-- `remove_op` naming another choice point: undoing it binds the package to that one -/
theorem revert_apply_counterexample_foreign_choices :
    ∃ s s', applyCmd U₀ init (.add 0 0 false) = some (s, []) ∧ applyCmd U₀ s (.remove 1 0) = some (s', []) ∧
      (backtrack U₀ s' s.plan.length).map (fun x => x.choices.lookup 0) = some (some 1) ∧
      s.choices.lookup 0 = some 0 :=
  ⟨_, _, rfl, rfl, by decide +kernel, by decide +kernel⟩

/-- forced `replace_op` in a doubly occupied slot: which package is displaced depends on the order of the
slot list, and that order is not restored by a rollback (here: `remove 0` undone puts `0` behind `1`) -/
theorem backtrack_eq_replay_counterexample_double_occupancy :
    ∃ s t, (replay U₀ init [.add 0 0 false, .add 1 1 true]) = some t ∧
      ((replay U₀ init [.add 0 0 false, .add 1 1 true, .remove 0 0]).bind fun x => backtrack U₀ x 2) = some s ∧
      s.slots.Perm t.slots ∧
      ((applyCmd U₀ s (.replace 2 2 true)).map fun x => x.1.slots) = some [0, 2] ∧
      ((applyCmd U₀ t (.replace 2 2 true)).map fun x => x.1.slots) = some [1, 2] :=
  ⟨_, _, rfl, rfl, by decide +kernel, by decide +kernel, by decide +kernel⟩

end Pkgcore.C17
