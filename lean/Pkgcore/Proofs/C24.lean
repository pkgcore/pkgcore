import Pkgcore.Proofs.C24Text
import Pkgcore.Proofs.C24Fs
/-! # C24: what the round trip and the atomic replacement rest on

Strings, lines and numbers are in `Proofs/C24Text`, the file system in `Proofs/C24Fs`.  Here, in this order: the lines
of a CONTENTS file; Python's slices and `index`, `parseLine` on each shape of token list and `parseLine_render`; a
rendered line is one line; the contents set as a dict keyed by location and the file read back; `atomicWriteOps` (which
`flushOps` is) as a `fill` with a rename; mutation histories. -/
namespace Pkgcore.C24
open Pkgcore.Generated.C24

theorem readLines_render (lines : List Str) (hl : ∀ l ∈ lines, l ≠ [] ∧ Spec.noLineBreak l) :
    readLines (lines.flatMap fun l => l ++ ['\n']) = lines := by
  rw [readLines, lines_render splitLines _ rfl splitLines_line lines fun l h => (hl l h).2, List.filter_append,
    List.filter_eq_self.mpr fun l h => by simpa using (hl l h).1]
  exact List.append_nil _

theorem pySlice_mid (pre mid suf : List Str) : pySlice (pre ++ mid ++ suf) pre.length suf.length = mid := by
  unfold pySlice
  rw [List.length_append, Nat.add_sub_cancel, List.take_left' rfl, List.drop_left' rfl]

theorem fromEnd_suffix (pre suf : List Str) : fromEnd? (pre ++ suf) suf.length = suf[0]? := by
  unfold fromEnd?
  rw [if_neg (by simp), List.length_append, Nat.add_sub_cancel, List.getElem?_append_right (Nat.le_refl _),
    Nat.sub_self]

theorem idxOf_first (x : Str) (a b : List Str) (h : x ∉ a) : (a ++ x :: b).idxOf? x = some a.length := by
  rw [List.idxOf?, List.findIdx?_append, ← List.idxOf?, List.idxOf?_eq_none_iff.mpr h, List.idxOf?_cons,
    if_pos (beq_self_eq_true x), Option.none_or, Option.map_some, Nat.zero_add]

/-- the three types whose line is tag and location, in one statement: `ht` lists them -/
theorem parseLine_simple (t : String) (mk : Str → Entry)
    (ht : t = "dir" ∧ mk = .dir ∨ t = "dev" ∧ mk = .dev ∨ t = "fif" ∧ mk = .fif) (loc : Str) :
    parseLine (tag t ++ ' ' :: loc) = some (mk (normpath loc)) := by
  have h : splitOn ' ' (tag t ++ ' ' :: loc) = tag t :: splitOn ' ' loc := by
    rw [splitOn_append_sep,
      splitOn_of_not_mem ' ' (tag t) (by rcases ht with ⟨rfl, _⟩ | ⟨rfl, _⟩ | ⟨rfl, _⟩ <;> decide +kernel)]
    rfl
  simp only [parseLine, h, List.head?_cons, List.drop_succ_cons, List.drop_zero, joinWith_splitOn]
  rcases ht with ⟨rfl, rfl⟩ | ⟨rfl, rfl⟩ | ⟨rfl, rfl⟩
  · rw [if_pos rfl]
  · rw [if_neg (by decide +kernel), if_pos rfl]
  · rw [if_neg (by decide +kernel), if_neg (by decide +kernel), if_pos rfl]

theorem parseLine_obj (line : Str) (mid : List Str) (x y : Str)
    (h : splitOn ' ' line = tag "obj" :: (mid ++ [x, y])) :
    parseLine line = (parseHex x).bind fun md5 => (parseInt y).bind fun mtime =>
      some (.obj (normpath (joinWith ' ' mid)) md5 mtime) := by
  simp only [parseLine, h, List.head?_cons]
  rw [if_neg (by decide +kernel), if_neg (by decide +kernel), if_neg (by decide +kernel), if_pos trivial,
    show pySlice (tag "obj" :: (mid ++ [x, y])) 1 2 = mid from pySlice_mid [tag "obj"] mid [x, y],
    show fromEnd? (tag "obj" :: (mid ++ [x, y])) 2 = some x from fromEnd_suffix (tag "obj" :: mid) [x, y],
    show fromEnd? (tag "obj" :: (mid ++ [x, y])) 1 = some y by
      rw [show tag "obj" :: (mid ++ [x, y]) = (tag "obj" :: mid ++ [x]) ++ [y] by simp]; exact fromEnd_suffix _ [y]]
  rfl

theorem parseLine_sym (line : Str) (a b : List Str) (y : Str) (ha : tag "->" ∉ a)
    (h : splitOn ' ' line = tag "sym" :: (a ++ tag "->" :: (b ++ [y]))) :
    parseLine line = (parseInt y).bind fun mtime =>
      some (.sym (normpath (joinWith ' ' a)) (joinWith ' ' b) mtime) := by
  have hidx : (tag "sym" :: (a ++ tag "->" :: (b ++ [y]))).idxOf? (tag "->") = some (a.length + 1) :=
    idxOf_first (tag "->") (tag "sym" :: a) (b ++ [y]) (by
      rw [List.mem_cons, not_or]; exact ⟨by decide, ha⟩)
  have hre : tag "sym" :: (a ++ tag "->" :: (b ++ [y])) = (tag "sym" :: a ++ [tag "->"]) ++ b ++ [y] := by simp
  have hloc : ((tag "sym" :: (a ++ tag "->" :: (b ++ [y]))).take (a.length + 1)).drop 1 = a := by
    rw [List.take_succ_cons, List.take_left' rfl]; rfl
  have htgt : pySlice (tag "sym" :: (a ++ tag "->" :: (b ++ [y]))) (a.length + 1 + 1) 1 = b := by
    rw [hre]; exact (by simp : (tag "sym" :: a ++ [tag "->"]).length = a.length + 1 + 1) ▸ pySlice_mid _ b [y]
  simp only [parseLine, h, List.head?_cons]
  rw [if_neg (by decide +kernel), if_neg (by decide +kernel), if_neg (by decide +kernel), if_neg (by decide +kernel),
    if_pos trivial, hidx]
  simp only [Option.bind_eq_bind, Option.bind_some, hloc, htgt]
  rw [hre, show fromEnd? ((tag "sym" :: a ++ [tag "->"]) ++ b ++ [y]) 1 = some y from fromEnd_suffix _ [y]]
  rfl

theorem tokens_obj (loc : Str) (md5 : Nat) (mtime : Int) :
    splitOn ' ' (renderLine (.obj loc md5 mtime))
      = tag "obj" :: (splitOn ' ' loc ++ [hexPad md5, renderInt mtime]) := by
  simp only [renderLine, joinWith, splitOn_append_sep, (num_token_line (hexPad_num md5)).1,
    (num_token_line (renderInt_num mtime)).1, splitOn_of_not_mem ' ' (tag "obj") (by decide +kernel)]
  simp

theorem tokens_sym (loc target : Str) (mtime : Int) :
    splitOn ' ' (renderLine (.sym loc target mtime))
      = tag "sym" :: (splitOn ' ' loc ++ tag "->" :: (splitOn ' ' target ++ [renderInt mtime])) := by
  simp only [renderLine, joinWith, splitOn_append_sep, (num_token_line (renderInt_num mtime)).1,
    splitOn_of_not_mem ' ' (tag "sym") (by decide +kernel), splitOn_of_not_mem ' ' (tag "->") (by decide +kernel)]
  simp

theorem parseLine_render (e : Entry) (hn : normpath e.loc = e.loc) (hr : Spec.Representable e) :
    parseLine (renderLine e) = some e := by
  cases e with
  | obj loc md5 mtime =>
    rw [parseLine_obj _ _ _ _ (tokens_obj loc md5 mtime), parseHex_hexPad, parseInt_renderInt, joinWith_splitOn,
      show normpath loc = loc from hn]
    rfl
  | sym loc target mtime =>
    rw [parseLine_sym _ _ _ _ hr.2.2 (tokens_sym loc target mtime), parseInt_renderInt, joinWith_splitOn,
      joinWith_splitOn, show normpath loc = loc from hn]
    rfl
  | dir loc =>
    rw [show renderLine (.dir loc) = tag "dir" ++ ' ' :: loc by simp [renderLine, tag],
      parseLine_simple "dir" .dir (.inl ⟨rfl, rfl⟩), show normpath loc = loc from hn]
  | dev loc =>
    rw [show renderLine (.dev loc) = tag "dev" ++ ' ' :: loc by simp [renderLine, tag],
      parseLine_simple "dev" .dev (.inr (.inl ⟨rfl, rfl⟩)), show normpath loc = loc from hn]
  | fif loc =>
    rw [show renderLine (.fif loc) = tag "fif" ++ ' ' :: loc by simp [renderLine, tag],
      parseLine_simple "fif" .fif (.inr (.inr ⟨rfl, rfl⟩)), show normpath loc = loc from hn]

theorem renderLine_nonempty_noLineBreak (e : Entry) (hr : Spec.Representable e) :
    renderLine e ≠ [] ∧ Spec.noLineBreak (renderLine e) := by
  refine ⟨by cases e <;> simp [renderLine, joinWith, tag], ?_⟩
  cases e with
  | obj loc md5 mtime =>
    refine noLineBreak_joinWith ' ' (by decide) _ fun p hp => ?_
    simp only [List.mem_cons, List.not_mem_nil, or_false] at hp
    rcases hp with rfl | rfl | rfl | rfl
    · exact ⟨by decide +kernel, by decide +kernel⟩
    · exact hr
    · exact (num_token_line (hexPad_num md5)).2
    · exact (num_token_line (renderInt_num mtime)).2
  | sym loc target mtime =>
    refine noLineBreak_joinWith ' ' (by decide) _ fun p hp => ?_
    simp only [List.mem_cons, List.not_mem_nil, or_false] at hp
    rcases hp with rfl | rfl | rfl | rfl | rfl
    · exact ⟨by decide +kernel, by decide +kernel⟩
    · exact hr.1
    · exact ⟨by decide +kernel, by decide +kernel⟩
    · exact hr.2.1
    · exact (num_token_line (renderInt_num mtime)).2
  | dir loc => exact noLineBreak_append _ _ (⟨by decide +kernel, by decide +kernel⟩) hr
  | dev loc => exact noLineBreak_append _ _ (⟨by decide +kernel, by decide +kernel⟩) hr
  | fif loc => exact noLineBreak_append _ _ (⟨by decide +kernel, by decide +kernel⟩) hr

theorem setAdd_eq_putBy : setAdd = Lib.putBy Entry.loc := rfl

theorem foldl_setAdd_of_nodup (l acc : List Entry) (h : ((acc ++ l).map Entry.loc).Nodup) :
    l.foldl setAdd acc = acc ++ l :=
  setAdd_eq_putBy ▸ Lib.foldl_fresh Entry.loc (Lib.putBy_fresh Entry.loc) l acc h

theorem sortEntries_perm (es : List Entry) : (sortEntries es).Perm es :=
  Lib.foldr_insert_perm insertEntry (fun _ => rfl) (fun _ _ _ => rfl) es

/-- what `ContentsFile(path)` reads from the file `_write` produced: the set, in the order it was written -/
theorem readContents_renderFile (S : List Entry) (hset : Spec.IsSet S) (hnorm : Spec.Normalised S)
    (hrep : ∀ e ∈ S, Spec.Representable e) : readContents (renderFile S) = some (sortEntries S) := by
  have hperm := sortEntries_perm S
  have hmem : ∀ e, e ∈ sortEntries S → e ∈ S := fun e he => hperm.mem_iff.mp he
  rw [readContents, renderFile, ← List.flatMap_map (f := renderLine) (g := fun l => l ++ ['\n']), readLines_render,
    Lib.mapM_map_eq_some fun e he => parseLine_render e (hnorm e (hmem e he)) (hrep e (hmem e he)), Option.map_some,
    foldl_setAdd_of_nodup (sortEntries S) [] ((hperm.map Entry.loc).nodup_iff.mpr hset)]
  · rfl
  · intro l hl
    obtain ⟨e, he, rfl⟩ := List.mem_map.mp hl
    exact renderLine_nonempty_noLineBreak e (hrep e (hmem e he))

theorem atomicWriteOps_eq (dir base : Str) (chunks : List Str) :
    atomicWriteOps dir base chunks
      = fill [] [.chmod (tmpName dir base) writePerms, .chown (tmpName dir base) rootUid rootGid]
          [.close (tmpName dir base)] (tmpName dir base) chunks
        ++ [.rename (tmpName dir base) (targetName dir base)] := by
  simp [atomicWriteOps, fill]

theorem abortOps_eq (dir base : Str) (written : List Str) :
    abortOps dir base written
      = fill [] [.chmod (tmpName dir base) writePerms, .chown (tmpName dir base) rootUid rootGid]
          [.close (tmpName dir base)] (tmpName dir base) written ++ [.unlink (tmpName dir base)] := by
  simp [abortOps, fill]

theorem atomicWriteOps_atomic (dir base : Str) (chunks : List Str) (fs : Fs) :
    Atomic (atomicWriteOps dir base chunks) fs (tmpName dir base) (targetName dir base) chunks.flatten :=
  fill_rename (atomicWriteOps_eq dir base chunks) (tmp_ne_target dir base) rfl rfl rfl fs

/-- writing a temp file next to the target and renaming it over the target leaves, at every prefix of the operation
list, the old or the complete new content at the target, and never touches any third file -/
theorem atomic_replace_prefix (dir base : Str) (chunks : List Str) (fs : Fs) (k : Nat) :
    ((run ((atomicWriteOps dir base chunks).take k) fs).read (targetName dir base) = fs.read (targetName dir base) ∨
     (run ((atomicWriteOps dir base chunks).take k) fs).read (targetName dir base) = some chunks.flatten) ∧
    (∀ q, q ≠ tmpName dir base → q ≠ targetName dir base →
      (run ((atomicWriteOps dir base chunks).take k) fs).read q = fs.read q) :=
  have h := atomicWriteOps_atomic dir base chunks fs
  ⟨h.oldOrNew k, h.frame k⟩

theorem filter_isSet (d : List Entry) (p : Entry → Bool) (h : Spec.IsSet d) : Spec.IsSet (d.filter p) :=
  (List.filter_sublist.map Entry.loc).nodup h

/-- the entries an operation can bring into the set -/
def opEntries : SetOp → List Entry
  | .add e => [e]
  | .update es => es
  | .symDiffUpdate es => es
  | _ => []

theorem applyOp_isSet (s : List Entry) (op : SetOp) (h : Spec.IsSet s) : Spec.IsSet (applyOp s op) := by
  unfold applyOp
  rw [setAdd_eq_putBy]
  cases op with
  | add e => exact Lib.nodup_putBy Entry.loc s e h
  | discard l => exact filter_isSet s _ h
  | clear => exact List.nodup_nil
  | update es => exact Lib.nodup_foldl_putBy Entry.loc es s h
  | differenceUpdate ls => exact filter_isSet s _ h
  | intersectionUpdate ls => exact filter_isSet s _ h
  | symDiffUpdate es => exact Lib.nodup_foldl_putBy Entry.loc _ _ (filter_isSet s _ h)

theorem mem_applyOp (s : List Entry) (op : SetOp) (y : Entry) (h : y ∈ applyOp s op) :
    y ∈ s ∨ y ∈ opEntries op := by
  unfold applyOp at h
  rw [setAdd_eq_putBy] at h
  cases op with
  | add e => exact (Lib.mem_putBy Entry.loc h).imp id fun e => by simp [opEntries, e]
  | discard l => exact Or.inl (List.mem_filter.mp h).1
  | clear => simp at h
  | update es => exact Lib.mem_foldl_putBy Entry.loc es s y h
  | differenceUpdate ls => exact Or.inl (List.mem_filter.mp h).1
  | intersectionUpdate ls => exact Or.inl (List.mem_filter.mp h).1
  | symDiffUpdate es =>
    rcases Lib.mem_foldl_putBy Entry.loc _ _ y h with h1 | h1
    · exact Or.inl (List.mem_filter.mp h1).1
    · have h2 := (List.mem_filter.mp h1).1
      rcases Lib.mem_foldl_putBy Entry.loc es [] y h2 with h3 | h3
      · simp at h3
      · exact Or.inr h3

theorem applyOps_isSet (s : List Entry) (hist : List SetOp) (h : Spec.IsSet s) : Spec.IsSet (applyOps s hist) := by
  unfold applyOps
  induction hist generalizing s with
  | nil => exact h
  | cons op r ih => exact ih _ (applyOp_isSet s op h)

theorem mem_applyOps (s : List Entry) (hist : List SetOp) (y : Entry) (h : y ∈ applyOps s hist) :
    y ∈ s ∨ ∃ op ∈ hist, y ∈ opEntries op := by
  unfold applyOps at h
  induction hist generalizing s with
  | nil => exact Or.inl h
  | cons op r ih =>
    rcases ih _ h with h1 | ⟨o, ho, hy⟩
    · rcases mem_applyOp s op y h1 with h2 | h2
      · exact Or.inl h2
      · exact Or.inr ⟨op, by simp, h2⟩
    · exact Or.inr ⟨o, by simp [ho], hy⟩

end Pkgcore.C24
