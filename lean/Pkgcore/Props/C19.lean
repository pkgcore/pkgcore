import Pkgcore.Proofs.C19
/-!
# C19 — an interrupted merge never leaves a replaced file half-written

The model is `Pkgcore.C18.mergeContents` (it logs every system call); a crash point is a prefix of the log
(`crashState env pre log k`, `k` arbitrary — beyond the length it is the final state).
-/
namespace Pkgcore.C19
open Pkgcore.C18 Pkgcore.C18.Spec Pkgcore.C19.Spec

/-- **Every crash point of every merge is crash-safe** — for every pre-existing file system, contents set, process
identity, offset flag, **whatever the merge would return** (normally, or `CannotOverwrite`/`FailedCopy`/`OSError`
half-way), and **every prefix `k`** of its system calls: each path that existed before holds its complete previous
or its complete new content and metadata (directories: same inode, permissions kept, ownership old or recorded),
nothing outside the contents set is created or modified apart from `'#new'` siblings.

`_partial`: under `NoDirOverSymlink` (no directory entry lands on a symlink); the full statement (the same without
that hypothesis) is false of the model and of the code: `merge_crash_safe_counterexample` (open finding
`C19-dir-over-symlink-window`).  What still holds there is `merge_crash_states`.  The other hypotheses are the
well-formedness conditions and finding guards of `C18.merge_places_contents_partial`, plus `NonDirsBelowRoot`
(which the proof does not use: at the root the first call of a build fails, `C18.build_root`). -/
theorem merge_crash_safe_partial (env : Env) (off : Bool) (pre : Fs) (es : List Entry)
    (hpre : pre.WF) (hdist : DistinctLocs es) (hclash : NoTmpClash es) (htree : TreeShaped es)
    (hsym : NoSymOverDir pre es) (hhl : HardlinkConsistent es) (hsolo : SymAtDirSolo pre es)
    (hroot : RootGuard off pre es) (hnr : NonDirsBelowRoot es) (hwin : NoDirOverSymlink pre es) :
    ∀ k : Nat, CrashSafe pre es (crashState env pre (mergeContents env off es pre).1.log k) :=
  fun k => reach_crashSafe hwin ((merge_crashStates_reach ⟨hpre, hclash, htree, hsym, hhl, hsolo⟩ hdist hroot).1 k)

/-- without the guard: the location of a directory entry that lands on a symlink may, in addition, be absent or
hold the directory that is being set up; everything else as in `merge_crash_safe_partial` -/
theorem merge_crash_states (env : Env) (off : Bool) (pre : Fs) (es : List Entry)
    (hpre : pre.WF) (hdist : DistinctLocs es) (hclash : NoTmpClash es) (htree : TreeShaped es)
    (hsym : NoSymOverDir pre es) (hhl : HardlinkConsistent es) (hsolo : SymAtDirSolo pre es)
    (hroot : RootGuard off pre es) (hnr : NonDirsBelowRoot es) :
    ∀ k : Nat, (∀ q, OldPathSafeW pre es (crashState env pre (mergeContents env off es pre).1.log k) q) ∧
               (∀ q, NewPathInside pre es (crashState env pre (mergeContents env off es pre).1.log k) q) := by
  have h := (merge_crashStates_reach (env := env) ⟨hpre, hclash, htree, hsym, hhl, hsolo⟩ hdist hroot).1
  exact fun k => ⟨reach_oldPathSafeW (h k), reach_newPathInside (h k)⟩

/-- the logged calls are the trajectory: the state the model ends in is the replay of its log, for every outcome -/
theorem merge_log_is_trajectory (env : Env) (off : Bool) (pre : Fs) (es : List Entry)
    (hpre : pre.WF) (hdist : DistinctLocs es) (hclash : NoTmpClash es) (htree : TreeShaped es)
    (hsym : NoSymOverDir pre es) (hhl : HardlinkConsistent es) (hsolo : SymAtDirSolo pre es)
    (hroot : RootGuard off pre es) (hnr : NonDirsBelowRoot es) :
    (mergeContents env off es pre).1.fs =
      crashState env pre (mergeContents env off es pre).1.log (mergeContents env off es pre).1.log.length :=
  (merge_crashStates_reach ⟨hpre, hclash, htree, hsym, hhl, hsolo⟩ hdist hroot).2

/-- **Other names of a replaced file are never touched** (second sentence of the property, at every crash point):
a path that is neither an entry location nor a `'#new'` sibling keeps its inode, content, permissions, ownership
and mtime through every prefix of every merge — also when it is a *hard link to a file that is being replaced*
(it shares the inode of an entry location, so any `chmod`/`chown`/`write` issued on the live path before the
rename would show through it).  No `NoDirOverSymlink` guard is needed: the window of that finding concerns entry
locations only. -/
theorem outside_paths_untouched (env : Env) (off : Bool) (pre : Fs) (es : List Entry)
    (hpre : pre.WF) (hdist : DistinctLocs es) (hclash : NoTmpClash es) (htree : TreeShaped es)
    (hsym : NoSymOverDir pre es) (hhl : HardlinkConsistent es) (hsolo : SymAtDirSolo pre es)
    (hroot : RootGuard off pre es) (hnr : NonDirsBelowRoot es)
    (q : Path) (i : Nat) (nd : Inode) (hq : pre.view q = some (i, nd))
    (hout : ∀ e ∈ es, e.loc ≠ q) (htmp : ¬ IsTmp es q) :
    ∀ k : Nat, (crashState env pre (mergeContents env off es pre).1.log k).view q = some (i, nd) := by
  intro k
  have h := (merge_crash_states env off pre es hpre hdist hclash htree hsym hhl hsolo hroot hnr k).1 q
  unfold OldPathSafeW OldPathSafe at h
  simp only [hq] at h
  rcases h with (h | ⟨e, he, hl, _⟩ | ⟨e, he, _, hl, _⟩ | h) | ⟨e, he, _, hl, _⟩
  · exact h
  · exact absurd hl (hout e he)
  · exact absurd hl (hout e he)
  · exact absurd h htmp
  · exact absurd hl (hout e he)

/-- a root where the set-uid binary `bin/su` has a second name, `stash/kept`, outside the contents set `hlEs` -/
def hlPre : Fs :=
  ⟨[([], 1, ⟨.dir, 0o755, 0, 0, 0⟩), (["bin"], 2, ⟨.dir, 0o755, 0, 0, 0⟩), (["stash"], 4, ⟨.dir, 0o700, 0, 0, 0⟩),
    (["su", "bin"], 3, ⟨.file "6f6c64", 0o4755, 0, 0, 1000⟩),
    (["kept", "stash"], 3, ⟨.file "6f6c64", 0o4755, 0, 0, 1000⟩)], 5⟩
def hlEs : List Entry := [⟨["su", "bin"], .reg "6e6577" none, 0o4755, 0, 0, 2000⟩]

/-! non-vacuity: the binary is replaced; the hypotheses but `pre.WF` hold, the merge succeeds with 7 calls, and
through all of its crash points the other name still shows the old inode with its `04755` -/
example : (mergeContents exEnv true hlEs hlPre).2.isOk = true ∧ (mergeContents exEnv true hlEs hlPre).1.log.length = 7 ∧
    DistinctLocs hlEs ∧ NoTmpClash hlEs ∧ TreeShaped hlEs ∧ NoSymOverDir hlPre hlEs ∧ HardlinkConsistent hlEs ∧
    SymAtDirSolo hlPre hlEs ∧ RootGuard true hlPre hlEs ∧ NonDirsBelowRoot hlEs ∧
    (∀ e ∈ hlEs, e.loc ≠ ["kept", "stash"]) ∧ ¬ IsTmp hlEs ["kept", "stash"] ∧
    ((crashStates exEnv hlPre (mergeContents exEnv true hlEs hlPre).1.log).all fun f =>
      decide (f.view ["kept", "stash"] = some (3, ⟨.file "6f6c64", 0o4755, 0, 0, 1000⟩))) = true ∧
    (mergeContents exEnv true hlEs hlPre).1.fs.view ["su", "bin"] = some (5, ⟨.file "6e6577", 0o4755, 0, 0, 2000⟩) := by
  decide +kernel

/-! non-vacuity: the example merge of C18 (a file replaced through its `'#new'` sibling, a hard link, a kept
directory with a change of ownership, missing parents) satisfies the two hypotheses added here, and e.g. its
crash point 4 (temporary written, ownership not yet set) is crash-safe by evaluation as well -/
example : (mergeContents exEnv true exEs exPre).2.isOk = true ∧ NoDirOverSymlink exPre exEs ∧ NonDirsBelowRoot exEs ∧
    crashFailures exPre exEs (crashState exEnv exPre (mergeContents exEnv true exEs exPre).1.log 4) = [] ∧
    (crashState exEnv exPre (mergeContents exEnv true exEs exPre).1.log 4).view ["f#new", "d"] ≠ none := by decide +kernel

/-- **The driver evaluates the specification itself** -/
theorem crashSafe_bounded_iff (pre : Fs) (es : List Entry) (cur : Fs) :
    CrashSafe pre es cur ↔ crashFailures pre es cur = [] := by
  have hold : (∀ q, OldPathSafe pre es cur q) ↔ ∀ q ∈ keys pre, OldPathSafe pre es cur q :=
    forall_path_iff_keys fun q hq => by unfold OldPathSafe; rw [hq]; trivial
  have hnew : (∀ q, NewPathInside pre es cur q) ↔ ∀ q ∈ keys cur, NewPathInside pre es cur q :=
    forall_path_iff_keys fun q hq _ hc => absurd hq hc
  unfold crashFailures
  simp only [List.append_eq_nil_iff, List.filter_eq_nil_iff, Bool.not_eq_true', decide_eq_false_iff_not,
    Classical.not_not, ← hold, ← hnew]
  exact ⟨fun h => ⟨h.old, h.new⟩, fun h => ⟨h.1, h.2⟩⟩

example : crashFailures exPre exEs ⟨[], 1⟩ ≠ [] := by decide +kernel

/-- the full statement fails: a directory entry over a dangling symlink — after `mkdir` (EEXIST) and `unlink`
the path that existed before holds neither its old nor its new content: it is absent -/
theorem merge_crash_safe_counterexample :
    ∃ (env : Env) (pre : Fs) (es : List Entry) (k : Nat),
      DistinctLocs es ∧ NoTmpClash es ∧ TreeShaped es ∧ NoSymOverDir pre es ∧ HardlinkConsistent es ∧
      SymAtDirSolo pre es ∧ RootGuard true pre es ∧ NonDirsBelowRoot es ∧ (mergeContents env true es pre).2.isOk = true ∧
      ¬ CrashSafe pre es (crashState env pre (mergeContents env true es pre).1.log k) := by
  refine ⟨⟨0o022, 0, 0⟩,
    ⟨[([], 1, ⟨.dir, 0o755, 0, 0, 0⟩), (["d"], 2, ⟨.sym "nowhere", 0o777, 0, 0, 5⟩)], 3⟩,
    [⟨["d"], .dir, 0o755, 0, 0, 7⟩], 2,
    by decide +kernel, by decide +kernel, by decide +kernel, by decide +kernel, by decide +kernel,
    by decide +kernel, by decide +kernel, by decide +kernel, by decide +kernel, ?_⟩
  rw [crashSafe_bounded_iff]
  decide +kernel

/-- **Replace-by-rename is atomic at every crash point** (the lemma every "replaced atomically" clause rests on):
while `copyfile` replaces an existing non-directory, at every prefix of its system calls the location holds the
old inode, untouched, or the complete new one. -/
theorem atomic_replace_prefix (env : Env) (s s' : St) (x : Entry) (i : Nat) (old : Inode)
    (hnd : x.isDir = false) (hwf : s.fs.WF) (hold : s.fs.view x.loc = some (i, old))
    (h : copyfile env s x = (s', .ok ())) :
    ∃ ops, s'.log = s.log ++ ops ∧ ∀ k : Nat,
      (run env s.fs ((ops.map Prod.fst).take k)).view x.loc = some (i, old) ∨
      ∃ j, (run env s.fs ((ops.map Prod.fst).take k)).view x.loc = some (j, x.inode) := by
  obtain ⟨⟨ops, h1, _, h3⟩, post⟩ := copyfile_spec (env := env) hnd hwf
  rw [h] at h1 post
  have post := post rfl
  refine ⟨ops, h1, fun k => ?_⟩
  rcases h3 k x.loc with h4 | ⟨h4, _⟩ | ⟨_, h4 | ⟨_, j, h4⟩⟩ | ⟨h4, _⟩
  · left; rw [h4, hold]
  · rw [hold] at h4; cases h4
  · exact absurd h4.symm (tmpOf_ne post.locNe)
  · right; exact ⟨j, h4⟩
  · rw [hnd] at h4; cases h4

example : exPre.view ["f", "d"] = some (3, ⟨.file "6f6c64", 0o600, 0, 0, 1000⟩) ∧
    (copyfile exEnv ⟨exPre, []⟩ exEs[0]).2.isOk = true := by decide +kernel

end Pkgcore.C19
