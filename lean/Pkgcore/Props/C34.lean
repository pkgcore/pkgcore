import Pkgcore.Proofs.C34
import Pkgcore.Proofs.C34Pat
/-!
# C34 — saved-environment filtering removes exactly the named definitions

`mainRun`, `processScope`, the `walk*` functions mirror `pkgcore.ebuild.filter_env` (after the `fix:` commits);
`Spec.removeRegions` is "the input minus these index regions".  `data` is the text handed to `main_run`; the model
appends the NUL sentinel as `main_run` does.  The theorems speak about every run that returns (`= .ok …`);
`fuel_suffices` shows the only other outcome is `Err.index` (an uncaught `IndexError` of the Python code).
-/
namespace Pkgcore.C34
open Pkgcore.C34.Spec

/-- **every walker only moves forward**, at every fuel: the position a walker returns is not before the
position it was started at (strictly behind it for `walk_here_statement` and the `${…}` walker) -/
theorem positions_advance (n : Nat) : Mono n :=
  have W := walks n
  { here := fun b pos e _ h => (W.here b pos e).post h
    cloop := fun b st pos e l _ h => (W.cloop b st pos e l).post h
    complex := fun b pos e l _ h => (W.complex b pos e l).post h
    esc := fun b pos e _ h => (W.esc b pos e).post h
    dname := fun b pos e _ hle h => (W.dname b pos e hle).post h
    dbrace := fun b pos e _ h => (W.dbrace b pos e).post h
    dollar := fun b pos e dq _ h => (W.dollar b pos e dq).post h
    assign := fun b pos e _ h => (W.assign b pos e).post h
    sloop := fun emit b vm fm e s _ h => ((W.sloop emit b vm fm e s).post h).1
    scope := fun emit b pos vm fm e _ h => ((W.scope emit b pos vm fm e).post h).1 }

/-- **the output is a concatenation of disjoint input windows in order**: what `main_run` writes is
`buff[a₁:b₁] + buff[a₂:b₂] + …` with `a₁ ≤ b₁ ≤ a₂ ≤ b₂ ≤ … ≤ len(data)` — in particular no window reaches
the appended NUL and nothing but pieces of the input is written -/
theorem output_is_window_concat (data : List Char) (vm fm : Option (List Char → Bool)) (out : List Char)
    (r : ScopeResult) (hno : '\x00' ∉ data) (h : mainRun data vm fm = .ok (out, r)) :
    out = (r.windows.map fun w => slice (data ++ ['\x00']) w.1 w.2).flatten ∧
    (∀ w ∈ r.windows, w.1 ≤ w.2 ∧ w.2 ≤ data.length) ∧
    r.windows.Pairwise (fun w1 w2 => w1.2 ≤ w2.1) := by
  obtain ⟨h1, h2⟩ := mainRun_written data vm fm out r hno h
  exact ⟨h1, h2.wins, h2.pw⟩

example : '\x00' ∉ "A=1\nf() { :; }\nB=2\n".toList := by decide +kernel

/-- **nothing outside a filtered statement is dropped, nothing is added**: the output is the input with
exactly the index regions `[start, stop)` of the statements marked filtered removed -/
theorem filtered_windows_are_statements (data : List Char) (vm fm : Option (List Char → Bool))
    (out : List Char) (r : ScopeResult) (hno : '\x00' ∉ data) (h : mainRun data vm fm = .ok (out, r)) :
    out = removeRegions (filteredRegions r.stmts) data := by
  obtain ⟨h1, h2⟩ := mainRun_written data vm fm out r hno h
  rw [h1, h2.text]
  unfold removeRegions
  simp

/-- **no stray bytes**: every character written is a character of the input; the NUL sentinel never is -/
theorem sentinel_never_emitted (data : List Char) (vm fm : Option (List Char → Bool)) (out : List Char)
    (r : ScopeResult) (hno : '\x00' ∉ data) (h : mainRun data vm fm = .ok (out, r)) :
    (∀ c ∈ out, c ∈ data) ∧ '\x00' ∉ out := by
  have h3 := filtered_windows_are_statements data vm fm out r hno h
  have hsub : ∀ c ∈ out, c ∈ data := by
    rw [h3]; exact removeFrom_subset _ data 0
  exact ⟨hsub, fun hc => hno (hsub _ hc)⟩

/-- **the bytes written are the UTF-8 encoding of the filtered text, character by character**: `process_scope` hands
`out.write` one `buff[a:b].encode("utf-8")` per window; their concatenation is the encoding of the output text, i.e.
of the input minus the filtered statements — every character that is kept is written with its complete byte
sequence, no byte of a removed character is written, whatever multi-byte text precedes a cut (the cuts are made in
the text, not in its encoding) -/
theorem written_bytes_are_encoded_text (data : List Char) (vm fm : Option (List Char → Bool)) (out : List Char)
    (r : ScopeResult) (hno : '\x00' ∉ data) (h : mainRun data vm fm = .ok (out, r)) :
    writtenBytes data r = utf8 out ∧
    writtenBytes data r = utf8 (removeRegions (filteredRegions r.stmts) data) := by
  have h1 := (output_is_window_concat data vm fm out r hno h).1
  have h3 := filtered_windows_are_statements data vm fm out r hno h
  have hb : writtenBytes data r = utf8 out := by
    rw [h1, utf8_flatten]
    simp [writtenBytes, List.map_map, Function.comp_def]
  exact ⟨hb, by rw [hb, ← h3]⟩

/-- a run the theorem speaks about, with two- and three-byte characters before the cut: `é=1`, `B=→`, `C=2` filtered by
the variable token `B` — the bytes written are `é=1\n` (5 bytes), `\nC=2\n` -/
example : (match mainRunNames ['é', '=', '1', '\n', 'B', '=', '→', '\n', 'C', '=', '2', '\n'] [['B']] [] false false with
    | .ok (_, r) => writtenBytes ['é', '=', '1', '\n', 'B', '=', '→', '\n', 'C', '=', '2', '\n'] r ==
        [0xc3, 0xa9, 0x3d, 0x31, 0x0a, 0x0a, 0x43, 0x3d, 0x32, 0x0a]
    | .error _ => false) = true := by decide +kernel

/-- cutting the *encoded* dump at the character offsets instead (what an "encode once" shortcut does) is a different
function as soon as a multi-byte character precedes the cut: for `é=1␤B=2␤` and the window `[4, 8)` (the text `B=2␤`) it
yields the bytes of `␤B=2` -/
theorem byte_cut_at_char_offsets_counterexample :
    ((utf8 ['é', '=', '1', '\n', 'B', '=', '2', '\n']).take 8).drop 4 ≠ utf8 (slice ['é', '=', '1', '\n', 'B', '=', '2', '\n'] 4 8) := by
  decide +kernel

/-- **no NUL byte is written** (and so none of the appended sentinel): the bytes written contain a zero byte only if the
dump did -/
theorem no_nul_byte_written (data : List Char) (vm fm : Option (List Char → Bool)) (out : List Char)
    (r : ScopeResult) (hno : '\x00' ∉ data) (h : mainRun data vm fm = .ok (out, r)) :
    (0 : UInt8) ∉ writtenBytes data r := by
  rw [(written_bytes_are_encoded_text data vm fm out r hno h).1]
  exact utf8_no_nul out (sentinel_never_emitted data vm fm out r hno h).2

/-- **a statement is filtered exactly when the predicate of its kind selects its name**: functions by the function
predicate, assignments by the variable predicate (no predicate: nothing is filtered); its region is well formed -/
theorem statements_follow_matchers (data : List Char) (vm fm : Option (List Char → Bool)) (out : List Char)
    (r : ScopeResult) (h : mainRun data vm fm = .ok (out, r)) :
    ∀ st ∈ r.stmts, st.filtered = applyMatch (if st.isFunc then fm else vm) st.name ∧ st.start ≤ st.stop :=
  fun st hst => have ⟨h1, h2, _⟩ := mainRun_stmts data vm fm out r h st hst; ⟨h1, h2⟩

/-- **the pattern `build_regex_string` builds selects by whole-name match**: for tokens that are alternations `p₁|p₂|…`
of simple patterns (plain names, escaped punctuation, `.`, `*`/`+`/`?` on one character) the text built by
`build_regex_string` is inside the modelled `re` subset and `.match` on it selects exactly the names some token
matches **as a whole** (whitelist mode: the names no token matches), whatever the number and order of the tokens and
however the names share prefixes, suffixes or infixes with them.  (Full strength since the fix that groups a single
token too; before it the statement failed for one token with a top-level `|`, see
`ungrouped_single_token_counterexample`.) -/
theorem patterns_select_whole_name (ts : List Token) (hp : ∀ t ∈ ts, renderToken t ≠ []) (whitelist : Bool) :
    ∃ m, mkMatcher (ts.map renderToken) whitelist = .ok m ∧
      ∀ name, '\n' ∉ name → applyMatch m name = (!ts.isEmpty && selects ts whitelist name) := by
  cases hts : ts with
  | nil => exact ⟨none, by simp [mkMatcher], by intro name _; simp [applyMatch]⟩
  | cons t0 ts0 =>
    have hne : ts ≠ [] := by simp [hts]
    have hfl : ts.flatten ≠ [] := by
      have h0 : t0 ≠ [] := fun h0 => hp t0 (by simp [hts]) (h0 ▸ renderToken_nil)
      rw [hts]
      cases t0 with
      | nil => exact absurd rfl h0
      | cons p t0 => simp
    rw [← hts]
    refine ⟨some (patRe ts.flatten whitelist).matches, ?_, fun name hn => ?_⟩
    · unfold mkMatcher
      have : ts.map renderToken ≠ [] := by simpa using hne
      simp only [this, ↓reduceIte, build_tokens ts hne hp whitelist, pat_parse ts.flatten hfl whitelist]
    · have hemp : ts.isEmpty = false := by simp [hts]
      simp only [applyMatch, pat_match _ whitelist name hn, hemp, selects, matchToken, List.any_flatten,
        Bool.not_false, Bool.true_and]

example : ∀ t ∈ [[literal "CFLAGS".toList], [literal "T".toList, literal "D".toList],
    [[(.lit 'P', .one), (.lit '_', .one), (.any, .star)]]], renderToken t ≠ [] := by decide +kernel

/-- the text the code built before the fix for the single token `A|B` (`^A|B$`, not grouped) selects `AX`; the
specification (whole-name match of the token) does not, and neither does the grouped text built now -/
theorem ungrouped_single_token_counterexample :
    (parseRe ['^', 'A', '|', 'B', '$']).map (·.matches ['A', 'X']) = some true ∧
    selectsText [['A', '|', 'B']] false ['A', 'X'] = some false ∧
    buildRegexString [['A', '|', 'B']] false = some ['^', '(', '?', ':', 'A', '|', 'B', ')', '$'] ∧
    (match mkMatcher [['A', '|', 'B']] false with
      | .ok m => applyMatch m ['A', 'X']
      | .error _ => true) = false := by
  decide +kernel

/-- the runs of `main_run` are runs of the scanner with some pair of predicates: the window theorems above apply -/
theorem names_run_is_scanner_run (data : List Char) (vtoks ftoks : List (List Char)) (vwl fwl : Bool)
    (out : List Char) (r : ScopeResult) (h : mainRunNames data vtoks ftoks vwl fwl = .ok (out, r)) :
    ∃ vm fm, mkMatcher vtoks vwl = .ok vm ∧ mkMatcher ftoks fwl = .ok fm ∧ mainRun data vm fm = .ok (out, r) := by
  unfold mainRunNames at h
  cases hv : mkMatcher vtoks vwl with
  | error e => simp [hv] at h
  | ok vm =>
    cases hf : mkMatcher ftoks fwl with
    | error e => simp [hv, hf] at h
    | ok fm =>
      cases hm : mainRun data vm fm with
      | error e => simp [hv, hf, hm] at h
      | ok x =>
        simp only [hv, hf, hm, Except.ok.injEq] at h
        exact ⟨vm, fm, rfl, rfl, by rw [hm, h]⟩

/-- **a statement is filtered exactly when the token list of its kind selects its name** — `main_run` with the token
lists actually passed: an assignment / a function definition is removed iff some variable / function token matches
its whole name (whitelist mode: iff none does); with no tokens of a kind nothing of that kind is removed -/
theorem statements_selected_by_name (data : List Char) (vts fts : List Token) (hv : ∀ t ∈ vts, renderToken t ≠ [])
    (hf : ∀ t ∈ fts, renderToken t ≠ []) (vwl fwl : Bool) (out : List Char) (r : ScopeResult)
    (h : mainRunNames data (vts.map renderToken) (fts.map renderToken) vwl fwl = .ok (out, r)) :
    ∀ st ∈ r.stmts, st.filtered =
      if st.isFunc then (!fts.isEmpty && selects fts fwl st.name)
      else (!vts.isEmpty && selects vts vwl st.name) := by
  obtain ⟨vm, fm, h1, h2, h3⟩ := names_run_is_scanner_run _ _ _ _ _ _ _ h
  obtain ⟨vm', hv1, hv2⟩ := patterns_select_whole_name vts hv vwl
  obtain ⟨fm', hf1, hf2⟩ := patterns_select_whole_name fts hf fwl
  rw [h1] at hv1; rw [h2] at hf1
  cases hv1; cases hf1
  intro st hst
  obtain ⟨hsel, _, hname⟩ := mainRun_stmts data vm fm out r h3 st hst
  rw [hsel]
  split
  · exact hf2 _ hname
  · exact hv2 _ hname

/-- a run the theorem speaks about: `A=1`, `AB=2` filtered by the variable tokens `A`, `C` — only `A=1` goes -/
example : (match mainRunNames ['A', '=', '1', '\n', 'A', 'B', '=', '2', '\n'] [['A'], ['C']] [] false false with
    | .ok (out, _) => out == ['\n', 'A', 'B', '=', '2', '\n']
    | .error _ => false) = true := by decide +kernel

example : [[literal ['A']], [literal ['C']]].map renderToken = [['A'], ['C']] := by decide +kernel

/-- **plain names select exactly themselves**: when the tokens are plain names (no regular-expression character),
an assignment / function is removed iff its name **is** one of the names passed (whitelist mode: iff it is not) — a name
that merely starts with, ends with or contains one of them is not affected -/
theorem plain_names_selected_exactly (data : List Char) (vnames fnames : List (List Char))
    (hv : ∀ n ∈ vnames, n ≠ [] ∧ ∀ c ∈ n, isSpecial c = false)
    (hf : ∀ n ∈ fnames, n ≠ [] ∧ ∀ c ∈ n, isSpecial c = false) (vwl fwl : Bool) (out : List Char) (r : ScopeResult)
    (hno : '\x00' ∉ data) (h : mainRunNames data vnames fnames vwl fwl = .ok (out, r)) :
    ∀ st ∈ r.stmts, st.filtered =
      if st.isFunc then (!fnames.isEmpty && (fwl != fnames.contains st.name))
      else (!vnames.isEmpty && (vwl != vnames.contains st.name)) := by
  obtain ⟨ev, nv, sv⟩ := plain_tokens vnames hv
  obtain ⟨ef, nf, sf⟩ := plain_tokens fnames hf
  rw [← ev, ← ef] at h
  have := statements_selected_by_name data _ _ nv nf vwl fwl out r h
  intro st hst
  rw [this st hst, sv, sf]
  simp

example : ∀ n ∈ ["CFLAGS".toList, "LDFLAGS".toList, "T".toList], n ≠ [] ∧ ∀ c ∈ n, isSpecial c = false := by decide +kernel

/-- **the scanner terminates**: with the fuel `mainRun` uses (`6·len + 16`; one unit per call and per loop
iteration) no walker ever runs out — every loop iteration of every function moves at least one character
forward, which for the comment walks depends on the NUL sentinel `main_run` appends.  So a run either
returns or stops with an uncaught `IndexError`; it never spins (the empty here-document word used to) -/
theorem fuel_suffices (data : List Char) (vm fm : Option (List Char → Bool)) :
    mainRun data vm fm ≠ .error .fuel ∧
    ((∃ out r, mainRun data vm fm = .ok (out, r)) ∨ mainRun data vm fm = .error .index) := by
  have h := (mainRun_ret data vm fm).2 ⟨'\x00', by simp, by decide⟩ trivial
  refine ⟨h, ?_⟩
  cases hm : mainRun data vm fm with
  | ok x => left; exact ⟨x.1, x.2, rfl⟩
  | error e =>
    cases e with
    | index => right; rfl
    | fuel => exact absurd hm h

/-- **only ASCII whitespace separates words**: the scanner's `isspace` (generated from the code's own predicate) is true
for the characters 9–13 and 28–32 and for nothing else — in particular for no printable non-ASCII space (U+00A0,
U+3000, …), which bash writes raw into a dump and does not split words at -/
theorem space_only_ascii (c : Char) : isSpace c = (decide (9 ≤ c.toNat ∧ c.toNat ≤ 13) || decide (28 ≤ c.toNat ∧ c.toNat ≤ 32)) := by
  simp [isSpace, inRanges, Generated.C34.spaceRanges]

/-- the generated `str.isspace` / `str.isalnum` tables, on ASCII: blanks are 9–13 and 28–32, alphanumerics
are the digits and letters -/
theorem space_tables_ascii :
    ((List.range 128).all fun i =>
      (isSpace (Char.ofNat i) == (decide (9 ≤ i ∧ i ≤ 13) || decide (28 ≤ i ∧ i ≤ 32))) &&
      (isAlnum (Char.ofNat i) == (decide (48 ≤ i ∧ i ≤ 57) || decide (65 ≤ i ∧ i ≤ 90) || decide (97 ≤ i ∧ i ≤ 122)))) = true := by
  rw [List.all_eq_true]
  intro i hi
  have hi : i < 128 := List.mem_range.1 hi
  have hn : (Char.ofNat i).toNat = i := Lib.char_toNat_ofNat (by omega)
  rw [space_only_ascii, isAlnum_ascii _ (by omega), hn]
  simp [inRanges, hn, Bool.or_assoc]

end Pkgcore.C34
