import Pkgcore.Spec.C23
import Pkgcore.Proofs.Lib
/-!
The masks of the code against the bit positions of the specification; `update_filter_map`, the in-place rewriting every
trigger is; `Trigger.step`, what a trigger does to one entry, and what a step can do to each field;
`runTriggers_eq_map`: on distinct locations a run of triggers is `c.map (hardenWith ts)`, the fold of the steps.  Each
clause of `Hardened` is then a property of that fold, got from the step facts by `hardenWith_inv` (kept by every step),
`hardenWith_est` (established by one step, kept by the rest) or `hardenWith_idem` (owner and group): a `hardenWith_*`
lemma per clause (kind, location and payload in one), for any trigger list, under the hypothesis on the list that the
clause needs, if any; `harden_spec` of Props/C23 collects them for a `Standard` list.  Last: the checker `hardenedB`,
the contents reset, the names of the generated trigger orders, renaming of locations.  `Trigger.step`, `hardenWith` and
`Entry.rename` are vocabulary of the property statements.
-/
namespace Pkgcore.C23
open Pkgcore.C23.Spec

theorem testBit_clearBits (m mask i : Nat) :
    (clearBits m mask).testBit i = (m.testBit i && !mask.testBit i) := by
  simp only [clearBits, Nat.testBit_xor, Nat.testBit_and]
  cases m.testBit i <;> cases mask.testBit i <;> rfl

theorem and_bne_zero_iff (m mask : Nat) :
    (m &&& mask != 0) = true ↔ ∃ i, m.testBit i = true ∧ mask.testBit i = true := by
  rw [bne_iff_ne]
  constructor
  · intro h
    obtain ⟨i, hi⟩ := Nat.exists_testBit_of_ne_zero h
    exact ⟨i, by simpa using hi⟩
  · rintro ⟨i, h1, h2⟩ h
    have := Nat.testBit_and m mask i
    rw [h, Nat.zero_testBit, h1, h2] at this
    cases this

theorem and_eq_self_iff (a b : Nat) : (a &&& b = a) ↔ ∀ i, a.testBit i = true → b.testBit i = true := by
  constructor
  · intro h i hi
    have := congrArg (fun x => x.testBit i) h
    simp only [Nat.testBit_and, hi, Bool.true_and] at this
    exact this
  · intro h
    apply Nat.eq_of_testBit_eq
    intro i
    rw [Nat.testBit_and]
    cases ha : a.testBit i
    · rfl
    · simp [h i ha]

theorem bits_6002 (i : Nat) : (0o6002 : Nat).testBit i = decide (i = 1 ∨ i = 10 ∨ i = 11) := by
  rw [show (0o6002 : Nat) = 2 ^ 1 ||| (2 ^ 10 ||| 2 ^ 11) from rfl]
  simp only [Nat.testBit_or, Nat.testBit_two_pow, Bool.decide_or, eq_comm]

theorem bits_6000 (i : Nat) : (0o6000 : Nat).testBit i = decide (i = 10 ∨ i = 11) := by
  rw [show (0o6000 : Nat) = 2 ^ 10 ||| 2 ^ 11 from rfl]
  simp only [Nat.testBit_or, Nat.testBit_two_pow, Bool.decide_or, eq_comm]

theorem bits_2 (i : Nat) : (0o002 : Nat).testBit i = decide (i = 1) := by
  rw [show (0o002 : Nat) = 2 ^ 1 from rfl]
  simp only [Nat.testBit_two_pow, eq_comm]

theorem or_mask_eq_iff (a b : Nat) :
    (a ||| 0o6002 = b ||| 0o6002) ↔ ∀ i, i ≠ 1 → i ≠ 10 → i ≠ 11 → a.testBit i = b.testBit i := by
  constructor
  · intro h i h1 h10 h11
    have := congrArg (fun x => x.testBit i) h
    simp only [Nat.testBit_or, bits_6002] at this
    simpa [h1, h10, h11] using this
  · intro h
    apply Nat.eq_of_testBit_eq
    intro i
    rw [Nat.testBit_or, Nat.testBit_or, bits_6002]
    by_cases hi : i = 1 ∨ i = 10 ∨ i = 11
    · simp [hi]
    · have : i ≠ 1 ∧ i ≠ 10 ∧ i ≠ 11 := by omega
      rw [h i this.1 this.2.1 this.2.2]

theorem unsafeMode_iff (m : Nat) : unsafeMode m = true ↔ Unsafe m := by
  unfold unsafeMode Unsafe setuid setgid worldWritable
  rw [Bool.and_eq_true, and_bne_zero_iff, and_bne_zero_iff]
  constructor
  · rintro ⟨⟨i, hi, hm⟩, ⟨j, hj, hm2⟩⟩
    rw [bits_6000] at hm
    rw [bits_2] at hm2
    simp only [decide_eq_true_eq] at hm hm2
    subst hm2
    rcases hm with rfl | rfl
    · exact ⟨Or.inr hi, hj⟩
    · exact ⟨Or.inl hi, hj⟩
  · rintro ⟨h | h, hw⟩
    · exact ⟨⟨11, h, by decide⟩, ⟨1, hw, by decide⟩⟩
    · exact ⟨⟨10, h, by decide⟩, ⟨1, hw, by decide⟩⟩

theorem worldWritable_iff (m : Nat) : (m &&& 0o002 != 0) = true ↔ worldWritable m = true := by
  unfold worldWritable
  rw [and_bne_zero_iff]
  constructor
  · rintro ⟨j, hj, hm2⟩
    rw [bits_2] at hm2
    simp only [decide_eq_true_eq] at hm2
    subst hm2; exact hj
  · intro h; exact ⟨1, h, by decide⟩

theorem Unsafe.mono {m m' : Nat} (hsub : ∀ i, m'.testBit i = true → m.testBit i = true) (h : Unsafe m') : Unsafe m :=
  ⟨h.1.imp (hsub 11) (hsub 10), hsub 1 h.2⟩

theorem clear6002_safe (m : Nat) : ¬ Unsafe (clearBits m 0o6002) := by
  rintro ⟨_, hw⟩
  unfold worldWritable at hw
  rw [testBit_clearBits, bits_6002] at hw
  simp at hw

theorem clear2_not_ww (m : Nat) : worldWritable (clearBits m 0o002) = false := by
  unfold worldWritable
  rw [testBit_clearBits, bits_2]
  simp

theorem update_cons_of_ne (x : Entry) (xs l : CSet) (h : ∀ y ∈ l, x.loc ≠ y.loc) :
    update (x :: xs) l = x :: update xs l := by
  induction l generalizing xs with
  | nil => rfl
  | cons y l ih =>
    show update (dictSet (x :: xs) y) l = x :: update (dictSet xs y) l
    rw [dictSet, if_neg (h y (by simp)), ih _ fun z hz => h z (by simp [hz])]

/-- `cset.update(f(x) for x in cset if p(x))` -/
theorem update_filter_map (p : Entry → Bool) (f : Entry → Entry) (hf : ∀ e, (f e).loc = e.loc)
    (c : CSet) (hnd : (c.map (·.loc)).Nodup) :
    update c ((c.filter p).map f) = c.map (fun e => if p e then f e else e) := by
  induction c with
  | nil => rfl
  | cons x xs ih =>
    rw [List.map_cons, List.nodup_cons] at hnd
    -- what is written after `x` has been dealt with goes to locations of `xs`, none of which is `x`'s
    have hx : ∀ y ∈ (xs.filter p).map f, x.loc ≠ y.loc := by
      intro y hy h
      obtain ⟨z, hz, rfl⟩ := List.mem_map.1 hy
      exact hnd.1 (List.mem_map.2 ⟨z, (List.mem_filter.1 hz).1, (h.trans (hf z)).symm⟩)
    rw [List.map_cons, List.filter_cons]
    split
    · show update (dictSet (x :: xs) (f x)) _ = _
      rw [dictSet, if_pos (hf x).symm, update_cons_of_ne _ _ _ (by rwa [hf x]), ih hnd.2]
    · rw [update_cons_of_ne _ _ _ hx, ih hnd.2]

/-- what a trigger does to one entry (`run_eq_map`); a reset replaces the whole set, its step is a filler that the
theorems exclude (`isReset = false`) -/
def Trigger.step : Trigger → Entry → Entry
  | .fixUid b g, e => if e.uid == b then { e with uid := g } else e
  | .fixGid b g, e => if e.gid == b then { e with gid := g } else e
  | .fixSetBits, e => if !e.isSym && unsafeMode e.mode then { e with mode := clearBits e.mode 0o6002 } else e
  | .detectWorldWritable fp, e =>
    if fp && (!e.isSym && (e.mode &&& 0o002 != 0)) then { e with mode := clearBits e.mode 0o002 } else e
  | .reset _, e => e

/-- what a list of triggers does to one entry (`runTriggers_eq_map`) -/
def hardenWith (ts : List Trigger) (e : Entry) : Entry := ts.foldl (fun e t => t.step e) e

theorem step_frame (t : Trigger) (e : Entry) :
    (t.step e).kind = e.kind ∧ (t.step e).loc = e.loc ∧ (t.step e).payload = e.payload := by
  cases t with
  | fixUid b g | fixGid b g | fixSetBits | detectWorldWritable fp =>
    simp only [Trigger.step]
    split <;> exact ⟨rfl, rfl, rfl⟩
  | reset img => exact ⟨rfl, rfl, rfl⟩

theorem step_loc (t : Trigger) (e : Entry) : (t.step e).loc = e.loc := (step_frame t e).2.1

theorem step_isSym (t : Trigger) (e : Entry) : (t.step e).isSym = e.isSym := by
  simp [Entry.isSym, (step_frame t e).1]

theorem step_uid (t : Trigger) (e : Entry) :
    (t.step e).uid = match t with
      | .fixUid b g => if e.uid = b then g else e.uid
      | _ => e.uid := by
  cases t with
  | fixUid b g =>
    simp only [Trigger.step, beq_iff_eq]
    split <;> rfl
  | fixGid b g | fixSetBits | detectWorldWritable fp =>
    simp only [Trigger.step]
    split <;> rfl
  | reset img => rfl

theorem step_gid (t : Trigger) (e : Entry) :
    (t.step e).gid = match t with
      | .fixGid b g => if e.gid = b then g else e.gid
      | _ => e.gid := by
  cases t with
  | fixGid b g =>
    simp only [Trigger.step, beq_iff_eq]
    split <;> rfl
  | fixUid b g | fixSetBits | detectWorldWritable fp =>
    simp only [Trigger.step]
    split <;> rfl
  | reset img => rfl

theorem step_mode (t : Trigger) (e : Entry) :
    (t.step e).mode = e.mode ∨ (e.isSym = false ∧
      ((t = .fixSetBits ∧ unsafeMode e.mode = true ∧ (t.step e).mode = clearBits e.mode 0o6002) ∨
       (t = .detectWorldWritable true ∧ (t.step e).mode = clearBits e.mode 0o002))) := by
  cases t with
  | fixUid b g | fixGid b g =>
    simp only [Trigger.step]
    split <;> exact Or.inl rfl
  | reset img => exact Or.inl rfl
  | fixSetBits =>
    by_cases h : (!e.isSym && unsafeMode e.mode) = true
    · have hs : Trigger.fixSetBits.step e = { e with mode := clearBits e.mode 0o6002 } := if_pos h
      rw [Bool.and_eq_true, Bool.not_eq_true'] at h
      exact Or.inr ⟨h.1, Or.inl ⟨rfl, h.2, by rw [hs]⟩⟩
    · exact Or.inl (congrArg Entry.mode (if_neg h : Trigger.fixSetBits.step e = e))
  | detectWorldWritable fp =>
    by_cases h : (fp && (!e.isSym && (e.mode &&& 0o002 != 0))) = true
    · have hs : (Trigger.detectWorldWritable fp).step e = { e with mode := clearBits e.mode 0o002 } := if_pos h
      rw [Bool.and_eq_true, Bool.and_eq_true, Bool.not_eq_true'] at h
      obtain ⟨rfl, hsym, _⟩ := h
      exact Or.inr ⟨hsym, Or.inr ⟨rfl, by rw [hs]⟩⟩
    · exact Or.inl (congrArg Entry.mode (if_neg h : (Trigger.detectWorldWritable fp).step e = e))

theorem step_mode_sub (t : Trigger) (e : Entry) (i : Nat) (h : (t.step e).mode.testBit i = true) :
    e.mode.testBit i = true := by
  rcases step_mode t e with hm | ⟨_, ⟨_, _, hm⟩ | ⟨_, hm⟩⟩ <;> rw [hm] at h
  · exact h
  · rw [testBit_clearBits, Bool.and_eq_true] at h; exact h.1
  · rw [testBit_clearBits, Bool.and_eq_true] at h; exact h.1

theorem step_mode_rest (t : Trigger) (e : Entry) (i : Nat) (h1 : i ≠ 1) (h10 : i ≠ 10) (h11 : i ≠ 11) :
    (t.step e).mode.testBit i = e.mode.testBit i := by
  rcases step_mode t e with hm | ⟨_, ⟨_, _, hm⟩ | ⟨_, hm⟩⟩ <;> rw [hm]
  · rw [testBit_clearBits, bits_6002]; simp [h1, h10, h11]
  · rw [testBit_clearBits, bits_2]; simp [h1]

theorem step_mode_of_sym (t : Trigger) (e : Entry) (h : e.isSym = true) : (t.step e).mode = e.mode := by
  rcases step_mode t e with hm | ⟨hs, _⟩
  · exact hm
  · rw [h] at hs; cases hs

theorem step_mode_of_safe (t : Trigger) (e : Entry) (h : ¬ Unsafe e.mode) (ht : t ≠ .detectWorldWritable true) :
    (t.step e).mode = e.mode := by
  rcases step_mode t e with hm | ⟨_, ⟨_, hu, _⟩ | ⟨rfl, _⟩⟩
  · exact hm
  · exact absurd ((unsafeMode_iff _).1 hu) h
  · exact absurd rfl ht

theorem fixSetBits_step_safe (e : Entry) (h : e.isSym = false) : ¬ Unsafe (Trigger.fixSetBits.step e).mode := by
  simp only [Trigger.step, h, Bool.not_false, Bool.true_and]
  split
  · exact clear6002_safe e.mode
  · rename_i hu; exact fun hh => hu ((unsafeMode_iff _).2 hh)

theorem detectWorldWritable_step_not_ww (e : Entry) (h : e.isSym = false) :
    worldWritable ((Trigger.detectWorldWritable true).step e).mode = false := by
  simp only [Trigger.step, h, Bool.not_false, Bool.true_and]
  split
  · exact clear2_not_ww e.mode
  · rename_i hw
    cases hww : worldWritable e.mode
    · rfl
    · exact absurd ((worldWritable_iff _).2 hww) hw

/-- The guard `if l:` of `fix_set_bits` changes nothing: an update by nothing is no update. -/
theorem fixSetBits_eq (c : CSet) :
    fixSetBits c = update c ((c.filter fun x => !x.isSym && unsafeMode x.mode).map
      fun x => { x with mode := clearBits x.mode 0o6002 }) := by
  unfold fixSetBits
  simp only
  split
  · rename_i h
    rw [List.isEmpty_iff.1 h]
    rfl
  · rfl

theorem run_eq_map (t : Trigger) (hnr : t.isReset = false) (c : CSet) (hnd : (c.map (·.loc)).Nodup) :
    t.run c = c.map t.step := by
  cases t with
  | reset img => cases hnr
  | fixUid b g =>
    exact update_filter_map (fun x => x.uid == b) (fun x => { x with uid := g }) (fun _ => rfl) c hnd
  | fixGid b g =>
    exact update_filter_map (fun x => x.gid == b) (fun x => { x with gid := g }) (fun _ => rfl) c hnd
  | fixSetBits =>
    exact (fixSetBits_eq c).trans (update_filter_map (fun x => !x.isSym && unsafeMode x.mode)
      (fun x => { x with mode := clearBits x.mode 0o6002 }) (fun _ => rfl) c hnd)
  | detectWorldWritable fp =>
    -- the test on `fix_perms` computes away on both sides
    cases fp with
    | false => exact (List.map_id' c).symm
    | true =>
      exact update_filter_map (fun x => !x.isSym && (x.mode &&& 0o002 != 0))
        (fun x => { x with mode := clearBits x.mode 0o002 }) (fun _ => rfl) c hnd

theorem runTriggers_eq_map (ts : List Trigger) (hnr : ∀ t ∈ ts, t.isReset = false) (c : CSet)
    (hnd : (c.map (·.loc)).Nodup) : runTriggers ts c = c.map (hardenWith ts) := by
  induction ts generalizing c with
  | nil =>
    show c = c.map (fun e => e)
    simp
  | cons t ts ih =>
    show runTriggers ts (t.run c) = _
    rw [run_eq_map t (hnr t (by simp)) c hnd,
      ih (fun t' ht' => hnr t' (by simp [ht'])) _ (by simpa [List.map_map, Function.comp_def, step_loc] using hnd)]
    simp [List.map_map, Function.comp_def, hardenWith]

theorem hardenWith_inv (P : Entry → Prop) (ts : List Trigger) (h : ∀ t ∈ ts, ∀ x, P x → P (t.step x)) :
    ∀ x, P x → P (hardenWith ts x) :=
  fun _ hx => List.foldlRecOn ts _ hx fun x hx t ht => h t ht x hx

theorem hardenWith_est (Q P : Entry → Prop) (ts : List Trigger) (t0 : Trigger) (h0 : t0 ∈ ts)
    (hQ : ∀ t ∈ ts, ∀ x, Q x → Q (t.step x)) (hest : ∀ x, Q x → P (t0.step x))
    (hP : ∀ t ∈ ts, ∀ x, P x → P (t.step x)) : ∀ x, Q x → P (hardenWith ts x) := by
  induction ts with
  | nil => simp at h0
  | cons t ts ih =>
    intro x hx
    rcases List.mem_cons.1 h0 with rfl | h0'
    · exact hardenWith_inv P ts (fun t' ht' => hP t' (by simp [ht'])) _ (hest x hx)
    · exact ih h0' (fun t' ht' => hQ t' (by simp [ht'])) (fun t' ht' => hP t' (by simp [ht'])) _ (hQ t (by simp) x hx)

theorem hardenWith_idem {α : Type} (proj : Entry → α) (R : α → α) (hR : ∀ a, R (R a) = R a) (ts : List Trigger)
    (t0 : Trigger) (h0 : t0 ∈ ts) (hstep : ∀ t ∈ ts, ∀ x, proj (t.step x) = proj x ∨ proj (t.step x) = R (proj x))
    (hest : ∀ x, proj (t0.step x) = R (proj x)) (e : Entry) : proj (hardenWith ts e) = R (proj e) := by
  -- the invariant: the field still has the same image under `R`
  refine hardenWith_est (fun x => R (proj x) = R (proj e)) (fun x => proj x = R (proj e)) ts t0 h0 ?_ ?_ ?_ e rfl
  · intro t ht x hx
    rcases hstep t ht x with h | h <;> rw [h]
    · exact hx
    · rw [hR, hx]
  · intro x hx
    rw [hest, hx]
  · intro t ht x hp
    rcases hstep t ht x with h | h <;> rw [h]
    · exact hp
    · rw [hp, hR]

theorem hardenWith_frame (ts : List Trigger) (e : Entry) :
    (hardenWith ts e).kind = e.kind ∧ (hardenWith ts e).loc = e.loc ∧ (hardenWith ts e).payload = e.payload :=
  hardenWith_inv (fun x => x.kind = e.kind ∧ x.loc = e.loc ∧ x.payload = e.payload) ts
    (fun t _ x hx => by obtain ⟨hk, hl, hp⟩ := step_frame t x; rw [hk, hl, hp]; exact hx) e ⟨rfl, rfl, rfl⟩

theorem hardenWith_loc (ts : List Trigger) (e : Entry) : (hardenWith ts e).loc = e.loc := (hardenWith_frame ts e).2.1

theorem hardenWith_isSym (ts : List Trigger) (e : Entry) : (hardenWith ts e).isSym = e.isSym := by
  simp [Entry.isSym, (hardenWith_frame ts e).1]

theorem hardenWith_mode_sub (ts : List Trigger) (e : Entry) (i : Nat) :
    (hardenWith ts e).mode.testBit i = true → e.mode.testBit i = true :=
  hardenWith_inv (fun x => x.mode.testBit i = true → e.mode.testBit i = true) ts
    (fun t _ x hx h => hx (step_mode_sub t x i h)) e id

theorem hardenWith_mode_rest (ts : List Trigger) (e : Entry) (i : Nat) (h1 : i ≠ 1) (h10 : i ≠ 10) (h11 : i ≠ 11) :
    (hardenWith ts e).mode.testBit i = e.mode.testBit i :=
  hardenWith_inv (fun x => x.mode.testBit i = e.mode.testBit i) ts
    (fun t _ x hx => by rw [step_mode_rest t x i h1 h10 h11]; exact hx) e rfl

theorem hardenWith_mode_of_sym (ts : List Trigger) (e : Entry) (h : e.isSym = true) : (hardenWith ts e).mode = e.mode :=
  (hardenWith_inv (fun x => x.isSym = true ∧ x.mode = e.mode) ts
    (fun t _ x hx => ⟨by rw [step_isSym]; exact hx.1, by rw [step_mode_of_sym t x hx.1]; exact hx.2⟩) e ⟨h, rfl⟩).2

/-- Only `fix_uid_perms` touches the owner, and re-owning twice is re-owning once. -/
theorem hardenWith_uid (ts : List Trigger) (bu ru : Nat) (h0 : .fixUid bu ru ∈ ts)
    (honly : ∀ b g, .fixUid b g ∈ ts → b = bu ∧ g = ru) (e : Entry) :
    (hardenWith ts e).uid = if e.uid = bu then ru else e.uid := by
  refine hardenWith_idem (·.uid) (fun u => if u = bu then ru else u) (fun u => by by_cases h : u = bu <;> simp [h])
    ts (.fixUid bu ru) h0 (fun t ht x => ?_) (fun x => step_uid _ x) e
  rw [step_uid]
  cases t with
  | fixUid b g => obtain ⟨rfl, rfl⟩ := honly b g ht; exact Or.inr rfl
  | _ => exact Or.inl rfl

theorem hardenWith_gid (ts : List Trigger) (bg rg : Nat) (h0 : .fixGid bg rg ∈ ts)
    (honly : ∀ b g, .fixGid b g ∈ ts → b = bg ∧ g = rg) (e : Entry) :
    (hardenWith ts e).gid = if e.gid = bg then rg else e.gid := by
  refine hardenWith_idem (·.gid) (fun u => if u = bg then rg else u) (fun u => by by_cases h : u = bg <;> simp [h])
    ts (.fixGid bg rg) h0 (fun t ht x => ?_) (fun x => step_gid _ x) e
  rw [step_gid]
  cases t with
  | fixGid b g => obtain ⟨rfl, rfl⟩ := honly b g ht; exact Or.inr rfl
  | _ => exact Or.inl rfl

/-- `fix_set_bits` makes the mode safe; later steps only clear bits. -/
theorem hardenWith_safe (ts : List Trigger) (h0 : .fixSetBits ∈ ts) (e : Entry) (h : e.isSym = false) :
    ¬ Unsafe (hardenWith ts e).mode :=
  hardenWith_est (fun x => x.isSym = false) (fun x => ¬ Unsafe x.mode) ts .fixSetBits h0
    (fun t _ x hx => (step_isSym t x).trans hx) fixSetBits_step_safe
    (fun t _ x hp hu => hp (Unsafe.mono (step_mode_sub t x) hu)) e h

theorem hardenWith_mode_of_safe (ts : List Trigger) (hno : .detectWorldWritable true ∉ ts) (e : Entry)
    (h : ¬ Unsafe e.mode) : (hardenWith ts e).mode = e.mode :=
  hardenWith_inv (fun x => x.mode = e.mode) ts
    (fun t ht x hx => by rw [step_mode_of_safe t x (hx ▸ h) (fun h' => hno (h' ▸ ht)), hx]) e rfl

/-- `detect_world_writable(fix_perms=True)` clears the bit; later steps only clear bits. -/
theorem hardenWith_not_ww (ts : List Trigger) (h0 : .detectWorldWritable true ∈ ts) (e : Entry) (h : e.isSym = false) :
    worldWritable (hardenWith ts e).mode = false :=
  hardenWith_est (fun x => x.isSym = false) (fun x => worldWritable x.mode = false) ts _ h0
    (fun t _ x hx => (step_isSym t x).trans hx) detectWorldWritable_step_not_ww
    (fun t _ x hp => Bool.eq_false_iff.2 fun hw => Bool.eq_false_iff.1 hp (step_mode_sub t x 1 hw)) e h

theorem bor_iff_imp (a b : Bool) : (a || b) = true ↔ (a = false → b = true) := by cases a <;> simp

theorem hardenedB_iff (bu ru bg rg : Nat) (fp : Bool) (e e' : Entry) :
    hardenedB bu ru bg rg fp e e' = true ↔ Hardened bu ru bg rg fp e e' := by
  simp only [hardenedB, Bool.and_eq_true, beq_iff_eq, bor_iff_imp, Bool.or_eq_false_iff, Bool.not_eq_true',
    Bool.not_eq_false', decide_eq_false_iff_not, and_eq_self_iff, or_mask_eq_iff, and_imp]
  -- the conjuncts of `hardenedB` are now the fields of `Hardened`, in the same order
  exact ⟨fun ⟨⟨⟨⟨⟨⟨⟨⟨⟨⟨hk, hl⟩, hp⟩, hu⟩, hg⟩, hs⟩, hsub⟩, hrest⟩, hkept⟩, hsym⟩, hww⟩ =>
      ⟨hk, hl, hp, hu, hg, hs, hsub, hrest, hkept, hsym, hww⟩,
    fun h => ⟨⟨⟨⟨⟨⟨⟨⟨⟨⟨h.kind_eq, h.loc_eq⟩, h.payload_eq⟩, h.uid_eq⟩, h.gid_eq⟩, h.safe⟩, h.mode_sub⟩, h.mode_rest⟩,
      h.safe_kept⟩, h.sym_kept⟩, h.no_ww⟩⟩

theorem update_fresh (l pre : CSet) (h : ((pre ++ l).map (·.loc)).Nodup) : update pre l = pre ++ l :=
  Lib.foldl_fresh (·.loc) (fun _ _ => Lib.set_fresh dictSet (fun _ => rfl) fun _ _ _ => rfl) l pre h

theorem resetContents_eq (image c : CSet) (h : (image.map (·.loc)).Nodup) : resetContents image c = image := by
  have := update_fresh image [] (by simpa using h)
  simpa [resetContents] using this

theorem runTriggers_append (ts1 ts2 : List Trigger) (c : CSet) :
    runTriggers (ts1 ++ ts2) c = runTriggers ts2 (runTriggers ts1 c) := List.foldl_append

theorem triggerOfName_some {bu ru bg rg : Nat} {name : String} {t : Trigger}
    (h : triggerOfName bu ru bg rg name = some t) :
    t = .fixUid bu ru ∨ t = .fixGid bg rg ∨ t = .fixSetBits ∨ t = .detectWorldWritable false := by
  unfold triggerOfName at h
  split at h
  · exact Or.inl (Option.some.inj h).symm
  · exact Or.inr (Or.inl (Option.some.inj h).symm)
  · exact Or.inr (Or.inr (Or.inl (Option.some.inj h).symm))
  · exact Or.inr (Or.inr (Or.inr (Option.some.inj h).symm))
  · cases h

theorem filterMap_triggerOfNameE (bu ru bg rg : Nat) (image : CSet) (names : List String)
    (h : "preinst_contents_reset" ∉ names) :
    names.filterMap (triggerOfNameE bu ru bg rg image) = names.filterMap (triggerOfName bu ru bg rg) := by
  induction names with
  | nil => rfl
  | cons n ns ih =>
    have hn : ¬ n = "preinst_contents_reset" := fun he => h (he ▸ List.mem_cons_self)
    rw [List.filterMap_cons, List.filterMap_cons, ih fun hm => h (List.mem_cons_of_mem _ hm), triggerOfNameE, if_neg hn]

def Entry.rename (ρ : List Char → List Char) (e : Entry) : Entry := { e with loc := ρ e.loc }

theorem step_rename (ρ : List Char → List Char) (t : Trigger) (e : Entry) :
    t.step (e.rename ρ) = (t.step e).rename ρ := by
  cases t <;> simp only [Trigger.step, apply_ite (Entry.rename ρ)] <;> rfl

theorem hardenWith_rename (ρ : List Char → List Char) (ts : List Trigger) (e : Entry) :
    hardenWith ts (e.rename ρ) = (hardenWith ts e).rename ρ := by
  induction ts generalizing e with
  | nil => rfl
  | cons t ts ih =>
    show hardenWith ts (t.step (e.rename ρ)) = (hardenWith ts (t.step e)).rename ρ
    rw [step_rename, ih]

end Pkgcore.C23
