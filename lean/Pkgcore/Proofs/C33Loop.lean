import Pkgcore.Proofs.C33Rel
import Pkgcore.Proofs.C33Str
/-!
The de-duplicating `doman`/`domo` loops against the prescribed entries.  First where a page goes
(`manPlace_eq_manDest`: the model's `splitext`/`rsplit` on the basename against the specification's reading of
`splitOn '.'`) under a slash-free name (`manDest_name_no_slash`, for `toPath_pjoin`), then the rules of `LoopRel`
(`LoopRel.page`: one more argument, whatever the rest of both loops) and the two loops.
-/
namespace Pkgcore.C33
open Pkgcore.C33.Spec

theorem any_dropLast {α} (p : α → Bool) (l : List α) (h : l.any p = false) : l.dropLast.any p = false := by
  rw [List.any_eq_false] at *
  intro x hx
  exact h x (List.dropLast_subset _ hx)

theorem manExt_section (m : ManCtx) (b : Str) :
    (manExt m b).drop 1 = sectionOf m (splitOn '.' b) := by
  -- split `b` at its last dot: no dot, or only dots before it, and there is no extension and no section; otherwise
  -- `b = r.e` has the extension `.e`, and when that is an archive suffix both sides ask `r` the same question
  unfold manExt sectionOf
  rw [splitext_snd b, splitext_snd]
  rcases last_sep '.' b with h | ⟨r, e, rfl, he⟩
  · rw [rsplit1Head_of_not_mem '.' b h, hasStem_of_not_mem b h]
    dsimp only
    rw [if_neg Bool.false_ne_true]
    cases isArchiveExt m [] <;> rfl
  · rw [rsplit1Head_decomp '.' r e he, splitOn_decomp '.' r e he, List.dropLast_concat, List.getLast?_concat,
      Option.getD_some]
    cases hP : hasStem (splitOn '.' r ++ [e]) with
    | false =>
      rw [show hasStem (splitOn '.' r) = false from
        any_dropLast _ _ (by simpa only [hasStem, List.dropLast_concat] using hP)]
      dsimp only
      rw [if_neg Bool.false_ne_true]
      cases isArchiveExt m [] <;> rfl
    | true =>
      dsimp only
      rw [if_pos rfl]
      cases isArchiveExt m ('.' :: e) <;> cases hasStem (splitOn '.' r) <;> rfl

theorem detectLang_eq_langOf (b : Str) : detectLang b = langOf (splitOn '.' b) := by
  unfold detectLang langOf
  obtain ⟨r, hr⟩ : ∃ r : List Str, splitOn '.' b = r.reverse := ⟨_, (List.reverse_reverse _).symm⟩
  rw [hr, List.reverse_reverse]
  match r with
  | [] | [_] | [_, _] => rfl
  | g4 :: g2 :: g1 :: more =>
    simp only [List.reverse_cons, List.dropLast_concat, List.getLast?_concat, Option.getD_some]
    rw [if_neg (show ¬ (more.reverse ++ [g1] ++ [g2] ++ [g4]).length < 3 by simp)]

theorem getLastD_mem_or_nil {α} (l : List (List α)) : l.getLast?.getD [] = [] ∨ l.getLast?.getD [] ∈ l := by
  cases h : l.getLast? with
  | none => left; rfl
  | some x => right; simpa using List.mem_of_getLast? h

theorem sectionOf_mem (m : ManCtx) (parts : List Str) : sectionOf m parts = [] ∨ sectionOf m parts ∈ parts := by
  unfold sectionOf
  by_cases h1 : (!hasStem parts) = true
  · rw [if_pos h1]; exact .inl rfl
  · rw [if_neg h1]
    by_cases h2 : isArchiveExt m ('.' :: parts.getLast?.getD []) = true
    · rw [if_pos h2]
      by_cases h3 : hasStem parts.dropLast = true
      · rw [if_pos h3]; exact (getLastD_mem_or_nil _).imp id (List.dropLast_subset _ ·)
      · rw [if_neg h3]; exact .inl rfl
    · rw [if_neg h2]; exact getLastD_mem_or_nil _

theorem sectionOf_no_slash (m : ManCtx) (b : Str) (hb : '/' ∉ b) : '/' ∉ sectionOf m (splitOn '.' b) := by
  rcases sectionOf_mem m (splitOn '.' b) with h | h
  · rw [h]; exact List.not_mem_nil
  · exact fun hx => hb (mem_of_mem_splitOn '.' b _ h '/' hx)

theorem validMandir_man (sec : Str) : validMandir (['m', 'a', 'n'] ++ sec) = validSection sec := by
  cases sec with
  | nil => rfl
  | cons d suf => rfl

theorem langOf_no_slash (b foo l n : Str) (hb : '/' ∉ b) (h : langOf (splitOn '.' b) = some (foo, l, n)) :
    '/' ∉ foo ++ '.' :: n := by
  unfold langOf at h
  split at h
  · nomatch h
  · dsimp only at h
    split at h
    · simp only [Option.some.injEq, Prod.mk.injEq] at h
      obtain ⟨rfl, rfl, rfl⟩ := h
      have key : ∀ c ∈ splitOn '.' b, '/' ∉ c := fun c hc hx => hb (mem_of_mem_splitOn '.' b c hc '/' hx)
      intro hx
      simp only [List.mem_append, List.mem_cons] at hx
      rcases hx with hx | hx | hx
      · rcases mem_joinWith '.' _ '/' hx with e | ⟨c, hc, hxc⟩
        · exact absurd e (by decide)
        · exact key c (List.dropLast_subset _ (List.dropLast_subset _ hc)) hxc
      · exact absurd hx (by decide)
      · rcases getLastD_mem_or_nil (splitOn '.' b) with e | hm
        · rw [e] at hx; simp at hx
        · exact key _ hm hx
    · nomatch h

theorem manLang_cases (m : ManCtx) (b mandir : Str) :
    ((manLang m b mandir).1 = b ∨
      ∃ g1 g2 g4, detectLang b = some (g1, g2, g4) ∧ (manLang m b mandir).1 = g1 ++ '.' :: g4) ∧
    ((manLang m b mandir).2 = mandir ∨ ∃ l, (manLang m b mandir).2 = pjoin l mandir) := by
  unfold manLang
  by_cases h1 : m.override = true ∧ m.i18n ≠ []
  · rw [if_pos h1]; exact ⟨.inl rfl, .inr ⟨_, rfl⟩⟩
  · rw [if_neg h1]
    by_cases h2 : m.detect = true
    · rw [if_pos h2]
      cases hd : detectLang b with
      | some g => exact ⟨.inr ⟨_, _, _, rfl, rfl⟩, .inr ⟨_, rfl⟩⟩
      | none =>
        by_cases h3 : m.i18n ≠ []
        · dsimp only; rw [if_pos h3]; exact ⟨.inl rfl, .inr ⟨_, rfl⟩⟩
        · dsimp only; rw [if_neg h3]; exact ⟨.inl rfl, .inl rfl⟩
    · rw [if_neg h2]; exact ⟨.inl rfl, .inl rfl⟩

theorem manLang_basename (m : ManCtx) (b mandir : Str) (hn : '/' ∉ mandir) :
    basename (manLang m b mandir).2 = mandir := by
  rcases (manLang_cases m b mandir).2 with h | ⟨l, h⟩ <;> rw [h]
  · exact basename_no_slash _ hn
  · exact basename_pjoin _ _ hn

theorem manLang_name_no_slash (m : ManCtx) (b mandir : Str) (hb : '/' ∉ b) : '/' ∉ (manLang m b mandir).1 := by
  rcases (manLang_cases m b mandir).1 with h | ⟨g1, g2, g4, hd, h⟩ <;> rw [h]
  · exact hb
  · exact langOf_no_slash b g1 g2 g4 hb (detectLang_eq_langOf b ▸ hd)

theorem manDest_eq_manLang (m : ManCtx) (b : Str) :
    manDest m b =
      if validSection (sectionOf m (splitOn '.' b)) then
        some ((manLang m b ("man".toList ++ sectionOf m (splitOn '.' b))).2,
          (manLang m b ("man".toList ++ sectionOf m (splitOn '.' b))).1)
      else none := by
  unfold manDest manLang
  rw [detectLang_eq_langOf]
  dsimp only
  generalize sectionOf m (splitOn '.' b) = sec
  cases validSection sec with
  | false => rfl
  | true =>
    rw [if_neg (by decide), if_pos rfl]
    by_cases h1 : m.override = true ∧ m.i18n ≠ []
    · simp only [if_pos h1]
    · simp only [if_neg h1]
      by_cases h2 : m.detect = true
      · simp only [if_pos h2]
        cases langOf (splitOn '.' b) with
        | some g => rfl
        | none =>
          dsimp only
          by_cases h3 : m.i18n ≠ []
          · simp only [if_pos h3]
          · simp only [if_neg h3]
      · simp only [if_neg h2]

theorem manPlace_eq_manDest (m : ManCtx) (arg : Str) : manPlace m arg = manDest m (lastComp arg) := by
  unfold manPlace
  rw [basename_eq_lastComp, manDest_eq_manLang]
  dsimp only
  rw [manExt_section]
  have hsec := sectionOf_no_slash m _ (lastComp_no_slash arg)
  generalize sectionOf m (splitOn '.' (lastComp arg)) = sec at hsec
  have hman : '/' ∉ ['m', 'a', 'n'] ++ sec := by
    intro h
    rcases List.mem_append.1 h with h | h
    · exact absurd h (by decide)
    · exact hsec h
  rw [manLang_basename m _ _ hman, validMandir_man]
  rfl

theorem manDest_name_no_slash (m : ManCtx) (b d name : Str) (hb : '/' ∉ b)
    (h : manDest m b = some (d, name)) : '/' ∉ name := by
  rw [manDest_eq_manLang] at h
  split at h
  · obtain ⟨-, rfl⟩ := Prod.mk.inj (Option.some.inj h)
    exact manLang_name_no_slash m b _ hb
  · nomatch h

theorem LoopRel.nil (c : Ctx) (seen : List Str) : LoopRel c seen (.ok []) (.ok []) :=
  ⟨rfl, fun _ h => (List.not_mem_nil h).elim, fun _ h => (List.not_mem_nil h).elim⟩

theorem LoopRel.copy {c : Ctx} {seen : List Str} {ops : List Op} {es : List Entry} (cp : Op)
    (hcp : cp.isMkdirs = false) (h : LoopRel c seen (.ok ops) (.ok es)) :
    LoopRel c seen (.ok (cp :: ops)) (.ok (cp.toEntry :: es)) := by
  obtain ⟨h1, h2, h3⟩ := h
  refine ⟨?_, ?_, ?_⟩
  · rw [List.filter_cons_of_pos (by rw [hcp]; rfl), List.map_cons, h1,
      List.filter_cons_of_pos (by rw [toEntry_isDir, hcp]; rfl)]
  · exact List.forall_mem_cons.2 ⟨List.mem_cons_self, fun o ho => List.mem_cons_of_mem _ (h2 o ho)⟩
  · exact List.forall_mem_cons.2 ⟨.inl List.mem_cons_self, fun e he => (h3 e he).imp (List.mem_cons_of_mem _) id⟩

/-- the specification names the directory of a page once more; the loop has it in its set and does nothing -/
theorem LoopRel.dir_seen {c : Ctx} {seen : List Str} {d : Str} {ops : List Op} {es : List Entry} (hd : d ∈ seen)
    (h : LoopRel c seen (.ok ops) (.ok es)) :
    LoopRel c seen (.ok ops) (.ok (Entry.dir (prefixed c d) c.dirMode :: es)) := by
  obtain ⟨h1, h2, h3⟩ := h
  refine ⟨?_, fun o ho => List.mem_cons_of_mem _ (h2 o ho), List.forall_mem_cons.2 ⟨.inr ⟨d, hd, rfl⟩, h3⟩⟩
  rw [List.filter_cons_of_neg (by simp)]
  exact h1

theorem LoopRel.dir_new {c : Ctx} {seen : List Str} {d : Str} {ops : List Op} {es : List Entry}
    (h : LoopRel c (d :: seen) (.ok ops) (.ok es)) :
    LoopRel c seen (.ok (Op.mkdirs (prefixed c d) c.dirMode :: ops))
      (.ok (Entry.dir (prefixed c d) c.dirMode :: es)) := by
  obtain ⟨h1, h2, h3⟩ := h
  refine ⟨?_, ?_, ?_⟩
  · rw [List.filter_cons_of_neg (by simp), List.filter_cons_of_neg (by simp)]
    exact h1
  · exact List.forall_mem_cons.2 ⟨List.mem_cons_self, fun o ho => List.mem_cons_of_mem _ (h2 o ho)⟩
  · refine List.forall_mem_cons.2 ⟨.inl List.mem_cons_self, fun e he => ?_⟩
    rcases h3 e he with h | ⟨d', hd', rfl⟩
    · exact .inl (List.mem_cons_of_mem _ h)
    · rcases List.mem_cons.1 hd' with rfl | hd'
      · exact .inl List.mem_cons_self
      · exact .inr ⟨d', hd', rfl⟩

/-- `LoopRel.page` once `installOne` has given `cp` -/
theorem LoopRel.step {c : Ctx} {seen : List Str} {d : Str} (cp : Op)
    (hcp : cp.isMkdirs = false) {L : Except Rej (List Op)} {E : Except Rej (List Entry)}
    (h : LoopRel c (if seen.contains d then seen else d :: seen) L E) :
    LoopRel c seen
      (do let r ← L; pure ((if seen.contains d then [] else [Op.mkdirs (prefixed c d) c.dirMode]) ++ cp :: r))
      (do let r ← E; pure (Entry.dir (prefixed c d) c.dirMode :: cp.toEntry :: r)) := by
  cases L <;> cases E
  case error.error => exact h
  case error.ok => exact h.elim
  case ok.error => exact h.elim
  case ok.ok ops es =>
    by_cases hs : seen.contains d = true
    · rw [if_pos hs] at h ⊢
      exact (h.copy cp hcp).dir_seen (List.contains_iff_mem.1 hs)
    · rw [if_neg hs] at h ⊢
      exact (h.copy cp hcp).dir_new

/-- One more argument of `Doman`/`Domo._install_targets` against the prescribed entries, whatever the rest of the two
loops (`L`, `E`) is: directory `d`, created unless seen, then the file at `f`.  The right-hand side is the `match` that
`manEntries` and `moEntries` are written with, `pd` and `pf` their spelling of the two paths: each caller proves that
it is the loop's (`hd`, `hf`). -/
theorem LoopRel.page {c : Ctx} {seen : List Str} {d f : Str} {pd pf : Path} (node : Src)
    (hd : prefixed c d = pd) (hf : prefixed c f = pf)
    {L : Except Rej (List Op)} {E : Except Rej (List Entry)}
    (h : LoopRel c (if seen.contains d then seen else d :: seen) L E) :
    LoopRel c seen
      (do
        let cp ← installOne c node f
        let r ← L
        pure ((if seen.contains d then [] else [Op.mkdirs (prefixed c d) c.dirMode]) ++ cp :: r))
      (match node with
        | .dir _ => .error .copyFailed
        | n =>
          match leaf c pf n with
          | none => .error .cannotStat
          | some e => do
            let r ← E
            pure (Entry.dir pd c.dirMode :: e :: r)) := by
  subst hd hf
  cases node with
  | missing => exact rfl
  | file id => exact LoopRel.step _ rfl h
  | link text kind =>
    cases kind with
    | broken => exact rfl
    | toFile | toDir => exact LoopRel.step _ rfl h
  | dir kids => exact rfl

theorem domanLoop_rel (c : Ctx) (m : ManCtx) (ts : List Target) :
    ∀ seen, LoopRel c seen (domanLoop c m seen ts) (manEntries c m ts) := by
  induction ts with
  | nil => exact LoopRel.nil c
  | cons t rest ih =>
    intro seen
    rw [domanLoop, manEntries, manPlace_eq_manDest]
    cases hd : manDest m (lastComp t.arg) with
    | none => exact rfl
    | some r =>
      obtain ⟨d, name⟩ := r
      have hname := manDest_name_no_slash m _ d name (lastComp_no_slash t.arg) hd
      exact LoopRel.page t.node rfl
        (congrArg (toPath c.dest ++ ·) (toPath_pjoin d name (isAbs_false_of_no_slash name hname))) (ih _)

theorem domanLoop_error (c : Ctx) (m : ManCtx) {ts : List Target} {t : Target} (ht : t ∈ ts)
    (hnone : manPlace m t.arg = none) : ∀ seen, ∃ e, domanLoop c m seen ts = .error e := by
  induction ts with
  | nil => exact nomatch ht
  | cons a rest ih =>
    intro seen
    rw [domanLoop]
    rcases List.mem_cons.1 ht with rfl | h
    · rw [hnone]; exact ⟨_, rfl⟩
    · cases manPlace m a.arg with
      | none => exact ⟨_, rfl⟩
      | some df =>
        dsimp only
        cases installOne c a.node (pjoin df.1 df.2) with
        | error e => exact ⟨e, rfl⟩
        | ok cp =>
          obtain ⟨e, he⟩ := ih h (if seen.contains df.1 then seen else df.1 :: seen)
          exact ⟨e, by rw [he]; rfl⟩

theorem domoLoop_rel (c : Ctx) (pn : Str) (hpn : isAbs pn = false) (ts : List Target) :
    ∀ seen, LoopRel c seen (domoLoop c pn seen ts) (moEntries c pn ts) := by
  have hmo : isAbs (pn ++ ".mo".toList) = false := by
    cases pn with
    | nil => rfl
    | cons x xs => exact hpn
  induction ts with
  | nil => exact LoopRel.nil c
  | cons t rest ih =>
    intro seen
    rw [domoLoop, moEntries]
    have hd : toPath (pjoin (splitext (basename t.arg)).1 "LC_MESSAGES".toList) =
        toPath (stemOf (lastComp t.arg)) ++ ["LC_MESSAGES".toList] := by
      rw [toPath_pjoin _ _ rfl, toPath_no_slash "LC_MESSAGES".toList (by decide) (by decide), splitext_fst,
        basename_eq_lastComp]
    exact LoopRel.page t.node (congrArg (toPath c.dest ++ ·) hd)
      (congrArg (toPath c.dest ++ ·) ((toPath_pjoin _ _ hmo).trans (congrArg (· ++ _) hd))) (ih _)

end Pkgcore.C33
