import Pkgcore.Spec.C39
import Pkgcore.Proofs.Lib
/-! `ListChange` validity and wire application as propositions; `ListChange.orPinned`, the `__or__` of the pinned tree,
of which `or_pinned_counterexample` speaks; each `if … : wire[k] = …` of `to_wire` as "field set ⇒ one entry", the
form `map_filter_cons` gives `Spec.wire` field by field. -/
namespace Pkgcore.C39
open Pkgcore.C39.Spec

variable {α β : Type} [DecidableEq α] [DecidableEq β]

theorem ListChange.valid_iff (c : ListChange α) :
    c.valid = true ↔
      (c.replace.isSome = true → c.add = [] ∧ c.remove = []) ∧ (∀ x, x ∈ c.add → x ∉ c.remove) := by
  simp only [ListChange.valid, Bool.and_eq_true, Bool.not_eq_true', Bool.and_eq_false_iff, Bool.or_eq_false_iff,
    Bool.not_eq_false', List.isEmpty_iff, List.any_eq_false, List.contains_eq_mem, decide_eq_true_eq]
  refine and_congr ?_ Iff.rfl
  cases c.replace.isSome <;> simp

theorem ListChange.mk?_eq_some (add remove : List α) (replace : Option (List α)) (c : ListChange α) :
    ListChange.mk? add remove replace = some c ↔ c = ⟨add, remove, replace⟩ ∧ c.valid = true := by
  by_cases hv : (⟨add, remove, replace⟩ : ListChange α).valid = true
  · simp only [ListChange.mk?, hv, if_true, Option.some.injEq]
    constructor
    · rintro rfl; exact ⟨rfl, hv⟩
    · rintro ⟨rfl, _⟩; rfl
  · simp only [ListChange.mk?, hv]
    constructor
    · intro h; cases h
    · rintro ⟨rfl, h⟩; exact absurd h hv

theorem ListChange.mk?_eq_none (add remove : List α) (replace : Option (List α)) :
    ListChange.mk? add remove replace = none ↔ (⟨add, remove, replace⟩ : ListChange α).valid = false := by
  by_cases hv : (⟨add, remove, replace⟩ : ListChange α).valid = true <;> simp [ListChange.mk?, hv]

omit [DecidableEq α] in
theorem mem_applyWire_toWire (str : α → β) (c : ListChange α) (l : List β) (y : β) :
    y ∈ applyWire (c.toWire str) l ↔
      match c.replace with
      | some r => y ∈ r.map str
      | none => (y ∈ l ∧ y ∉ c.remove.map str) ∨ y ∈ c.add.map str := by
  unfold applyWire ListChange.toWire
  cases hr : c.replace with
  | some r => rfl
  | none =>
    -- an empty list goes over the wire as an absent key, which Bugzilla reads as empty again
    have e1 : (if c.remove.isEmpty then none else some (c.remove.map str)).getD [] = c.remove.map str := by
      cases c.remove <;> rfl
    have e2 : (if c.add.isEmpty then none else some (c.add.map str)).getD [] = c.add.map str := by
      cases c.add <;> rfl
    simp only [List.mem_append, List.mem_filter, Bool.not_eq_true', List.contains_eq_mem, decide_eq_false_iff_not]
    rw [e1, e2]

/-- the `__or__` of the pinned tree (before the repair that `ListChange.or` mirrors), with its defect: the left
operand's set is dropped -/
def ListChange.orPinned (a b : ListChange α) : Option (ListChange α) :=
  match b.replace with
  | some _ => some b
  | none =>
    ListChange.mk? (a.add ++ b.add.filter (fun x => !a.add.contains x))
                   (a.remove ++ b.remove.filter (fun x => !a.remove.contains x)) none

theorem Spec.Field.mem_all (f : Field) : f ∈ Field.all := by cases f <;> decide

theorem map_filter_cons {γ : Type u} {δ : Type v} (p : γ → Bool) (f : γ → δ) (a : γ) (l : List γ) :
    (List.filter p (a :: l)).map f = (if p a then [f a] else []) ++ (List.filter p l).map f := by
  by_cases h : p a <;> simp [h]

theorem optEntry_str (k : String) (x : Option String) :
    optEntry k x .str = if (FieldVal.optStr x != FieldVal.optStr none) then [(k, render (.optStr x))] else [] := by
  cases x <;> simp [optEntry, render]

theorem optEntry_nat (k : String) (x : Option Nat) :
    optEntry k x .nat = if (FieldVal.optNat x != FieldVal.optNat none) then [(k, render (.optNat x))] else [] := by
  cases x <;> simp [optEntry, render]

theorem optEntry_comment (k : String) (x : Option NewComment) :
    optEntry k x NewComment.toWire
      = if (FieldVal.comment x != FieldVal.comment none) then [(k, render (.comment x))] else [] := by
  cases x <;> simp [optEntry, render, NewComment.toWire]

/-- `bool(change)` is "differs from `ListChange()`" -/
theorem ListChange.truthy_eq_ne_default (c : ListChange String) :
    c.truthy = (FieldVal.change c != FieldVal.change {}) := by
  rcases c with ⟨a, r, s⟩
  cases a <;> cases r <;> cases s <;> simp [ListChange.truthy]

theorem changeEntry_eq (k : String) (c : ListChange String) :
    changeEntry k c = if (FieldVal.change c != FieldVal.change {}) then [(k, render (.change c))] else [] := by
  simp only [changeEntry, ListChange.truthy_eq_ne_default, render]

theorem flagsEntry_eq (k : String) (l : List FlagChange) :
    (if l.isEmpty then [] else [(k, WireVal.flags (l.map FlagChange.toWire))])
      = if (FieldVal.flags l != FieldVal.flags []) then [(k, render (.flags l))] else [] := by
  cases l <;> simp [render]

end Pkgcore.C39
