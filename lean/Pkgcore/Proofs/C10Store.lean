import Pkgcore.Model.C10Solver
import Pkgcore.Proofs.Lib
/-!
# C10 solver model — the relations between stores, push/pop, forward checking

Lookups in a changed store; the relations between stores (`StRel`: the same variables, the two domains of each related —
`DomEq`, the same up to the order of the visible values, or `Hid`, values hidden since) and what makes push/pop balanced
(`pop_of_hid_push`); then `check` by cases (`check_cases`) and its frame: it hides values of unassigned variables and
does nothing else (`FcRel`).
-/
-- the model's `[DecidableEq Var] [DecidableEq Val]` are in scope throughout, also where a statement needs only one
set_option linter.unusedSectionVars false
namespace Pkgcore.C10.Solver
variable {Var Val : Type} [DecidableEq Var] [DecidableEq Val]

theorem foldl_erase_cons_of_not_mem (x : Val) : ∀ (ys xs : List Val), x ∉ ys →
    ys.foldl List.erase (x :: xs) = x :: ys.foldl List.erase xs
  | [], _, _ => rfl
  | y :: ys, xs, h => by
      rw [List.mem_cons, not_or] at h
      rw [List.foldl_cons, List.erase_cons_tail (by simpa using h.1), foldl_erase_cons_of_not_mem x ys _ h.2]
      rfl

theorem foldl_erase_filter (p : Val → Bool) : ∀ l : List Val,
    (l.filter p).foldl List.erase l = l.filter (fun x => !p x)
  | [] => rfl
  | x :: xs => by
      cases hp : p x
      · rw [List.filter_cons_of_neg (by simp [hp]), List.filter_cons_of_pos (by simp [hp]),
          foldl_erase_cons_of_not_mem x _ _ (by simp [hp]), foldl_erase_filter p xs]
      · rw [List.filter_cons_of_pos hp, List.filter_cons_of_neg (by simp [hp]), List.foldl_cons,
          List.erase_cons_head, foldl_erase_filter p xs]

theorem foldl_hideValue : ∀ (H : List Val) (d : Dom Val),
    H.foldl Dom.hideValue d = { vis := H.foldl List.erase d.vis, hidden := d.hidden ++ H, states := d.states }
  | [], d => by simp
  | v :: H, d => by
      rw [List.foldl_cons, foldl_hideValue H]
      simp [Dom.hideValue]

theorem lookup_map_val {β γ : Type} (g : Var → β → γ) (x : Var) : ∀ l : List (Var × β),
    (l.map fun e => (e.1, g e.1 e.2)).lookup x = (l.lookup x).map (g x)
  | [] => rfl
  | (k, b) :: l => by
      simp only [List.map_cons, List.lookup_cons]
      cases h : x == k
      · exact lookup_map_val g x l
      · rw [eq_of_beq h]; rfl

theorem lookup_initStore (x : Var) (vars : List (Var × List Val)) :
    (initStore vars).lookup x = (vars.lookup x).map fun dom => ({ vis := dom } : Dom Val) :=
  lookup_map_val (fun _ dom => ({ vis := dom } : Dom Val)) x vars

theorem lookup_upd (p : Var → Bool) (f : Dom Val → Dom Val) (x : Var) (st : Store Var Val) :
    (upd p f st).lookup x = (st.lookup x).map fun d => if p x then f d else d := by
  rw [← lookup_map_val fun k d => if p k then f d else d]
  unfold upd
  congr 2
  funext e
  split <;> rfl

theorem lookup_modify (y : Var) (f : Dom Val → Dom Val) (x : Var) : ∀ st : Store Var Val,
    (modify y f st).lookup x = (st.lookup x).map fun d => if x = y then f d else d
  | [] => rfl
  | (k, d) :: rest => by
      unfold modify
      by_cases hy : k = y
      · subst hy
        simp only [if_true, List.lookup_cons]
        cases h : x == k
        · simp [ne_of_beq_false h]
        · simp [eq_of_beq h]
      · simp only [hy, if_false, List.lookup_cons]
        cases h : x == k
        · exact lookup_modify y f x rest
        · simp [eq_of_beq h, hy]

theorem keys_modify (y : Var) (f : Dom Val → Dom Val) : ∀ st : Store Var Val,
    (modify y f st).map Prod.fst = st.map Prod.fst
  | [] => rfl
  | (k, d) :: rest => by
      unfold modify
      split
      · rfl
      · rw [List.map_cons, keys_modify y f rest]; rfl

theorem lookup_isSome_iff_mem_keys {β : Type} (x : Var) (l : List (Var × β)) :
    (l.lookup x).isSome = true ↔ x ∈ l.map Prod.fst := by
  rw [← Option.ne_none_iff_isSome, Ne, Lib.lookup_eq_none_iff_not_mem, Decidable.not_not]

def DomEq (d d' : Dom Val) : Prop := d.vis.Perm d'.vis ∧ d'.hidden = d.hidden ∧ d'.states = d.states

/-- `d'` is `d` after some values were hidden (and visible values reordered) -/
def Hid (d d' : Dom Val) : Prop := ∃ H, d'.hidden = d.hidden ++ H ∧ (d'.vis ++ H).Perm d.vis ∧ d'.states = d.states

/-- the two stores hold the same variables, and the two domains of each variable `x` are related by `R x` -/
def StRel (R : Var → Dom Val → Dom Val → Prop) (st st' : Store Var Val) : Prop :=
  ∀ x, Option.Rel (R x) (st.lookup x) (st'.lookup x)

/-- the frame of a balanced piece of search -/
def StEq (st st' : Store Var Val) : Prop := StRel (fun _ => DomEq) st st'

theorem DomEq.refl (d : Dom Val) : DomEq d d := ⟨List.Perm.refl _, rfl, rfl⟩

theorem DomEq.trans {a b c : Dom Val} (h1 : DomEq a b) (h2 : DomEq b c) : DomEq a c :=
  ⟨h1.1.trans h2.1, h2.2.1.trans h1.2.1, h2.2.2.trans h1.2.2⟩

theorem Hid.refl (d : Dom Val) : Hid d d := ⟨[], by simp, by simp, rfl⟩

theorem Hid.of_eq {a b : Dom Val} (h : DomEq a b) : Hid a b :=
  ⟨[], by simp [h.2.1], by simpa using h.1.symm, h.2.2⟩

theorem Hid.trans {a b c : Dom Val} (h1 : Hid a b) (h2 : Hid b c) : Hid a c := by
  obtain ⟨H1, e1, p1, s1⟩ := h1
  obtain ⟨H2, e2, p2, s2⟩ := h2
  refine ⟨H1 ++ H2, by rw [e2, e1, List.append_assoc], ?_, s2.trans s1⟩
  have : (c.vis ++ (H1 ++ H2)).Perm ((c.vis ++ H2) ++ H1) := by
    rw [List.append_assoc]
    exact List.Perm.append_left _ List.perm_append_comm
  exact this.trans ((List.Perm.append_right _ p2).trans p1)

theorem StRel.refl {R : Var → Dom Val → Dom Val → Prop} (hR : ∀ x d, R x d d) (st : Store Var Val) :
    StRel R st st := by
  intro x
  cases st.lookup x
  · exact .none
  · exact .some (hR x _)

theorem StRel.trans {R : Var → Dom Val → Dom Val → Prop} (hR : ∀ x a b c, R x a b → R x b c → R x a c)
    {a b c : Store Var Val} (h1 : StRel R a b) (h2 : StRel R b c) : StRel R a c :=
  fun x => match a.lookup x, b.lookup x, c.lookup x, h1 x, h2 x with
    | _, _, _, .some h1, .some h2 => .some (hR x _ _ _ h1 h2)
    | _, _, _, .none, .none => .none

theorem StRel.isSome {R : Var → Dom Val → Dom Val → Prop} {st st' : Store Var Val} (h : StRel R st st') (x : Var) :
    (st'.lookup x).isSome = (st.lookup x).isSome :=
  match st.lookup x, st'.lookup x, h x with
  | _, _, .some _ => rfl
  | _, _, .none => rfl

theorem StRel.of_lookup {R : Var → Dom Val → Dom Val → Prop} {st st' : Store Var Val} {x : Var} {d' : Dom Val}
    (h : StRel R st st') (hl : st'.lookup x = some d') : ∃ d, st.lookup x = some d ∧ R x d d' := by
  match st.lookup x, st'.lookup x, h x, hl with
  | _, _, .some hr, rfl => exact ⟨_, rfl, hr⟩

theorem StEq.refl (st : Store Var Val) : StEq st st := StRel.refl (R := fun _ => DomEq) (fun _ => DomEq.refl) st

theorem StEq.trans {a b c : Store Var Val} (h1 : StEq a b) (h2 : StEq b c) : StEq a c :=
  StRel.trans (R := fun _ => DomEq) (fun _ _ _ _ => DomEq.trans) h1 h2

/-- `pop_state` in one formula: with nothing to restore, `drop` and `take` at the full length leave `vis` and `hidden`
as they are -/
theorem popState_cons {d : Dom Val} {n : Nat} {rest : List Nat} (h : d.states = n :: rest) :
    d.popState = { vis := d.vis ++ d.hidden.drop (d.hidden.length - (n - d.vis.length)),
                   hidden := d.hidden.take (d.hidden.length - (n - d.vis.length)), states := rest } := by
  unfold Dom.popState
  rw [h]
  dsimp only
  by_cases h0 : n - d.vis.length = 0
  · rw [if_pos h0, h0, Nat.sub_zero, List.drop_length, List.take_length, List.append_nil]
  · rw [if_neg h0]

/-- the heart of push/pop: whatever was hidden since the matching `push_state` comes back with `pop_state` -/
theorem pop_of_hid_push {d d2 d3 : Dom Val} (h : Hid d.pushState d2) (e : DomEq d2 d3) : DomEq d d3.popState := by
  obtain ⟨H, (e1 : d2.hidden = d.hidden ++ H), (p1 : (d2.vis ++ H).Perm d.vis),
    (s1 : d2.states = d.vis.length :: d.states)⟩ := h
  obtain ⟨p2, e2, s2⟩ := e
  have p : (d3.vis ++ H).Perm d.vis := (p2.symm.append_right H).trans p1
  have hlen : d3.hidden.length - (d.vis.length - d3.vis.length) = d.hidden.length := by
    have := p.length_eq
    rw [List.length_append] at this
    rw [e2, e1, List.length_append]
    omega
  rw [popState_cons (s2.trans s1), hlen, e2, e1]
  exact ⟨by rw [List.drop_left' rfl]; exact p.symm, List.take_left' rfl, rfl⟩

/-- the domain forward checking leaves: the values consistent with the constraint stay, the others go to `_hidden` -/
def fcDom (c : Constraint Var Val) (asg : Asg Var Val) (y : Var) (d : Dom Val) : Dom Val :=
  { vis := d.vis.filter (fun w => c.pred (known c.scope ((y, w) :: asg))),
    hidden := d.hidden ++ d.vis.filter (fun w => !c.pred (known c.scope ((y, w) :: asg))),
    states := d.states }

theorem hid_fcDom (c : Constraint Var Val) (asg : Asg Var Val) (y : Var) (d : Dom Val) :
    Hid d (fcDom c asg y d) :=
  ⟨_, rfl, List.filter_append_perm _ _, rfl⟩

/-- what `__check` does, by the variables of the constraint still unassigned.  None: the verdict is the predicate.  One,
`y`: forward checking — its domain becomes `fcDom`, and the verdict is that a value is left visible.  Otherwise, and
where forward checking has nothing to do (`y` not in the store, no visible value, no value to hide): true, and the store
as it is. -/
theorem check_cases (c : Constraint Var Val) (asg : Asg Var Val) (st : Store Var Val) :
    (c.scope.filter (unassigned asg) = [] ∧ check c asg st = (c.pred (known c.scope asg), st)) ∨
    (c.scope.filter (unassigned asg) ≠ [] ∧ check c asg st = (true, st)) ∨
    (∃ y d, c.scope.filter (unassigned asg) = [y] ∧ st.lookup y = some d ∧
       (check c asg st).1 = !(fcDom c asg y d).vis.isEmpty ∧
       ∀ x, (check c asg st).2.lookup x = if x = y then some (fcDom c asg y d) else st.lookup x) := by
  unfold check
  cases hf : c.scope.filter (unassigned asg) with
  | nil => exact Or.inl ⟨rfl, rfl⟩
  | cons y ys =>
    have hne : y :: ys ≠ [] := List.cons_ne_nil _ _
    cases ys with
    | cons z zs => exact Or.inr (Or.inl ⟨hne, rfl⟩)
    | nil =>
      dsimp only
      cases hl : st.lookup y with
      | none => exact Or.inr (Or.inl ⟨hne, rfl⟩)
      | some d =>
        dsimp only
        by_cases he : d.vis.isEmpty = true
        · rw [if_pos he]; exact Or.inr (Or.inl ⟨hne, rfl⟩)
        rw [if_neg he]
        by_cases hh : (d.vis.filter fun w => !c.pred (known c.scope ((y, w) :: asg))).isEmpty = true
        · rw [if_pos hh]; exact Or.inr (Or.inl ⟨hne, rfl⟩)
        rw [if_neg hh]
        have hfold : (d.vis.filter fun w => !c.pred (known c.scope ((y, w) :: asg))).foldl Dom.hideValue d
            = fcDom c asg y d := by
          rw [foldl_hideValue, foldl_erase_filter]
          simp [fcDom]
        refine Or.inr (Or.inr ⟨y, d, rfl, hl, by rw [hfold], fun x => ?_⟩)
        rw [lookup_modify]
        by_cases hx : x = y
        · rw [if_pos hx, hx, hl, Option.map_some, if_pos rfl, hfold]
        · rw [if_neg hx]
          simp only [hx, if_false]
          exact Option.map_id'

theorem checkAll_cons (asg : Asg Var Val) (c : Constraint Var Val) (cs : List (Constraint Var Val))
    (st : Store Var Val) :
    checkAll asg (c :: cs) st =
      if (check c asg st).1 = true then checkAll asg cs (check c asg st).2 else (false, (check c asg st).2) := by
  rw [checkAll]
  rcases check c asg st with ⟨_ | _, st'⟩ <;> rfl

/-- what `__check` may do to the domains: hide values of unassigned variables, nothing else -/
def FcRel (asg : Asg Var Val) : Var → Dom Val → Dom Val → Prop :=
  fun x d d' => if unassigned asg x = true then Hid d d' else d' = d

theorem FcRel.refl (asg : Asg Var Val) (x : Var) (d : Dom Val) : FcRel asg x d d := by
  unfold FcRel; split
  · exact Hid.refl d
  · rfl

theorem FcRel.trans (asg : Asg Var Val) (x : Var) (a b c : Dom Val) (h1 : FcRel asg x a b)
    (h2 : FcRel asg x b c) : FcRel asg x a c := by
  unfold FcRel at *
  split
  · next h => rw [if_pos h] at h1 h2; exact Hid.trans h1 h2
  · next h => rw [if_neg h] at h1 h2; rw [h2, h1]

theorem mem_filter_unassigned {scope : List Var} {asg : Asg Var Val} {y : Var}
    (h : scope.filter (unassigned asg) = [y]) : unassigned asg y = true ∧ y ∈ scope := by
  have : y ∈ scope.filter (unassigned asg) := by rw [h]; simp
  exact (List.mem_filter.mp this).symm

theorem check_frame (c : Constraint Var Val) (asg : Asg Var Val) (st : Store Var Val) :
    StRel (FcRel asg) st (check c asg st).2 := by
  rcases check_cases c asg st with ⟨_, h⟩ | ⟨_, h⟩ | ⟨y, d, hf, hl, _, h⟩
  · rw [h]; exact StRel.refl (FcRel.refl asg) st
  · rw [h]; exact StRel.refl (FcRel.refl asg) st
  · intro x
    rw [h x]
    split
    · next hx =>
      rw [hx, hl]
      refine .some ?_
      rw [FcRel, if_pos (mem_filter_unassigned hf).1]
      exact hid_fcDom c asg y d
    · exact StRel.refl (FcRel.refl asg) st x

theorem checkAll_frame (asg : Asg Var Val) : ∀ (cs : List (Constraint Var Val)) (st : Store Var Val),
    StRel (FcRel asg) st (checkAll asg cs st).2
  | [], st => StRel.refl (FcRel.refl asg) st
  | c :: cs, st => by
      rw [checkAll_cons]
      split
      · exact StRel.trans (FcRel.trans asg) (check_frame c asg st) (checkAll_frame asg cs _)
      · exact check_frame c asg st

end Pkgcore.C10.Solver
