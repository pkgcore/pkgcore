import Pkgcore.Proofs.C38
/-!
# C38 — package-list rewriting touches only the lines it must

`parse`, `Entry.withKeywords`, `expandLoop`/`expandText`, `buildText` mirror `pkgcore.bugzilla.pkglist`;
`scan`/`splitComment` are the structural recognisers of its two regular expressions; `Spec.rewrittenItems` is
the layout a rewritten line must have.
-/
namespace Pkgcore.C38
open Pkgcore.C38.Spec

variable {α : Type}

/-- splitting into lines loses nothing (whatever line boundaries the text uses) -/
theorem lines_identity (text : Str) : (splitLines text).flatten = text := splitLines_flatten text

/-- **parsing a package list and rendering it back reproduces the text exactly**: for every text that parses,
`"".join(e.raw + e.eol for e in entries) == text` — all line endings (`\n`, `\r\n`, `\r`, form feed, …),
blank lines, comments and spacing included. -/
theorem parse_render_identity (parseAtom : Str → Option α) (text : Str) (es : List (Entry α))
    (h : parse parseAtom text = .ok es) : renderEntries es = text := by
  unfold parse at h
  rw [parseLines_render parseAtom 1 _ es h, splitLines_flatten]

example : (parse (fun t => if t = "a/b".toList then some 1 else none) "  a/b x  # c\r\n\n#z".toList).toOption
    = some [⟨1, "  a/b x  # c".toList, some 1, ["x".toList], "# c".toList, "\r\n".toList⟩,
           ⟨2, [], none, [], [], "\n".toList⟩, ⟨3, "#z".toList, none, [], "#z".toList, []⟩] := by decide +kernel

/-- **building a list from entries parses back to those entries**: for package atoms whose string form is a
proper token that `parse_atom` maps back to the atom, and proper keyword tokens, the text written by `build` parses
without error into one entry per input entry, in order, with that package, exactly those keywords and no comment;
and (by `parse_render_identity`) rendering those entries gives the built text again. -/
theorem build_parse_roundtrip (parseAtom : Str → Option α) (strAtom : α → Str) (entries : List (α × List Str))
    (hatom : ∀ e ∈ entries, Tok (strAtom e.1) ∧ parseAtom (strAtom e.1) = some e.1)
    (hk : ∀ e ∈ entries, ∀ k ∈ e.2, Tok k) :
    ∃ es, parse parseAtom (buildText strAtom entries) = .ok es ∧
      es.map (fun e => (e.pkg, e.keywords, e.comment)) = entries.map (fun e => (some e.1, e.2, [])) := by
  have hlast := fun e he => joinSp_last_nonspace (strAtom e.1) e.2 (hatom e he).1 (hk e he)
  unfold parse buildText
  -- a built line ends in a token: `rstrip` takes nothing off it, it is not empty and holds no line boundary
  rw [List.map_congr_left fun e he => (hlast e he).elim fun c hc => rstrip_of_last _ _ c hc.1 hc.2,
    splitLines_joinNl _ fun l hl => by
      obtain ⟨e, he, rfl⟩ := List.mem_map.1 hl
      obtain ⟨c, hc, _⟩ := hlast e he
      exact ⟨(fun h => by rw [h] at hc; cases hc),
        joinSp_breakFree _ (List.forall_mem_cons.2 ⟨(hatom e he).1.2.1, fun t ht => (hk e he t ht).2.1⟩)⟩]
  exact parseLines_built parseAtom strAtom 1 entries hatom hk

example : buildText (fun (a : Nat) => if a = 0 then "=dev-libs/a-1".toList else "dev-libs/b".toList)
    [(0, ["amd64".toList, "x86".toList]), (1, [])] = "=dev-libs/a-1 amd64 x86\ndev-libs/b".toList := by decide +kernel

/-- **rewriting the keywords of a line preserves its package spec, spacing, comment and line ending.**
For every entry naming a package and all proper keyword tokens `kws`: line number, package, comment field and
line ending are untouched; and *reading the rewritten line back* — splitting off the comment with the code's
own comment recogniser, then tokenising — gives the same comment text and exactly the layout
`Spec.rewrittenItems`: the same leading whitespace, the same spec token as written, the same separator after it
(a single space if the line had no keywords), the new keywords separated by single spaces, and the same
whitespace in front of the comment. -/
theorem rewrite_preserves_spec_spacing_comment_eol (e : Entry α) (hp : e.pkg ≠ none)
    (hne : (scan (splitComment e.raw).1).items ≠ []) (kws : List Str) (hk : ∀ k ∈ kws, Tok k) :
    (e.withKeywords kws).lineno = e.lineno ∧ (e.withKeywords kws).pkg = e.pkg ∧
    (e.withKeywords kws).comment = e.comment ∧ (e.withKeywords kws).eol = e.eol ∧
    (e.withKeywords kws).keywords = kws ∧
    splitComment (e.withKeywords kws).raw
      = ((rewrittenItems (scan (splitComment e.raw).1) kws).render, (splitComment e.raw).2) ∧
    scan (rewrittenItems (scan (splitComment e.raw).1) kws).render = rewrittenItems (scan (splitComment e.raw).1) kws := by
  cases hpk : e.pkg with
  | none => exact absurd hpk hp
  | some pkg =>
    rw [withKeywords_eq e pkg hpk kws hne]
    exact ⟨rfl, hpk, rfl, rfl, rfl, lay_iff.2 ⟨rfl, rewrittenItems_lay (lay_scan e.raw) hk⟩⟩

example : (Entry.withKeywords (α := Nat) ⟨1, "  a/b-1   *   # keep".toList, some 0, ["*".toList], "# keep".toList, "\r\n".toList⟩
    ["amd64".toList, "~x86".toList]).raw = "  a/b-1   amd64 ~x86   # keep".toList := by decide +kernel

example : Tok "~amd64".toList ∧ Tok "a#b".toList :=
  ⟨⟨by decide +kernel, by decide +kernel, by decide +kernel⟩,
    ⟨by decide +kernel, by decide +kernel, by decide +kernel⟩⟩

/-- a line without package (blank, comment) is never rewritten -/
theorem rewrite_blank_noop (e : Entry α) (h : e.pkg = none) (kws : List Str) : e.withKeywords kws = e :=
  withKeywords_noop e kws (Or.inl h)

/-- on success the expanded keywords of a line are the per-keyword expansions, in order
(`*` ↦ suggestions or `-`, `^` ↦ the previous package line's expanded keywords, others unchanged) -/
theorem expand_keywords_semantics (suggested : List Str) (previous : Option (List Str)) (lineno n : Nat)
    (ks kws : List Str) (h : expandKeywords suggested previous lineno n ks = .ok kws) :
    kws = ks.flatMap (expandOne suggested (previous.getD [])) :=
  expandKeywords_eq_flatMap suggested previous lineno n ks kws h

/-- **expanding rewrites only lines whose keywords change, and leaves lines without sentinels byte-identical**:
if the expansion succeeds, the result is the rendering of as many entries as were parsed, and each of them is
either the parsed entry itself — same `raw`, same line ending — or the rewriting (`with_keywords`) of a package
line that carried a sentinel and whose keywords really changed. -/
theorem expand_touches_only_changed (parseAtom : Str → Option α) (suggest : α → List Str) (text out : Str)
    (h : expandText parseAtom suggest text = .ok out) :
    ∃ es es', parse parseAtom text = .ok es ∧ Forall2 Touched es es' ∧ out = renderEntries es' := by
  unfold expandText at h
  cases hp : parse parseAtom text with
  | error n => rw [hp] at h; cases h
  | ok es =>
    rw [hp] at h
    simp only at h
    cases he : expandLoop suggest none es with
    | error err => rw [he] at h; cases h
    | ok r =>
      obtain ⟨es', ch⟩ := r
      rw [he] at h
      simp only [Except.ok.injEq] at h
      have hparsed := fun e he => (parseLines_parsed parseAtom 1 _ es hp e he).1
      obtain ⟨h1, h2⟩ := expandLoop_touched suggest none es es' ch hparsed he
      refine ⟨es, es', rfl, h1, ?_⟩
      cases ch with
      | true => simpa using h.symm
      | false =>
        rw [h2 rfl]
        simp only [Bool.false_eq_true, if_false] at h
        rw [← h]
        exact (parse_render_identity parseAtom text es hp).symm

/-- lines without sentinels come out byte-identical -/
theorem expand_keeps_sentinel_free_lines (e e' : Entry α) (h : Touched e e')
    (hno : ∀ k ∈ e.keywords, isSentinel k = false) : e' = e := by
  rcases h with h | ⟨_, ⟨k, hk, hs⟩, _⟩
  · exact h
  · rw [hno k hk] at hs; cases hs

/-- the two statements together, end to end: for suggestion functions returning proper keyword tokens, every line
of the expansion is the parsed line itself, or reads back with the same line number, package, comment, line
ending, leading whitespace, spec token, separator and trailing whitespace, and the expanded keywords -/
theorem expand_rewritten_lines_keep_layout (parseAtom : Str → Option α) (suggest : α → List Str)
    (hsug : ∀ pkg, ∀ k ∈ suggest pkg, Tok k) (text : Str) (es es' : List (Entry α)) (ch : Bool)
    (hp : parse parseAtom text = .ok es) (he : expandLoop suggest none es = .ok (es', ch)) :
    Forall2 (fun e e' => e' = e ∨
      (e'.lineno = e.lineno ∧ e'.pkg = e.pkg ∧ e'.comment = e.comment ∧ e'.eol = e.eol ∧
       splitComment e'.raw = ((rewrittenItems (scan (splitComment e.raw).1) e'.keywords).render, (splitComment e.raw).2) ∧
       scan (splitComment e'.raw).1 = rewrittenItems (scan (splitComment e.raw).1) e'.keywords)) es es' := by
  have hent := parseLines_parsed parseAtom 1 _ es hp
  have hparsed := fun e he => (hent e he).1
  have hktok := fun e he => (hent e he).2
  have htok' := expandLoop_tok suggest none es es' ch hsug (fun _ h => by cases h) hktok hparsed he
  have ht := (expandLoop_touched suggest none es es' ch hparsed he).1
  refine ht.imp ?_
  intro e e' hmem hmem' hT
  rcases hT with h | ⟨hpn, _, _, heq⟩
  · exact Or.inl h
  · right
    have := rewrite_preserves_spec_spacing_comment_eol e hpn (hparsed e hmem hpn) e'.keywords (htok' e' hmem')
    rw [← heq] at this
    obtain ⟨a, b, c, d, _, f, g⟩ := this
    exact ⟨a, b, c, d, f, by rw [f]; exact g⟩

end Pkgcore.C38
