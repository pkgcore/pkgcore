import Pkgcore.Proofs.C09Tree
import Pkgcore.Proofs.Lib
/-!
# C09 — lemmas behind `Props/C09`: the parser

`Run`, the accepted runs of `parseLoop`, stands for the loop everywhere: `run_render` builds the run over a
rendered tree, `run_built` and the three scans say what every run satisfies.  Before it the tokens and `OpsStd`, with
its check `opsStd_of_check`.
-/
namespace Pkgcore.C09
open Pkgcore.C09.Spec

theorem collapseL_ne_nil {cs : List Dep} (h : cs ≠ []) : collapseL cs ≠ [] := by
  cases cs with
  | nil => exact absurd rfl h
  | cons c cs => simp

theorem collapseL_append (a b : List Dep) : collapseL (a ++ b) = collapseL a ++ collapseL b := by
  induction a with
  | nil => simp
  | cons x xs ih => simp [ih]

theorem parseLoop_nil_nil (ops : Ops) (ren okEl cur) : parseLoop ops ren okEl [] cur [] = some cur := by
  rw [parseLoop.eq_def]
theorem parseLoop_nil_cons (ops : Ops) (ren okEl cur x xs) : parseLoop ops ren okEl [] cur (x :: xs) = none := by
  rw [parseLoop.eq_def]

theorem isCondTok_condTok (n f) : isCondTok (condTok n f) = true := by
  simp [isCondTok, condTok, List.getLast?_append]

theorem condTok_ne {k : Tok} (hk : isCondTok k = false) (n f) : condTok n f ≠ k := by
  intro h
  rw [← h, isCondTok_condTok] at hk
  cases hk

theorem sym_ne_close (kind : Kind) : kind.sym ≠ tkClose := by cases kind <;> decide +kernel
theorem sym_ne_open (kind : Kind) : kind.sym ≠ tkOpen := by cases kind <;> decide +kernel
theorem sym_ne_arrow (kind : Kind) : kind.sym ≠ tkArrow := by cases kind <;> decide +kernel
theorem sym_inj {a b : Kind} (h : a.sym = b.sym) : a = b := by
  revert h
  cases a <;> cases b <;> decide +kernel

variable {ops : Ops} {ren : Bool} {okEl : Tok → Option Tok → Bool}

theorem opsStd_node (hstd : OpsStd ops) {c kind} (h : ops.lookup c = some (.node kind)) : c = kind.sym := by
  obtain ⟨k', hk, ho⟩ := hstd c _ h
  rcases ho with ho | ho
  · cases ho
  · cases ho; exact hk

theorem opsStd_not_opener (hstd : OpsStd ops) (k : Tok) (hc : isCondTok k = false)
    (hs : ∀ kind : Kind, k ≠ kind.sym) : isOpener ops k = false := by
  simp only [isOpener, hc, Bool.false_or]
  cases h : ops.lookup k with
  | none => rfl
  | some op => obtain ⟨k', hk, _⟩ := hstd k op h; exact absurd hk (hs k')

theorem close_not_opener (hstd : OpsStd ops) : isOpener ops tkClose = false :=
  opsStd_not_opener hstd _ (by decide) (fun k h => sym_ne_close k h.symm)
theorem open_not_opener (hstd : OpsStd ops) : isOpener ops tkOpen = false :=
  opsStd_not_opener hstd _ (by decide) (fun k h => sym_ne_open k h.symm)
theorem arrow_not_opener (hstd : OpsStd ops) : isOpener ops tkArrow = false :=
  opsStd_not_opener hstd _ (by decide) (fun k h => sym_ne_arrow k h.symm)

/-- `OpsStd` as a check that can be run on a concrete table -/
def opsStdB (ops : Ops) : Bool :=
  ops.all fun e => match e.2 with
    | .node kind => e.1 == kind.sym
    | .invalid => e.1 == Kind.and.sym || e.1 == Kind.or.sym || e.1 == Kind.justOne.sym || e.1 == Kind.atMostOne.sym

theorem opsStd_of_check (ops : Ops) (h : opsStdB ops = true) : OpsStd ops := by
  intro k op hl
  have hm := Lib.mem_of_lookup_eq_some hl
  have := List.all_eq_true.mp h _ hm
  cases op with
  | node kind => exact ⟨kind, by simpa using this, Or.inr rfl⟩
  | invalid =>
    simp only [Bool.or_eq_true, beq_iff_eq] at this
    rcases this with ((h1 | h1) | h1) | h1
    · exact ⟨.and, h1, Or.inl rfl⟩
    · exact ⟨.or, h1, Or.inl rfl⟩
    · exact ⟨.justOne, h1, Or.inl rfl⟩
    · exact ⟨.atMostOne, h1, Or.inl rfl⟩

theorem elemTok_iff {k : Tok} : elemTok ops ren k = true ↔
    k ≠ tkClose ∧ k ≠ tkOpen ∧ isOpener ops k = false ∧ k.contains '|' = false ∧
      (ren = true → k ≠ tkArrow) := by
  cases ren <;> simp [elemTok, and_assoc]

theorem elemTok_of {k : Tok} (h1 : ¬k = tkClose) (h2 : ¬k = tkOpen)
    (h3 : ¬isOpener ops k = true) (h4 : ¬k.contains '|' = true) (h5 : ren = true → ¬k = tkArrow) :
    elemTok ops ren k = true :=
  elemTok_iff.mpr ⟨h1, h2, Bool.eq_false_iff.mpr h3, Bool.eq_false_iff.mpr h4, h5⟩

/-- An accepted run of the `for k in words` loop from the state `(cur, stack)`: the tokens it consumes, step by
step, and the result.  `parseLoop … = some r` holds exactly when there is one (`run_of_parseLoop`,
`parseLoop_of_run`). -/
inductive Run (ops : Ops) (ren : Bool) (okEl : Tok → Option Tok → Bool) :
    List Tok → List Dep → List (Tok × List Dep) → List Dep → Prop
  | done (cur) : Run ops ren okEl [] cur [] cur
  | close {rest cur c parent stack node r} (hc : closeFrame ops c cur = some node)
      (h : Run ops ren okEl rest (parent ++ [node]) stack r) :
      Run ops ren okEl (tkClose :: rest) cur ((c, parent) :: stack) r
  | group {rest cur stack r} (h : Run ops ren okEl rest [] (([], cur) :: stack) r) :
      Run ops ren okEl (tkOpen :: rest) cur stack r
  | opener {k rest cur stack r} (h1 : k ≠ tkClose) (h2 : k ≠ tkOpen) (ho : isOpener ops k = true)
      (h : Run ops ren okEl rest [] ((k, cur) :: stack) r) : Run ops ren okEl (k :: tkOpen :: rest) cur stack r
  | renamed {k k3 rest cur stack r} (hr : ren = true) (hk : elemTok ops ren k = true) (h3 : plainTok ops k3 = true)
      (hok : okEl k (some k3) = true) (h : Run ops ren okEl rest (cur ++ [.leaf k (some k3)]) stack r) :
      Run ops ren okEl (k :: tkArrow :: k3 :: rest) cur stack r
  | leaf {k rest cur stack r} (hk : elemTok ops ren k = true) (hok : okEl k none = true)
      (hn : ren = true → rest.head? ≠ some tkArrow)
      (h : Run ops ren okEl rest (cur ++ [.leaf k none]) stack r) : Run ops ren okEl (k :: rest) cur stack r

theorem run_of_parseLoop (toks : List Tok) (cur : List Dep) (stack : List (Tok × List Dep)) :
    ∀ r, parseLoop ops ren okEl toks cur stack = some r → Run ops ren okEl toks cur stack r := by
  -- Along the branches of `parseLoop`: the branches that return `none` contradict `h`; each of the seven others is
  -- one constructor of `Run` applied to the induction hypothesis (end of input, `)`, `(`, opener, `k -> k3`, and a
  -- plain element with and without renames).
  fun_induction parseLoop ops ren okEl toks cur stack
  all_goals intro r h
  all_goals try (simp at h; done)
  case case1 cur =>
    cases h
    exact .done cur
  case case5 rest cur c parent stack' node hcf ih => exact .close hcf (ih r h)
  case case6 rest cur stack _ ih => exact .group (ih r h)
  case case8 k cur stack h1 h2 hop rest' ih => exact .opener h1 h2 hop (ih r h)
  case case12 k cur stack h1 h2 h3 h4 hren h5 head k3 rest'' hp hh ih =>
    simp only [Bool.and_eq_true] at hp
    have : head = tkArrow := by simpa using hh
    subst this
    exact .renamed hren (elemTok_of h1 h2 h3 h4 fun _ => h5) hp.1 hp.2 (ih r h)
  case case15 k rest cur stack h1 h2 h3 h4 hren h5 hn hok ih =>
    exact .leaf (elemTok_of h1 h2 h3 h4 fun _ => h5) hok (fun _ => hn) (ih r h)
  case case17 k rest cur stack h1 h2 h3 h4 hren hok ih =>
    exact .leaf (elemTok_of h1 h2 h3 h4 fun hr => absurd hr hren) hok (fun hr => absurd hr hren) (ih r h)

theorem parseLoop_of_run {toks cur stack r} (h : Run ops ren okEl toks cur stack r) :
    parseLoop ops ren okEl toks cur stack = some r := by
  induction h with
  | done cur => exact parseLoop_nil_nil ..
  | close hc _ ih => rw [parseLoop.eq_def]; simpa [hc] using ih
  | group _ ih => rw [parseLoop.eq_def]; simpa [show tkOpen ≠ tkClose by decide] using ih
  | opener h1 h2 ho _ ih => rw [parseLoop.eq_def]; simpa [h1, h2, ho] using ih
  | renamed hr hk h3 hok _ ih =>
    subst hr
    obtain ⟨h1, h2, h3', h4, h5⟩ := elemTok_iff.mp hk
    rw [parseLoop.eq_def]
    simp only [h1, h2, h3', h4, if_false, Bool.false_eq_true, if_true]
    simpa [h5 rfl, h3, hok] using ih
  | leaf hk hok hn _ ih =>
    obtain ⟨h1, h2, h3, h4, h5⟩ := elemTok_iff.mp hk
    rw [parseLoop.eq_def]
    simp only [h1, h2, h3, h4, if_false, Bool.false_eq_true, hok, if_true]
    cases ren with
    | false => simpa using ih
    | true => simpa [h5 rfl, hn rfl] using ih

@[simp] theorem renderL_nil : renderL [] = [] := by simp [renderL]
@[simp] theorem renderL_cons (c cs) : renderL (c :: cs) = render c ++ renderL cs := by simp [renderL]
@[simp] theorem wfL_nil (ops ren okEl) : wfL ops ren okEl [] = true := by simp [wfL]
@[simp] theorem wfL_cons (ops ren okEl c cs) :
    wfL ops ren okEl (c :: cs) = (wf ops ren okEl c && wfL ops ren okEl cs) := by simp [wfL]

theorem wfL_append (ops : Ops) (ren okEl) (a b : List Dep) :
    wfL ops ren okEl (a ++ b) = (wfL ops ren okEl a && wfL ops ren okEl b) := by
  induction a with
  | nil => simp
  | cons x xs ih => simp [ih, Bool.and_assoc]

theorem closeFrame_collapseL_grp (kind : Kind) (cs : List Dep) (hl : ops.lookup kind.sym = some (.node kind))
    (hne : cs ≠ []) : closeFrame ops kind.sym (collapseL cs) = some (collapse (.grp kind cs)) := by
  have hne' := collapseL_ne_nil hne
  unfold closeFrame
  simp only [hl, collapse]
  cases hc : collapseL cs with
  | nil => exact absurd hc hne'
  | cons x xs =>
    cases xs with
    | nil => by_cases hcol : collapsible kind = true <;> simp [hcol]
    | cons y ys => simp

theorem closeFrame_condTok (n : Bool) (f : Tok) {cur : List Dep} (hl : ops.lookup (condTok n f) = none)
    (hf : n = true ∨ f.head? ≠ some '!') (hne : cur ≠ []) :
    closeFrame ops (condTok n f) cur = some (.cond n f cur) := by
  unfold closeFrame
  rw [if_neg (by simpa using hne)]
  simp only [hl]
  cases n with
  | true => simp [condTok]
  | false =>
    have h3 := hf.resolve_left Bool.false_ne_true
    cases f with
    | nil => simp [condTok]
    | cons a as =>
      rw [List.head?_cons, ne_eq, Option.some.injEq] at h3
      simp only [condTok, Bool.false_eq_true, if_false, List.nil_append, List.cons_append, List.head?_cons,
        Option.some.injEq, h3, if_false, List.isEmpty_cons]
      rw [← List.cons_append, List.dropLast_concat]

theorem closeFrame_collapseL_cond (n : Bool) (f : Tok) (cs : List Dep) (hl : ops.lookup (condTok n f) = none)
    (hf : n = true ∨ f.head? ≠ some '!') (hne : cs ≠ []) :
    closeFrame ops (condTok n f) (collapseL cs) = some (collapse (.cond n f cs)) := by
  rw [closeFrame_condTok n f hl hf (collapseL_ne_nil hne), collapse]

theorem render_head_ne_arrow {t : Dep} (h : wf ops true okEl t = true) (rest : List Tok) :
    (render t ++ rest).head? ≠ some tkArrow := by
  cases t with
  | leaf k r =>
    cases r with
    | none =>
      simp only [wf, Bool.and_eq_true] at h
      simpa [render] using (elemTok_iff.mp h.1).2.2.2.2 rfl
    | some r =>
      simp only [wf, Bool.and_eq_true] at h
      simpa [render] using (elemTok_iff.mp h.1.1.2).2.2.2.2 rfl
  | grp kind cs =>
    by_cases hk : kind = .and
    · simp [render, hk, tkOpen, tkArrow]
    · simpa [render, hk] using sym_ne_arrow kind
  | cond n f cs => simpa [render] using condTok_ne (k := tkArrow) rfl n f

/-- the tokens `toks` read as the items `out`: in any state, a run that goes on after `out` has been appended to the
current frame can be started on `toks` -/
def ParsesBack (ops : Ops) (ren : Bool) (okEl : Tok → Option Tok → Bool) (toks : List Tok) (out : List Dep) : Prop :=
  ∀ (rest : List Tok) (cur : List Dep) (stack : List (Tok × List Dep)) (r : List Dep),
    (ren = true → rest.head? ≠ some tkArrow) →
    Run ops ren okEl rest (cur ++ out) stack r → Run ops ren okEl (toks ++ rest) cur stack r

theorem run_render :
    (∀ t : Dep, wf ops ren okEl t = true → ParsesBack ops ren okEl (render t) [collapse t]) ∧
      ∀ ts : List Dep, wfL ops ren okEl ts = true → ParsesBack ops ren okEl (renderL ts) (collapseL ts) := by
  have close_next (rest : List Tok) : ren = true → (tkClose :: rest).head? ≠ some tkArrow :=
    fun _ => by simp [tkClose, tkArrow]
  apply Dep.induct₂
  case leaf =>
    intro k r h rest cur stack res hn hr
    cases r with
    | none =>
      simp only [wf, Bool.and_eq_true] at h
      exact .leaf h.1 h.2 hn hr
    | some r =>
      simp only [wf, Bool.and_eq_true] at h
      exact .renamed h.1.1.1 h.1.1.2 h.1.2 h.2 hr
  case grp =>
    intro kind cs ih h rest cur stack res _ hr
    simp only [wf, Bool.and_eq_true, beq_iff_eq, Bool.not_eq_true', List.isEmpty_eq_false_iff] at h
    obtain ⟨⟨hl, hne⟩, hcs⟩ := h
    have body := ih hcs (tkClose :: rest) [] ((kind.sym, cur) :: stack) res (close_next rest)
      (.close (closeFrame_collapseL_grp kind cs hl hne) hr)
    by_cases hk : kind = .and
    · subst hk
      simpa [render] using Run.group body
    · simpa [render, hk] using Run.opener (sym_ne_close kind) (sym_ne_open kind) (by simp [isOpener, hl]) body
  case cond =>
    intro n f cs ih h rest cur stack res _ hr
    simp only [wf, Bool.and_eq_true, Option.isNone_iff_eq_none, Bool.or_eq_true, bne_iff_ne, ne_eq,
      Bool.not_eq_true', List.isEmpty_eq_false_iff] at h
    obtain ⟨⟨⟨hl, hf⟩, hne⟩, hcs⟩ := h
    simpa [render] using Run.opener (condTok_ne (k := tkClose) rfl n f) (condTok_ne (k := tkOpen) rfl n f)
      (by simp [isOpener, isCondTok_condTok])
      (ih hcs (tkClose :: rest) [] _ res (close_next rest)
        (.close (closeFrame_collapseL_cond n f cs hl hf hne) hr))
  case nil =>
    intro _ rest cur stack r _ hr
    simpa using hr
  case cons =>
    intro t ts ht hts h rest cur stack r hn hr
    simp only [wfL_cons, Bool.and_eq_true] at h
    -- what follows the rendering of `t` is the rendering of the next tree, which does not start with `->`
    have hn' : ren = true → (renderL ts ++ rest).head? ≠ some tkArrow := by
      intro hren
      cases ts with
      | nil => exact hn hren
      | cons t' ts' =>
        subst hren
        simp only [wfL_cons, Bool.and_eq_true] at h
        rw [renderL_cons, List.append_assoc]
        exact render_head_ne_arrow h.2.1 _
    rw [renderL_cons, List.append_assoc]
    refine ht h.1 _ cur stack r hn' (hts h.2 rest _ stack r hn ?_)
    simpa using hr

/-- the token kept with a suspended frame is in the operator table, or `[]` (a bare `(`), or a `flag?` token -/
def FrameOk (ops : Ops) (c : Tok) : Prop := ops.lookup c = none → c ≠ [] → isCondTok c = true

theorem exists_condTok {c : Tok} (h : isCondTok c = true) :
    ∃ n f, c = condTok n f ∧ (n = true ∨ f.head? ≠ some '!') := by
  rw [isCondTok, beq_iff_eq] at h
  have hne : c ≠ [] := by rintro rfl; cases h
  rw [List.getLast?_eq_some_getLast hne, Option.some.injEq] at h
  rw [← List.dropLast_concat_getLast hne, h]
  by_cases hh : c.dropLast.head? = some '!'
  · obtain ⟨f, hf⟩ := List.head?_eq_some_iff.mp hh
    rw [hf]
    exact ⟨true, f, rfl, .inl rfl⟩
  · exact ⟨false, _, rfl, .inr hh⟩

/-- operator frame: the group over `cur`, or its one member where `collapse` would splice it; conditional frame
(`exists_condTok`): the conditional over `cur` -/
theorem closeFrame_wf (hstd : OpsStd ops) {c : Tok} {cur : List Dep} {node : Dep}
    (h : closeFrame ops c cur = some node) (hw : wfL ops ren okEl cur = true) (hcol : collapseL cur = cur)
    (hf : FrameOk ops c) : wf ops ren okEl node = true ∧ collapse node = node := by
  cases cur with
  | nil => cases h
  | cons x xs =>
    cases hl : ops.lookup c with
    | some op =>
      unfold closeFrame at h
      rw [if_neg (by simp)] at h
      cases op with
      | invalid => simp only [hl] at h; cases h
      | node kind =>
        simp only [hl] at h
        obtain rfl := opsStd_node hstd hl
        have hgrp : wf ops ren okEl (.grp kind (x :: xs)) = true := by simp [wf, hl, hw]
        cases xs with
        | nil =>
          dsimp only at h
          by_cases hk : collapsible kind = true
          · rw [if_pos hk] at h
            obtain rfl := Option.some.inj h
            exact ⟨by simpa using hw, by simpa using hcol⟩
          · rw [if_neg hk] at h
            obtain rfl := Option.some.inj h
            exact ⟨hgrp, by simp [collapse, hcol, hk]⟩
        | cons y zs =>
          obtain rfl := Option.some.inj h
          exact ⟨hgrp, by rw [collapse, hcol]⟩
    | none =>
      have hcne : c ≠ [] := by rintro rfl; simp [closeFrame, hl] at h
      obtain ⟨n, f, rfl, hnf⟩ := exists_condTok (hf hl hcne)
      rw [closeFrame_condTok n f hl hnf (List.cons_ne_nil x xs)] at h
      obtain rfl := Option.some.inj h
      exact ⟨by simp [wf, hl, hw, hnf], by simp [collapse, hcol]⟩

/-- a frame as the parser keeps it -/
def Built (ops : Ops) (ren : Bool) (okEl : Tok → Option Tok → Bool) (cur : List Dep) : Prop :=
  wfL ops ren okEl cur = true ∧ collapseL cur = cur

theorem Built.nil : Built ops ren okEl [] := ⟨wfL_nil .., collapseL_nil⟩

theorem Built.snoc {cur x} (h : Built ops ren okEl cur) (hx : wf ops ren okEl x = true)
    (hc : collapse x = x) : Built ops ren okEl (cur ++ [x]) :=
  ⟨by simp [wfL_append, h.1, hx], by simp [collapseL_append, h.2, hc]⟩

def StackOk (ops : Ops) (ren : Bool) (okEl : Tok → Option Tok → Bool) (stack : List (Tok × List Dep)) : Prop :=
  ∀ e ∈ stack, Built ops ren okEl e.2 ∧ FrameOk ops e.1

theorem StackOk.push {stack} (hs : StackOk ops ren okEl stack) {c : Tok} {cur : List Dep}
    (hb : Built ops ren okEl cur) (hf : FrameOk ops c) : StackOk ops ren okEl ((c, cur) :: stack) := by
  intro e he
  rcases List.mem_cons.mp he with rfl | he
  · exact ⟨hb, hf⟩
  · exact hs e he

theorem run_built (hstd : OpsStd ops) {toks cur stack r}
    (h : Run ops ren okEl toks cur stack r) :
    Built ops ren okEl cur → StackOk ops ren okEl stack → Built ops ren okEl r := by
  induction h with
  | done cur => exact fun hb _ => hb
  | @close rest cur c parent stack node r hcf _ ih =>
    intro hb hs
    obtain ⟨hp, hf⟩ := hs (c, parent) (by simp)
    obtain ⟨hnw, hnc⟩ := closeFrame_wf hstd hcf hb.1 hb.2 hf
    exact ih (hp.snoc hnw hnc) fun e he => hs e (by simp [he])
  | group _ ih => exact fun hb hs => ih .nil (hs.push hb fun _ hne => absurd rfl hne)
  | opener _ _ ho _ ih =>
    refine fun hb hs => ih .nil (hs.push hb ?_)
    intro hl _
    simpa [isOpener, hl] using ho
  | renamed hr hk h3 hok _ ih =>
    subst hr
    exact fun hb hs => ih (hb.snoc (by simp [wf, hk, h3, hok]) (by simp [collapse])) hs
  | leaf hk hok _ _ ih => exact fun hb hs => ih (hb.snoc (by simp [wf, hk, hok]) (by simp [collapse])) hs

theorem depthAfter_skip (k : Tok) (rest : List Tok) (d : Nat) (h1 : ¬k = tkOpen) (h2 : ¬k = tkClose) :
    depthAfter (k :: rest) d = depthAfter rest d := by
  simp [depthAfter, h1, h2]

theorem openersFollowed_skip (k : Tok) (rest : List Tok) (h : isOpener ops k = false) :
    openersFollowed ops (k :: rest) = openersFollowed ops rest := by
  cases rest with
  | nil => simp [openersFollowed, h]
  | cons k2 rest' => simp [openersFollowed, h]

theorem noEmptyGroup_skip (k : Tok) (rest : List Tok) (h : ¬k = tkOpen) :
    noEmptyGroup (k :: rest) = noEmptyGroup rest := by
  cases rest with
  | nil => simp [noEmptyGroup]
  | cons k2 rest' => simp [noEmptyGroup, h]

/-- what the `_skip` lemmas of the three scans ask of a token -/
theorem elemTok_skipped {k : Tok} (h : elemTok ops ren k = true) :
    ¬k = tkClose ∧ ¬k = tkOpen ∧ isOpener ops k = false :=
  have ⟨h1, h2, h3, _⟩ := elemTok_iff.mp h
  ⟨h1, h2, h3⟩

theorem plainTok_skipped {k : Tok} (h : plainTok ops k = true) :
    ¬k = tkClose ∧ ¬k = tkOpen ∧ isOpener ops k = false := by
  simp only [plainTok, Bool.and_eq_true, bne_iff_ne, ne_eq, Bool.not_eq_true'] at h
  exact ⟨h.1.1.1.1, h.1.1.1.2, h.1.2⟩

theorem run_depth {toks cur stack r}
    (h : Run ops ren okEl toks cur stack r) : depthAfter toks stack.length = some 0 := by
  induction h with
  | done cur => rfl
  | close _ _ ih => simpa [depthAfter, tkClose, tkOpen] using ih
  | group _ ih => simpa [depthAfter] using ih
  | opener h1 h2 _ _ ih =>
    rw [depthAfter_skip _ _ _ h2 h1]
    simpa [depthAfter] using ih
  | renamed _ hk h3 _ _ ih =>
    rw [depthAfter_skip _ _ _ (elemTok_skipped hk).2.1 (elemTok_skipped hk).1,
      depthAfter_skip tkArrow _ _ (by decide) (by decide),
      depthAfter_skip _ _ _ (plainTok_skipped h3).2.1 (plainTok_skipped h3).1]
    exact ih
  | leaf hk _ _ _ ih =>
    rw [depthAfter_skip _ _ _ (elemTok_skipped hk).2.1 (elemTok_skipped hk).1]
    exact ih

theorem run_openers (hstd : OpsStd ops) {toks cur stack r}
    (h : Run ops ren okEl toks cur stack r) : openersFollowed ops toks = true := by
  induction h with
  | done cur => rfl
  | close _ _ ih => rw [openersFollowed_skip _ _ (close_not_opener hstd)]; exact ih
  | group _ ih => rw [openersFollowed_skip _ _ (open_not_opener hstd)]; exact ih
  | opener _ _ _ _ ih =>
    simp only [openersFollowed, beq_self_eq_true, Bool.or_true, Bool.true_and]
    rw [openersFollowed_skip _ _ (open_not_opener hstd)]
    exact ih
  | renamed _ hk h3 _ _ ih =>
    rw [openersFollowed_skip _ _ (elemTok_skipped hk).2.2, openersFollowed_skip _ _ (arrow_not_opener hstd),
      openersFollowed_skip _ _ (plainTok_skipped h3).2.2]
    exact ih
  | leaf hk _ _ _ ih => rw [openersFollowed_skip _ _ (elemTok_skipped hk).2.2]; exact ih

theorem openersFollowed_dangling (pre : List Tok) (k : Tok) (h : isOpener ops k = true) :
    openersFollowed ops (pre ++ [k]) = false := by
  induction pre with
  | nil => simp [openersFollowed, h]
  | cons x xs ih =>
    cases xs with
    | nil => simp only [List.cons_append, List.nil_append] at ih ⊢; simp [openersFollowed, h]
    | cons y ys =>
      simp only [List.cons_append] at ih ⊢
      simp [openersFollowed, ih]

theorem noEmptyGroup_open {rest : List Tok} (h : noEmptyGroup rest = true) (hc : rest.head? ≠ some tkClose) :
    noEmptyGroup (tkOpen :: rest) = true := by
  cases rest with
  | nil => rfl
  | cons k2 rest' => simpa [noEmptyGroup, h] using hc

/-- a successful parse saw no `( )`: a run never starts on `)` with an empty current frame -/
theorem run_noEmpty {toks cur stack r}
    (h : Run ops ren okEl toks cur stack r) :
    noEmptyGroup toks = true ∧ (cur = [] → toks.head? ≠ some tkClose) := by
  induction h with
  | done cur => exact ⟨rfl, fun _ => by simp⟩
  | close hcf _ ih =>
    refine ⟨by rw [noEmptyGroup_skip _ _ (by decide)]; exact ih.1, ?_⟩
    rintro rfl
    simp [closeFrame] at hcf
  | group _ ih => exact ⟨noEmptyGroup_open ih.1 (ih.2 rfl), fun _ => by simp [tkOpen, tkClose]⟩
  | opener h1 h2 _ _ ih =>
    refine ⟨?_, fun _ => by simpa using h1⟩
    rw [noEmptyGroup_skip _ _ h2]
    exact noEmptyGroup_open ih.1 (ih.2 rfl)
  | renamed _ hk h3 _ _ ih =>
    refine ⟨?_, fun _ => by simpa using (elemTok_skipped hk).1⟩
    rw [noEmptyGroup_skip _ _ (elemTok_skipped hk).2.1, noEmptyGroup_skip _ _ (by decide),
      noEmptyGroup_skip _ _ (plainTok_skipped h3).2.1]
    exact ih.1
  | leaf hk _ _ _ ih =>
    refine ⟨?_, fun _ => by simpa using (elemTok_skipped hk).1⟩
    rw [noEmptyGroup_skip _ _ (elemTok_skipped hk).2.1]
    exact ih.1

theorem parse_eq_none_of_no_run {toks : List Tok} (h : ∀ r, ¬Run ops ren okEl toks [] [] r) :
    parse ops ren okEl toks = none := by
  cases hp : parse ops ren okEl toks with
  | none => rfl
  | some r => exact absurd (run_of_parseLoop toks [] [] r hp) (h r)

end Pkgcore.C09
