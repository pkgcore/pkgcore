import Pkgcore.Proofs.C11Build
/-!
# C11 — `ChunkedDataDict`

Each list of the dict `Stands` for its part of the flat history (`Inv`), and every operation preserves that
(`inv_update`, `inv_merge`, `inv_optimize`, each by the closure properties of `Stands` that come first); so it holds of
every dict that can be built (`built_inv`).
-/
namespace Pkgcore.C11
open Pkgcore.C11.Spec

theorem Stands.refl (m : Nat → Bool) (l : List Chunk) : Stands m l l := fun hm => ⟨hm, fun _ => rfl⟩

theorem Stands.append {m : Nat → Bool} {a a' b b' : List Chunk} (ha : Stands m a a') (hb : Stands m b b') :
    Stands m (a ++ b) (a' ++ b') := fun hm => by
  have hm := List.forall_mem_append.mp hm
  obtain ⟨a1, a2⟩ := ha hm.1
  obtain ⟨b1, b2⟩ := hb hm.2
  exact ⟨List.forall_mem_append.mpr ⟨a1, b1⟩, fun x => by rw [lastV_append, lastV_append, a2, b2]⟩

theorem Stands.skip {m : Nat → Bool} {l h : List Chunk} (hl : Stands m l h) {c : Chunk}
    (he : (c.neg.isEmpty && c.pos.isEmpty) = true) : Stands m l (h ++ [c]) := by
  have : Stands m [] [c] := fun _ => ⟨nofun, fun x => by simp [lastV, verdict_none_of_empty he]⟩
  simpa using Stands.append hl this

theorem Stands.trans {m : Nat → Bool} {a b c : List Chunk} (hab : Stands m a b) (hbc : Stands m b c) : Stands m a c :=
  fun hm =>
    have ⟨b1, b2⟩ := hbc hm
    have ⟨a1, a2⟩ := hab b1
    ⟨a1, fun x => (a2 x).trans (b2 x)⟩

theorem Stands.build_left {m : Nat → Bool} {l h : List Chunk} (hl : Stands m l h) {rk : Nat} (hrk : m rk = true) :
    Stands m (build rk l) h :=
  (build_stands m hrk l).trans hl

theorem Stands.expandGlobals {m : Nat → Bool} {g g' new new' : List Chunk} (h0 : m 0 = true) (hg : Stands m g g')
    (hn : Stands m new new') : Stands m (expandGlobals g new) (g' ++ new') := by
  cases new with
  | nil => exact hg.append hn
  | cons c cs =>
    show Stands m (if c.kid = 0 then build 0 (g ++ c :: cs) else g ++ c :: cs) _
    split
    · exact (hg.append hn).build_left h0
    · exact hg.append hn

def globalsOf (h : List Entry) : List Chunk := (h.filter fun e => e.cp.isNone).map (·.chunk)

theorem relevant_append (key : Tok) (a b : List Entry) : relevant key (a ++ b) = relevant key a ++ relevant key b := by
  simp [relevant]

theorem globalsOf_append (a b : List Entry) : globalsOf (a ++ b) = globalsOf a ++ globalsOf b := by
  simp [globalsOf]

theorem globalsOf_snoc (h : List Entry) (e : Entry) :
    globalsOf (h ++ [e]) = globalsOf h ++ if e.cp = none then [e.chunk] else [] := by
  rw [globalsOf_append]
  cases hcp : e.cp <;> simp [globalsOf, hcp]

theorem relevant_snoc (key : Tok) (h : List Entry) (e : Entry) :
    relevant key (h ++ [e]) = relevant key h ++ if e.cp = none ∨ e.cp = some key then [e.chunk] else [] := by
  rw [relevant_append]
  cases hcp : e.cp with
  | none => simp [relevant, hcp]
  | some k => by_cases hk : k = key <;> simp [relevant, hcp, hk]

theorem relevant_absent (key : Tok) (h : List Entry) (ha : ∀ e ∈ h, e.cp ≠ some key) :
    relevant key h = globalsOf h := by
  unfold relevant globalsOf
  congr 1
  refine List.filter_congr fun e he => ?_
  have := ha e he
  cases hc : e.cp with
  | none => rfl
  | some k => simpa [hc] using this

/-- what holds of every dict that can be built; `glob` and `keyed` are `Stands m d.globals (globalsOf h)` and
`Stands m l (relevant key h)` written out; by `absent`, for a key without a list the globals will do (`Inv.getList`) -/
structure Inv (cpKid : Tok → Nat) (d : CDD) (h : List Entry) : Prop where
  glob : ∀ m, m 0 = true → MatchOk m (globalsOf h) →
    MatchOk m d.globals ∧ ∀ x, lastV m d.globals x = lastV m (globalsOf h) x
  keyed : ∀ key l, d.dict key = some l → ∀ m, m 0 = true → m (cpKid key) = true → MatchOk m (relevant key h) →
    MatchOk m l ∧ ∀ x, lastV m l x = lastV m (relevant key h) x
  absent : ∀ key, d.dict key = none → ∀ e ∈ h, e.cp ≠ some key

theorem Inv.getList {cpKid d h} (inv : Inv cpKid d h) (key : Tok) (m : Nat → Bool) (h0 : m 0 = true)
    (hk : m (cpKid key) = true) : Stands m (getList d key) (relevant key h) := by
  show Stands m ((d.dict key).getD d.globals) _
  cases hd : d.dict key with
  | some l => exact inv.keyed key l hd m h0 hk
  | none =>
    rw [relevant_absent key h (inv.absent key hd)]
    exact inv.glob m h0

theorem inv_update {cpKid d h} (inv : Inv cpKid d h) (e : Entry) : Inv cpKid (update d e) (h ++ [e]) := by
  have habs : ∀ key, d.dict key = none → e.cp ≠ some key → ∀ e' ∈ h ++ [e], e'.cp ≠ some key :=
    fun key hd hne e' he' =>
      (List.mem_append.mp he').elim (inv.absent key hd e') fun h1 => List.mem_singleton.mp h1 ▸ hne
  unfold update
  split
  · -- an atom: filed under its key, which starts from the globals
    rename_i k hcp
    refine ⟨fun m h0 => ?_, fun key l hd m h0 hk => ?_, fun key hd => ?_⟩
    · rw [globalsOf_snoc, hcp, if_neg nofun, List.append_nil]; exact inv.glob m h0
    · rw [relevant_snoc, hcp]
      dsimp only at hd
      split at hd
      · rename_i hkk
        rw [hkk, if_pos (Or.inr rfl), ← Option.some.inj hd]
        exact Stands.append (inv.getList k m h0 (hkk ▸ hk)) (Stands.refl m _)
      · rename_i hkk
        rw [if_neg (fun h => hkk (h.elim nofun fun h => (Option.some.inj h).symm)), List.append_nil]
        exact inv.keyed key l hd m h0 hk
    · dsimp only at hd
      split at hd
      · cases hd
      · rename_i hkk
        exact habs key hd (hcp ▸ fun h0 => hkk (Option.some.inj h0).symm)
  · -- a global entry: appended to the globals and to every key's list, unless it is empty
    rename_i hcp
    have hg : globalsOf (h ++ [e]) = globalsOf h ++ [e.chunk] := by rw [globalsOf_snoc, if_pos hcp]
    have hr : ∀ key, relevant key (h ++ [e]) = relevant key h ++ [e.chunk] := fun key => by
      rw [relevant_snoc, if_pos (Or.inl hcp)]
    unfold addGlobal
    split
    · rename_i hemp
      refine ⟨fun m h0 => ?_, fun key l hd m h0 hk => ?_, fun key hd => habs key hd (hcp ▸ nofun)⟩
      · rw [hg]; exact Stands.skip (inv.glob m h0) hemp
      · rw [hr]; exact Stands.skip (inv.keyed key l hd m h0 hk) hemp
    · refine ⟨fun m h0 => ?_, fun key l hd m h0 hk => ?_,
        fun key hd => habs key (Option.map_eq_none_iff.mp hd) (hcp ▸ nofun)⟩
      · rw [hg]; exact Stands.expandGlobals h0 (inv.glob m h0) (Stands.refl m _)
      · obtain ⟨l0, hl0, rfl⟩ := Option.map_eq_some_iff.mp hd
        rw [hr]; exact Stands.append (inv.keyed key l0 hl0 m h0 hk) (Stands.refl m _)

theorem inv_merge {cpKid d h o h'} (inv : Inv cpKid d h) (invo : Inv cpKid o h') : Inv cpKid (merge d o) (h ++ h') := by
  refine ⟨fun m h0 => ?_, fun key l hd m h0 hk => ?_, fun key hd e' he' => ?_⟩
  · rw [globalsOf_append]
    show Stands m (if o.globals.isEmpty then d.globals else expandGlobals d.globals o.globals) _
    split
    · rename_i he
      have := Stands.append (inv.glob m h0) (invo.glob m h0)
      rwa [List.isEmpty_iff.mp he, List.append_nil] at this
    · exact Stands.expandGlobals h0 (inv.glob m h0) (invo.glob m h0)
  · rw [relevant_append]
    unfold merge at hd
    dsimp only at hd
    split at hd
    · rename_i v hok
      rw [← Option.some.inj hd]
      exact Stands.append (inv.getList key m h0 hk) (invo.keyed key v hok m h0 hk)
    · rename_i hok
      obtain ⟨l0, hl0, rfl⟩ := Option.map_eq_some_iff.mp hd
      rw [relevant_absent key h' (invo.absent key hok)]
      exact Stands.append (inv.keyed key l0 hl0 m h0 hk) (invo.glob m h0)
  · unfold merge at hd
    dsimp only at hd
    split at hd
    · cases hd
    · rename_i hok
      exact (List.mem_append.mp he').elim (inv.absent key (Option.map_eq_none_iff.mp hd) e') (invo.absent key hok e')

theorem inv_optimize {cpKid d h} (inv : Inv cpKid d h) : Inv cpKid (optimize cpKid d) h := by
  refine ⟨fun m h0 => Stands.build_left (inv.glob m h0) h0, fun key l hd m h0 hk => ?_,
    fun key hd => inv.absent key (Option.map_eq_none_iff.mp hd)⟩
  obtain ⟨l0, hl0, rfl⟩ := Option.map_eq_some_iff.mp hd
  exact Stands.build_left (inv.keyed key l0 hl0 m h0 hk) hk

/-- what can be built with the operations, together with the flat history of the entries that went in
(`add_global` is `update` of an entry with `cp = none`; `freeze`/`clone` are the identity) -/
inductive Built (cpKid : Tok → Nat) : CDD → List Entry → Prop
  | empty : Built cpKid {} []
  | update {d h} (e : Entry) : Built cpKid d h → Built cpKid (update d e) (h ++ [e])
  | merge {d h o h'} : Built cpKid d h → Built cpKid o h' → Built cpKid (merge d o) (h ++ h')
  | optimize {d h} : Built cpKid d h → Built cpKid (optimize cpKid d) h

theorem built_inv (cpKid : Tok → Nat) {d : CDD} {h : List Entry} (hb : Built cpKid d h) : Inv cpKid d h := by
  induction hb with
  | empty => exact ⟨fun m _ => Stands.refl m [], nofun, nofun⟩
  | update e _ inv => exact inv_update inv e
  | merge _ _ inv invo => exact inv_merge inv invo
  | optimize _ inv => exact inv_optimize inv

end Pkgcore.C11
