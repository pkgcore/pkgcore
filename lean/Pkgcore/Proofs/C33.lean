import Pkgcore.Proofs.C33Rel
import Pkgcore.Proofs.C33Str
/-!
Per helper, plan = prescribed entries under `Op.toEntry`: exactly for the flat helpers (`installByBasename_entries`,
`wrapperRun_entries`, `symlinkRun_entries`), up to `TreeRel` for the `os.walk` based recursive installs (`walkKids_rel`,
`filesAndTrees_rel` and its three instances).
-/
namespace Pkgcore.C33
open Pkgcore.C33.Spec

theorem mapM_map_congr {α β γ ε} (f : α → Except ε β) (g : α → Except ε γ) (h : β → γ)
    (hfg : ∀ a, (f a).map h = g a) : ∀ l : List α, (l.mapM f).map (List.map h) = l.mapM g := by
  intro l
  induction l with
  | nil => rfl
  | cons a l ih =>
    simp only [List.mapM_cons]
    rw [← hfg a, ← ih]
    cases f a with
    | error e => rfl
    | ok b =>
      cases List.mapM f l with
      | error e => rfl
      | ok bs => rfl

theorem argsOk_eq (ts : List Target) : argsOk ts = checkTargets ts := by
  unfold argsOk checkTargets
  rfl

theorem installOne_entry (c : Ctx) (node : Src) (d : Str) :
    (installOne c node d).map Op.toEntry =
      (match node with
       | .dir _ => .error .copyFailed
       | n => match leaf c (prefixed c d) n with
         | some e => .ok e
         | none => .error .cannotStat) := by
  cases node with
  | missing => rfl
  | file id => rfl
  | link text kind => cases kind <;> rfl
  | dir kids => rfl

theorem installByBasename_entries (c : Ctx) (ts : List Target) :
    (installByBasename c ts).map (List.map Op.toEntry) = byName c ts :=
  mapM_map_congr _ _ _ (fun t => by rw [installOne_entry, basename_eq_lastComp]; rfl) ts

theorem wrapperRun_entries (c : Ctx) (ts : List Target) (body : Except Rej (List Op))
    (sbody : Except Rej (List Entry)) (h : body.map (List.map Op.toEntry) = sbody) :
    (wrapperRun c ts body).map (List.map Op.toEntry) = withDest c ts sbody := by
  unfold wrapperRun withDest
  rw [argsOk_eq, ← h]
  cases checkTargets ts with
  | error e => rfl
  | ok _ =>
    cases body with
    | error e => rfl
    | ok ops => rfl

theorem wrapperRun_error (c : Ctx) (ts : List Target) {body : Except Rej (List Op)} {e : Rej} (h : body = .error e) :
    ∃ e', wrapperRun c ts body = .error e' := by
  unfold wrapperRun
  rw [h]
  cases checkTargets ts with
  | error e' => exact ⟨e', rfl⟩
  | ok _ => exact ⟨e, rfl⟩

theorem symlinkRun_entries (c : Ctx) (mk : Path → Op) (t : Str) (ht : t.getLast? ≠ some '/') :
    (symlinkRun c mk t).map Op.toEntry = parentEntry c t ++ [(mk (toPath t)).toEntry] := by
  unfold symlinkRun parentEntry
  rcases last_sep '/' t with h | ⟨r, e, rfl, he⟩
  · have : t.contains '/' = false := by simpa using h
    simp [rsplit1Head_of_not_mem '/' t h, h]
  · have hne : e ≠ [] := by
      intro h; subst h; simp at ht
    have hc : (r ++ '/' :: e).contains '/' = true := by simp
    have hr : r ≠ r ++ '/' :: e := by
      intro h
      have := congrArg List.length h
      simp at this
    simp only [rsplit1Head_decomp '/' r e he, ne_eq, hr, not_false_eq_true, if_true, hc,
      toPath_append_sep, toPath_no_slash e he hne, List.dropLast_concat, List.map_append, List.map_cons,
      List.map_nil, Op.toEntry, prefixed, under]

namespace TreeRel
variable {D F S R : Except Rej (List Op)} {TD T : Except Rej (List Entry)}

theorem of_map_eq (h : D.map (List.map Op.toEntry) = TD) : TreeRel D TD := by
  subst h
  cases D with
  | error _ => trivial
  | ok ops => exact .refl _

theorem bind {k : List Op → Except Rej (List Op)} {k' : List Entry → Except Rej (List Entry)}
    (h : TreeRel D TD) (hk : ∀ ops es, (ops.map Op.toEntry).Perm es → TreeRel (k ops) (k' es)) :
    TreeRel (D >>= k) (TD >>= k') := by
  cases D with
  | error _ => cases TD with
    | ok _ => exact h.elim
    | error _ => trivial
  | ok a => cases TD with
    | error _ => exact h.elim
    | ok ea => exact hk a ea h

theorem append (hD : TreeRel D TD) (hR : TreeRel R T) :
    TreeRel (do let a ← D; let r ← R; pure (a ++ r)) (do let a ← TD; let r ← T; pure (a ++ r)) :=
  hD.bind fun a ea ha => hR.bind fun r er hr => by
    show ((a ++ r).map _).Perm _
    rw [List.map_append]; exact ha.append hr

/-- One more child in a walked directory.  `os.walk` makes three passes over the children (links to directories,
files, sub-directories: `X`, `F`, `S`); the child's operations `D` land in one of them (`g` says where), the listing
has them in front (`hg` may use `D = .ok a`: `kid_one` learns `a = [o]` from it).  Which pass fails first does not
matter: rejections are not compared. -/
theorem kid {X : List Op} (g : List Op → List Op → List Op → List Op)
    (hg : ∀ a f s, D = .ok a → (g a f s).Perm (a ++ (X ++ f ++ s)))
    (hD : TreeRel D TD) (ih : TreeRel (do let f ← F; let s ← S; pure (X ++ f ++ s)) T) :
    TreeRel (do let f ← F; let a ← D; let s ← S; pure (g a f s))
      (do let a ← TD; let r ← T; pure (a ++ r)) := by
  cases F with
  | error _ => cases T with
    | ok _ => exact ih.elim
    | error _ => cases TD <;> trivial
  | ok f => cases D with
    | error _ => cases TD with
      | ok _ => exact hD.elim
      | error _ => trivial
    | ok a => cases TD with
      | error _ => exact hD.elim
      | ok ea => cases S with
        | error _ => cases T with
          | ok _ => exact ih.elim
          | error _ => trivial
        | ok s => cases T with
          | error _ => exact ih.elim
          | ok es =>
            show ((g a f s).map _).Perm _
            refine ((hg a f s rfl).map _).trans ?_
            rw [List.map_append]; exact List.Perm.append hD ih

theorem kid_one {X : List Op} (o : Op) {g : List Op → List Op → List Op}
    (hg : ∀ f s, (g f s).Perm (o :: (X ++ f ++ s)))
    (ih : TreeRel (do let f ← F; let s ← S; pure (X ++ f ++ s)) T) :
    TreeRel (do let f ← F; let s ← S; pure (g f s)) (do let r ← T; pure (o.toEntry :: r)) :=
  kid (D := .ok [o]) (TD := .ok [o.toEntry]) (fun _ => g) (fun _ f s h => Except.ok.inj h ▸ hg f s) (.refl _) ih

end TreeRel

theorem wrapperRun_rel (c : Ctx) (ts : List Target) {body : Except Rej (List Op)} {sbody : Except Rej (List Entry)}
    (h : TreeRel body sbody) : TreeRel (wrapperRun c ts body) (withDest c ts sbody) := by
  unfold wrapperRun withDest
  rw [argsOk_eq]
  cases checkTargets ts with
  | error _ => trivial
  | ok _ => exact h.bind fun _ _ hp => List.Perm.cons (Entry.dir _ _) hp

/-- the `syms` of `walkDir`, which the model computes inline -/
def symOps (c : Ctx) (dd : Path) (kids : List (Str × Src)) : List Op :=
  kids.filterMap fun (n, s) =>
    match s with
    | .link text .toDir => some (Op.symlink text (toPath c.dest ++ dd ++ [n]))
    | _ => none

/-- the three passes over one directory's children, as `walkDir` combines them -/
def walkKids (c : Ctx) (dd : Path) (kids : List (Str × Src)) : Except Rej (List Op) := do
  let f ← walkFiles c dd kids
  let s ← walkSubs c dd kids
  pure (symOps c dd kids ++ f ++ s)

theorem walkDir_eq (c : Ctx) (dd : Path) (kids : List (Str × Src)) :
    walkDir c dd kids = walkKids c dd kids >>= fun ops => pure (Op.mkdirs (toPath c.dest ++ dd) c.dirMode :: ops) := by
  rw [walkDir]
  simp only [walkKids, symOps, bind_assoc, pure_bind, List.cons_append]
  rfl

/-- `h` is a hypothesis because `walkKids_rel` passes its recursive call -/
theorem walkDir_rel {c : Ctx} {dd : Path} {kids : List (Str × Src)}
    (h : TreeRel (walkKids c dd kids) (treeKids c (toPath c.dest ++ dd) kids)) :
    TreeRel (walkDir c dd kids) (tree c (toPath c.dest ++ dd) (.dir kids)) := by
  rw [walkDir_eq, tree]
  exact h.bind fun _ _ h => List.Perm.cons (Entry.dir _ _) h

theorem walkKids_rel (c : Ctx) (dd : Path) (kids : List (Str × Src)) :
    TreeRel (walkKids c dd kids) (treeKids c (toPath c.dest ++ dd) kids) := by
  match kids with
  | [] =>
    simp only [walkKids, walkFiles, walkSubs, symOps, treeKids]
    exact List.Perm.nil
  | (n, s) :: rest =>
    have ih := walkKids_rel c dd rest
    unfold walkKids at ih ⊢
    rw [treeKids]
    match s with
    | .missing =>
      simpa only [walkFiles, walkSubs, symOps, List.filterMap_cons, tree, pure_bind, List.nil_append, bind_pure]
        using ih
    | .file id =>
      simp only [walkFiles, walkSubs, symOps, List.filterMap_cons, tree, bind_assoc, pure_bind, List.cons_append,
        List.nil_append]
      exact TreeRel.kid_one (.copy (.file id) _ _) (fun _ s => List.perm_middle.append_right s) ih
    | .link text .toFile =>
      simp only [walkFiles, walkSubs, symOps, List.filterMap_cons, tree, bind_assoc, pure_bind, List.cons_append,
        List.nil_append]
      exact TreeRel.kid_one (.copy (.link text) _ _) (fun _ s => List.perm_middle.append_right s) ih
    | .link text .toDir =>
      simp only [walkFiles, walkSubs, symOps, List.filterMap_cons, tree, pure_bind, List.cons_append, List.nil_append]
      exact TreeRel.kid_one (.symlink text _) (fun _ _ => .refl _) ih
    | .link text .broken =>
      simp only [walkFiles, tree]
      trivial
    | .dir kids' =>
      simp only [walkFiles, walkSubs, symOps, List.filterMap_cons, bind_assoc, pure_bind]
      exact TreeRel.kid (fun a f s => symOps c dd rest ++ f ++ (a ++ s))
        (fun a _ s _ => List.perm_append_comm_assoc _ a s)
        (List.append_assoc .. ▸ walkDir_rel (walkKids_rel c (dd ++ [n]) kids')) ih
termination_by sizeOf kids
decreasing_by
  all_goals simp_wf
  all_goals omega

theorem fromDirs_rel (c : Ctx) (ts : List Target) : TreeRel (fromDirs c ts) (trees c ts) := by
  induction ts with
  | nil => exact List.Perm.nil
  | cons t rest ih =>
    rw [fromDirs, trees, ← topDir_eq_dirName]
    cases t.node with
    | dir kids => exact (walkDir_rel (walkKids_rel c (topDir t.arg) kids)).append ih
    | _ => trivial

/-- the relation between `Doins/Dodoc/Dohtml._install_targets` and "files by name, trees with -r"; the three model
bodies are written differently (filters absent or constant, the flag a conjunction), so each caller shows by `hmodel`
that its own is this one -/
theorem filesAndTrees_rel (c : Ctx) (recursiveOk : Bool) (ts : List Target) (keepFile keepDir : Target → Bool)
    (model : Except Rej (List Op))
    (hmodel : model = (do
      let dirs := ts.filter (·.isDir)
      let files := ts.filter (!·.isDir)
      let dops ← if dirs = [] then pure [] else if recursiveOk then fromDirs c (dirs.filter keepDir)
        else .error .isDirectory
      let fops ← installByBasename c (files.filter keepFile)
      pure (dops ++ fops))) :
    TreeRel model (filesAndTrees c recursiveOk ts keepFile keepDir) := by
  subst hmodel
  have hfiles := TreeRel.of_map_eq (installByBasename_entries c ((ts.filter (!·.isDir)).filter keepFile))
  unfold filesAndTrees isDirArg
  by_cases hd : ts.filter (·.isDir) = []
  · simp only [hd, if_true, ne_eq, not_true_eq_false, false_and, if_false, List.filter_nil]
    exact TreeRel.append (D := .ok []) (TD := .ok []) List.Perm.nil hfiles
  · cases recursiveOk with
    | false =>
      simp only [hd, if_false, ne_eq, not_false_eq_true, Bool.not_false, and_self, if_true, Bool.false_eq_true]
      trivial
    | true =>
      simp only [hd, if_false, if_true, ne_eq, not_false_eq_true, Bool.not_true, Bool.false_eq_true, and_false]
      exact (fromDirs_rel c _).append hfiles

theorem filter_const_true {α} (l : List α) : l.filter (fun _ => true) = l :=
  List.filter_eq_self.2 fun _ _ => rfl

theorem doinsTargets_rel (c : Ctx) (r : Bool) (ts : List Target) :
    TreeRel (doinsTargets c r ts) (filesAndTrees c r ts (fun _ => true) (fun _ => true)) :=
  filesAndTrees_rel c r ts _ _ _ (by simp only [doinsTargets, filter_const_true])

theorem dodocTargets_rel (c : Ctx) (allow r : Bool) (ts : List Target) :
    TreeRel (dodocTargets c allow r ts) (filesAndTrees c (r && allow) ts (fun _ => true) (fun _ => true)) :=
  filesAndTrees_rel c _ ts _ _ _ (by simp only [dodocTargets, filter_const_true, Bool.and_eq_true])

theorem dohtmlTargets_rel (c : Ctx) (o : HtmlOpts) (ts : List Target) :
    TreeRel (dohtmlTargets c o ts)
      (filesAndTrees c o.recursive ts (fun f => htmlAllowed o f.arg) (fun d => !o.xDirs.contains d.arg)) :=
  filesAndTrees_rel c _ ts _ _ _ rfl

/-- `Dohtml._allowed_file` (`splitext` of the basename) is the suffix test of the specification -/
theorem htmlAllowed_eq (o : HtmlOpts) (arg : Str) :
    htmlAllowed o arg =
      ((hasStem (splitOn '.' (lastComp arg)) &&
          (htmlAllowedExts o).contains ((splitOn '.' (lastComp arg)).getLast?.getD [])) ||
        (!hasStem (splitOn '.' (lastComp arg)) && (htmlAllowedExts o).contains []) ||
        o.fFiles.contains (lastComp arg)) := by
  unfold htmlAllowed
  simp only [basename_eq_lastComp, splitext_snd]
  cases hasStem (splitOn '.' (lastComp arg)) <;> simp

theorem dohtml_rel (c : Ctx) (o : HtmlOpts) (ts : List Target) :
    TreeRel (installPlan (.dohtml o) c ts) (prescribed (.dohtml o) c ts) := by
  -- `c'`: both sides bind the context with the doc prefix by `let`; `exact` unfolds `htmlAllowedExts o` to the
  -- specification's inline `exts`
  have h := fun c' => wrapperRun_rel c' ts (dohtmlTargets_rel c' o ts)
  rw [funext fun t : Target => htmlAllowed_eq o t.arg] at h
  exact h _

end Pkgcore.C33
