import Pkgcore.Proofs.C05Use
import Pkgcore.Proofs.C05
/-!
# C05 — `atom.intersects` is symmetric, complete and witnessed

`intersects` mirrors `atom.intersects` (`Model/C05.lean`); "matches" is C04's PMS semantics `matchSpec`; `witness` is
the explicit package of `Spec/C05.lean`.
-/
namespace Pkgcore.C05
open Pkgcore.C01 Pkgcore.C01.Spec Pkgcore.C04 Pkgcore.C04.Spec Pkgcore.C05.Spec Std
open Pkgcore.C02 (Op Str)

/-- **witnessed**: whenever `intersects` answers `True`, the package `witness a b` — key of the atoms, a
version built from theirs (the version itself, with `_alpha` appended, or at the next revision), the slot /
sub-slot / repository either of them names, and the USE state read off the per-flag table — is a valid
package matched by both atoms. -/
theorem intersects_witness (a b : Atom) (ha : AtomOk a) (hb : AtomOk b) (h : intersects a b = true) :
    PkgOk (witness a b) ∧ matchSpec a (witness a b) = true ∧ matchSpec b (witness a b) = true := by
  rw [intersects_eq] at h
  simp only [Bool.and_eq_true, Bool.not_eq_true', beq_iff_eq] at h
  obtain ⟨⟨⟨⟨⟨⟨kc, kp⟩, k2⟩, k3⟩, k4⟩, k5⟩, kv⟩ := h
  have hver := (verPart_decides a b ha hb).1 kv
  have huse := all_hold_of_useOk (useList a ++ useList b) (witness a b) rfl rfl k5
  rw [List.all_append, Bool.and_eq_true] at huse
  refine ⟨⟨hver.2.2, witness_use_valid _ _ rfl rfl⟩, ?_, ?_⟩
  · rw [matchSpec_eq, huse.1, hver.1]
    simp only [witness, beq_self_eq_true, Bool.and_true, Bool.true_and, Bool.and_eq_true]
    exact ⟨⟨(optEq_pick _ _ k2).1, (optEq_pick _ _ k3).1⟩, (optEq_pick _ _ k4).1⟩
  · rw [matchSpec_eq, huse.2, hver.2.1]
    simp only [witness, ← kc, ← kp, beq_self_eq_true, Bool.and_true, Bool.true_and, Bool.and_eq_true]
    exact ⟨⟨(optEq_pick _ _ k2).2, (optEq_pick _ _ k3).2⟩, (optEq_pick _ _ k4).2⟩

example : AtomOk ⟨['a'], ['b'], some (.tilde, ⟨[['1'], ['0']], none, []⟩, []), false, false, false,
    some ['0'], none, none, none, some [⟨['x'], true, some true⟩]⟩ := by
  refine ⟨⟨⟨by simp, ?_⟩, fun h => by simp at h⟩, rfl, ?_⟩
  · intro c hc
    simp at hc
    rcases hc with rfl | rfl <;> exact ⟨by simp, by decide⟩
  · intro v r h
    simp at h
    rw [h.2]
    rfl

/-- **complete**: if any valid package (a version of any length, any revision, any IUSE and USE ⊆ IUSE)
is matched by both atoms, `intersects` answers `True`. -/
theorem intersects_complete (a b : Atom) (ha : AtomOk a) (hb : AtomOk b) (p : Pkg) (hp : PkgOk p)
    (ma : matchSpec a p = true) (mb : matchSpec b p = true) : intersects a b = true := by
  rw [matchSpec_eq] at ma mb
  simp only [Bool.and_eq_true, beq_iff_eq] at ma mb
  obtain ⟨⟨⟨⟨⟨⟨ac, ap⟩, av⟩, asl⟩, ass⟩, ar⟩, au⟩ := ma
  obtain ⟨⟨⟨⟨⟨⟨bc, bp⟩, bv⟩, bsl⟩, bss⟩, br⟩, bu⟩ := mb
  rw [intersects_eq, ac, bc, ap, bp, optEq_both _ _ _ asl bsl, optEq_both _ _ _ ass bss, optEq_both _ _ _ ar br,
    useOk_of_all_hold _ p hp.2 (by rw [List.all_append, au, bu]; rfl), (verPart_decides a b ha hb).2 p hp.1 av bv]
  simp only [beq_self_eq_true, Bool.not_false, Bool.and_self]

/-- **the answer is exactly "some valid package matches both"** -/
theorem intersects_iff (a b : Atom) (ha : AtomOk a) (hb : AtomOk b) : intersects a b = true ↔ Intersect a b := by
  constructor
  · intro h
    have := intersects_witness a b ha hb h
    exact ⟨witness a b, this.1, this.2.1, this.2.2⟩
  · rintro ⟨p, hp, m1, m2⟩
    exact intersects_complete a b ha hb p hp m1 m2

/-- **symmetric**: the answer does not depend on the argument order. -/
theorem intersects_symm (a b : Atom) (ha : AtomOk a) (hb : AtomOk b) : intersects a b = intersects b a := by
  rw [Bool.eq_iff_iff, intersects_iff a b ha hb, intersects_iff b a hb ha]
  constructor
  · rintro ⟨p, hp, m1, m2⟩; exact ⟨p, hp, m2, m1⟩
  · rintro ⟨p, hp, m1, m2⟩; exact ⟨p, hp, m2, m1⟩

/-- the USE-dep test of `intersects` is exact: the per-flag table leaves every flag a state iff some valid
package satisfies all the deps (defaults included: `[x(-)]`/`[-x(+)]` conflict, `[x(+)]`/`[-x]` do not) -/
theorem useOk_iff_satisfiable (deps : List UseDep) :
    useOk deps = true ↔ ∃ p : Pkg, (∀ f, p.use.contains f = true → p.iuse.contains f = true) ∧ deps.all (useHolds p) = true := by
  constructor
  · intro h
    let p : Pkg := ⟨[], [], ⟨[['0']], none, []⟩, [], [], [], [], witnessIuse deps, witnessUse deps⟩
    exact ⟨p, witness_use_valid deps p rfl rfl, all_hold_of_useOk deps p rfl rfl h⟩
  · rintro ⟨p, hv, h⟩
    exact useOk_of_all_hold deps p hv h

theorem useOk_examples :
    useOk [⟨['x'], true, some false⟩, ⟨['x'], false, some true⟩] = false ∧     -- [x(-)] vs [-x(+)]
    useOk [⟨['x'], true, none⟩, ⟨['x'], false, some false⟩] = false ∧          -- [x] vs [-x(-)]
    useOk [⟨['x'], true, some true⟩, ⟨['x'], false, none⟩] = true ∧            -- [x(+)] vs [-x]
    useOk [⟨['x'], true, none⟩, ⟨['y'], false, none⟩] = true := by decide +kernel

/-- **the versions a revision-less `=*` glob matches are contiguous in the PMS order** (what makes the
"range against glob" case decidable from the two end points) -/
theorem glob_versions_convex (gv : Ver) (x y z : Ver × Str) (hg : WF gv) (hx : WF x.1) (hy : WF y.1) (hz : WF z.1)
    (mx : globSpec gv [] x.1 x.2 = true) (mz : globSpec gv [] z.1 z.2 = true)
    (h1 : (pmsCmp x.1 (some x.2) y.1 (some y.2)).isLE = true) (h2 : (pmsCmp y.1 (some y.2) z.1 (some z.2)).isLE = true) :
    globSpec gv [] y.1 y.2 = true := by
  rw [← verGlobMatch_eq_spec gv [] _ _ hg hx, glob_norev gv [] _ _ hg hx natOfDigits_nil] at mx
  rw [← verGlobMatch_eq_spec gv [] _ _ hg hz, glob_norev gv [] _ _ hg hz natOfDigits_nil] at mz
  rw [← verGlobMatch_eq_spec gv [] _ _ hg hy, glob_norev gv [] _ _ hg hy natOfDigits_nil]
  rw [pmsCmp_eq_PK _ _ _ _ hx hy] at h1
  rw [pmsCmp_eq_PK _ _ _ _ hy hz] at h2
  exact globV_between gv mx mz h1 h2

/-- **no version lies strictly between two consecutive revisions of one version** — why `>V-rN` and
`<V-r(N+1)` do not intersect although each matches the other's end point -/
theorem adjacent_revisions_empty (v x : Ver) (r r' rx : Str) (hv : WF v) (hx : WF x)
    (hr : natOfDigits r' = natOfDigits r + 1) :
    ¬ (pmsCmp v (some r) x (some rx) = .lt ∧ pmsCmp x (some rx) v (some r') = .lt) := by
  rintro ⟨h1, h2⟩
  rw [pmsCmp_eq_PK _ _ _ _ hv hx] at h1
  rw [pmsCmp_eq_PK _ _ _ _ hx hv] at h2
  -- `x` satisfies `>v-r` and `<v-r'`: two strict bounds on one version with a common point are not consecutive
  have := (opposite_complete (.gt, v, r) (.lt, v, r') rfl rfl hv hv (x, rx) hx
    ((sat_lower _ _ rfl hv hx).mpr h1) ((sat_upper _ _ rfl hv hx).mpr h2)).2.2 rfl rfl rfl
  simp only at this
  omega

end Pkgcore.C05
