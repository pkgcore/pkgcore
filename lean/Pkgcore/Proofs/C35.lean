import Pkgcore.Spec.C35
/-!
# C35 — the invariant and its preservation by every step

`Inv` says what is in flight between the two sides: the session has ended, or the daemon is dead and its notice is in
`d`, or the replies Python expects are those in `d` or owed for `c` (`InvAlive`).  After the facts about `run`, `trans`,
`wf`, `rep` and the shapes of `d`, the step rules are grouped by their effect: five preservation lemmas for the daemon's
steps and for what Python does without reading (`inv_bCmd` … `inv_pProg`), and `inv_pop` for Python's reads;
`inv_step` dispatches to them; `inv_empty` says what an empty `d` means.  Apart from the state machine,
`readLines_of_no_notice` is the line-level fact under `batch_reads_own_replies`.
-/
namespace Pkgcore.C35
open Pkgcore.C35.Spec

/-- replies as they travel in `d` -/
def rep (l : List Reply) : List Msg := l.map .reply

def Notes (l : List Msg) : Prop := ∀ x ∈ l, x = Msg.note

/-- what may follow the notices in `d`, depending on what the daemon is doing -/
def EvTail (b : BMode) (t : List Msg) : Prop :=
  (b = .running ∧ t = []) ∨ (∃ k, b = .wait k ∧ t = [.request k]) ∨ (b = .main ∧ t = [.phases])

/-- Python is in (or about to enter) `generic_handler` -/
def HForm (ops : List POp) : Prop :=
  ∃ n rest, ops = List.replicate n .drain ++ .handler :: rest ∧ wf .main rest = true

/-- daemon present: the replies Python still expects are exactly those in flight (already in `d`, or owed for the
commands in `c`), and the rest of Python's program is well typed for the mode the daemon will then be in; or the
daemon is running / has just asked or finished, Python sits in `generic_handler`, nothing is in `c`.  The second shape
is for a pending notice or event only (`notes ++ t ≠ []`): with none left it is an instance of the first, so that an
empty `d` always means the first (`inv_empty`). -/
def InvAlive (g : G) : Prop :=
  ∃ m' rs, run g.b g.c = some (m', rs) ∧
    ((rep g.out = g.d ++ rep rs ∧ wf m' g.ops = true) ∨
     (g.c = [] ∧ ∃ notes t, Notes notes ∧ EvTail g.b t ∧ notes ++ t ≠ [] ∧
        g.d = rep g.out ++ notes ++ t ∧ HForm g.ops))

/-- daemon dead: its death notice is still in `d`, behind expected replies and handler events only; events stand there
only once the replies in `d` are all Python expects and Python is in drain*·handler form (`HForm` less its `wf` part:
no program has to fit a dead daemon) -/
def InvDead (g : G) : Prop :=
  ∃ o notes t, g.d = rep o ++ notes ++ t ++ [.death] ∧ o <+: g.out ∧ Notes notes ∧
    (t = [] ∨ (∃ k, t = [.request k]) ∨ t = [.phases]) ∧
    (notes ++ t ≠ [] → o = g.out ∧ ∃ n rest, g.ops = List.replicate n .drain ++ .handler :: rest)

/-- the daemon will understand everything that is still in `c` (or is dead) -/
def Runnable (g : G) : Prop := g.b = .dead ∨ ∃ m rs, run g.b g.c = some (m, rs)

def Inv (g : G) : Prop :=
  (g.st ≠ .live ∧ Runnable g) ∨ (g.b = .dead ∧ InvDead g) ∨ (g.b ≠ .dead ∧ InvAlive g)

theorem run_cons_eq_some {b : BMode} {x : Cmd} {cs : List Cmd} {m : BMode} {rs : List Reply}
    (h : run b (x :: cs) = some (m, rs)) :
    ∃ b1 r rs', trans b x = some (b1, r) ∧ run b1 cs = some (m, rs') ∧ rs = optList r ++ rs' := by
  simp only [run] at h
  split at h
  · cases h
  · next b1 r ht =>
    split at h
    · cases h
    · next m2 rs2 hr => cases h; exact ⟨b1, r, rs2, ht, hr, rfl⟩

theorem run_append {b : BMode} {c xs : List Cmd} {m m2 : BMode} {rs rs' : List Reply}
    (h : run b c = some (m, rs)) (h2 : run m xs = some (m2, rs')) :
    run b (c ++ xs) = some (m2, rs ++ rs') := by
  induction c generalizing b rs with
  | nil => cases h; exact h2
  | cons y ys ih =>
    obtain ⟨b1, r1, rs1, ht, hr, rfl⟩ := run_cons_eq_some h
    simp only [List.cons_append, run, ht, ih hr, List.append_assoc]

theorem run_cons_none {b : BMode} {x : Cmd} (ht : trans b x = none) (cs : List Cmd) : run b (x :: cs) = none := by
  simp [run, ht]

theorem run_nil (b : BMode) : run b [] = some (b, []) := rfl

theorem trans_running (x : Cmd) : trans .running x = none := by cases x <;> rfl
theorem trans_dead (x : Cmd) : trans .dead x = none := by cases x <;> rfl
theorem trans_exited (x : Cmd) : trans .exited x = none := by cases x <;> rfl

theorem trans_ne_dead {b b' : BMode} {x : Cmd} {r : Option Reply} (h : trans b x = some (b', r)) : b' ≠ .dead := by
  rintro rfl
  unfold trans at h
  split at h <;> cases h

theorem run_running {c : List Cmd} {m : BMode} {rs : List Reply} (h : run .running c = some (m, rs)) :
    c = [] ∧ m = .running ∧ rs = [] := by
  cases c with
  | nil => simp [run] at h; exact ⟨rfl, h.1.symm, h.2⟩
  | cons x xs => simp [run, trans_running] at h

theorem wf_running_iff {ops : List POp} : wf .running ops = true ↔ HForm ops := by
  constructor
  · intro h
    induction ops with
    | nil => simp [wf] at h
    | cons o ops ih =>
      cases o with
      | cmd c => simp [wf, trans_running] at h
      | ask c => simp [wf, trans_running] at h
      | drain =>
        obtain ⟨n, rest, e, hw⟩ := ih (by simpa [wf] using h)
        exact ⟨n + 1, rest, by rw [e]; rfl, hw⟩
      | handler =>
        simp only [wf, Bool.and_eq_true] at h
        exact ⟨0, ops, rfl, h.2⟩
      | stop => simp [wf] at h
  · rintro ⟨n, rest, rfl, hw⟩
    induction n with
    | zero => simp [wf, hw]
    | succ n ih => simpa [List.replicate_succ, wf] using ih

theorem wf_append {m m' : BMode} {a ops : List POp} (ha : wfTo m a m' = true) (ho : wf m' ops = true) :
    wf m (a ++ ops) = true := by
  induction a generalizing m with
  | nil => exact (beq_iff_eq.1 ha) ▸ ho
  | cons o a ih =>
    cases o with
    | cmd c =>
      simp only [wfTo] at ha
      split at ha
      · next heq => simp only [List.cons_append, wf, heq]; exact ih ha
      · cases ha
    | ask c =>
      simp only [wfTo] at ha
      split at ha
      · next heq =>
        simp only [Bool.and_eq_true] at ha
        simp only [List.cons_append, wf, heq, Bool.and_eq_true]; exact ⟨ha.1, ih ha.2⟩
      · cases ha
    | drain => exact ih ha
    | handler => cases ha
    | stop => cases ha

theorem wf_cmd {m : BMode} {x : Cmd} {ops : List POp} (h : wf m (.cmd x :: ops) = true) :
    ∃ m2, run m [x] = some (m2, []) ∧ wf m2 ops = true := by
  simp only [wf] at h
  split at h
  · next m2 heq => exact ⟨m2, by simp [run, heq, optList], h⟩
  · cases h

theorem wf_ask {m : BMode} {x : Cmd} {r : Reply} {ops : List POp} (he : expected x = some r)
    (h : wf m (.ask x :: ops) = true) : ∃ m2, run m [x] = some (m2, [r]) ∧ wf m2 ops = true := by
  simp only [wf] at h
  split at h
  · next m2 r2 heq =>
    simp only [he, Bool.and_eq_true, beq_iff_eq, Option.some.injEq] at h
    exact ⟨m2, by simp [run, heq, optList, h.1], h.2⟩
  · cases h

theorem rep_append (a b : List Reply) : rep (a ++ b) = rep a ++ rep b := by simp [rep]
theorem rep_cons (r : Reply) (a : List Reply) : rep (r :: a) = .reply r :: rep a := rfl
theorem rep_nil : rep [] = [] := rfl

theorem rep_injective {a b : List Reply} (h : rep a = rep b) : a = b :=
  (List.map_inj_right fun _ _ e => Msg.reply.inj e).1 h

theorem rep_split {out rs : List Reply} {d : List Msg} (h : rep out = d ++ rep rs) :
    ∃ o, d = rep o ∧ out = o ++ rs := by
  obtain ⟨o, rs', rfl, h1, h2⟩ := List.map_eq_append_iff.1 h
  exact ⟨o, h1.symm, by rw [rep_injective h2]⟩

theorem drains_handler_eq_cons {n : Nat} {rest ops : List POp} {o : POp}
    (h : List.replicate n POp.drain ++ POp.handler :: rest = o :: ops) :
    (o = .handler ∧ n = 0 ∧ rest = ops) ∨
      (o = .drain ∧ ∃ n', n = n' + 1 ∧ ops = List.replicate n' POp.drain ++ POp.handler :: rest) := by
  cases n with
  | zero => obtain ⟨rfl, rfl⟩ := List.cons.inj h; exact Or.inl ⟨rfl, rfl, rfl⟩
  | succ n => obtain ⟨rfl, rfl⟩ := List.cons.inj h; exact Or.inr ⟨rfl, n, rfl, rfl⟩

theorem chan_head {o : List Reply} {notes s : List Msg} {m : Msg} {d : List Msg} (hn : Notes notes)
    (h : rep o ++ notes ++ s = m :: d) :
    (∃ r o', o = r :: o' ∧ m = .reply r ∧ d = rep o' ++ notes ++ s) ∨
      (o = [] ∧ m = .note ∧ ∃ notes', Notes notes' ∧ notes = .note :: notes' ∧ d = notes' ++ s) ∨
      (o = [] ∧ notes = [] ∧ s = m :: d) := by
  cases o with
  | cons r o' => obtain ⟨rfl, rfl⟩ := List.cons.inj h; exact Or.inl ⟨r, o', rfl, rfl, rfl⟩
  | nil =>
    cases notes with
    | nil => exact Or.inr (Or.inr ⟨rfl, rfl, h⟩)
    | cons a notes' =>
      obtain ⟨rfl, rfl⟩ := List.cons.inj h
      have ha := hn a (by simp)
      exact Or.inr (Or.inl ⟨rfl, ha, notes', fun x hx => hn x (by simp [hx]), by rw [ha], rfl⟩)

theorem evtail_nil {b : BMode} (h : EvTail b []) : b = .running := by
  rcases h with ⟨h, _⟩ | ⟨k, _, h⟩ | ⟨_, h⟩
  · exact h
  · simp at h
  · simp at h

theorem evtail_head {b : BMode} {m : Msg} {t : List Msg} (h : EvTail b (m :: t)) :
    t = [] ∧ ((∃ k, m = .request k ∧ b = .wait k) ∨ (m = .phases ∧ b = .main)) := by
  rcases h with ⟨_, h⟩ | ⟨k, hb, h⟩ | ⟨hb, h⟩
  · simp at h
  · simp only [List.cons.injEq] at h; exact ⟨h.2, Or.inl ⟨k, h.1, hb⟩⟩
  · simp only [List.cons.injEq] at h; exact ⟨h.2, Or.inr ⟨h.1, hb⟩⟩

theorem inv_cases_of_live {g : G} (hl : g.st = .live) (h : Inv g) :
    (g.b = .dead ∧ InvDead g) ∨ (g.b ≠ .dead ∧ InvAlive g) := by
  rcases h with h | h
  · exact absurd hl h.1
  · exact h

theorem inv_runnable {g : G} (h : Inv g) : Runnable g := by
  rcases h with ⟨_, hr⟩ | ⟨hb, _⟩ | ⟨_, m', rs, hrun, _⟩
  · exact hr
  · exact Or.inl hb
  · exact Or.inr ⟨m', rs, hrun⟩

theorem inv_bCmd (g : G) (x : Cmd) (cs : List Cmd) (b' : BMode) (r : Option Reply)
    (hc : g.c = x :: cs) (ht : trans g.b x = some (b', r)) (h : Inv g) :
    Inv { g with b := b', c := cs, d := g.d ++ (optList r).map .reply } := by
  rcases h with ⟨hst, hr⟩ | ⟨hb, _⟩ | ⟨hb, m', rs, hrun, hd⟩
  · refine Or.inl ⟨hst, ?_⟩
    rcases hr with hb | ⟨m, rs, hrun⟩
    · rw [hb, trans_dead] at ht; simp at ht
    · rw [hc] at hrun
      obtain ⟨b1, r1, rs', ht', hrun', _⟩ := run_cons_eq_some hrun
      rw [ht] at ht'
      obtain ⟨rfl, rfl⟩ := Prod.mk.inj (Option.some.inj ht')
      exact Or.inr ⟨m, rs', hrun'⟩
  · rw [hb, trans_dead] at ht; simp at ht
  · refine Or.inr (Or.inr ⟨trans_ne_dead ht, ?_⟩)
    rw [hc] at hrun
    obtain ⟨b1, r1, rs', ht', hrun', hrs⟩ := run_cons_eq_some hrun
    rw [ht] at ht'
    obtain ⟨rfl, rfl⟩ := Prod.mk.inj (Option.some.inj ht')
    rcases hd with ⟨hrep, hwf⟩ | ⟨hcn, _⟩
    · refine ⟨m', rs', hrun', Or.inl ⟨?_, hwf⟩⟩
      show rep g.out = (g.d ++ rep (optList r)) ++ rep rs'
      rw [hrep, hrs, rep_append, List.append_assoc]
    · rw [hc] at hcn; simp at hcn

theorem inv_bUnknown (g : G) (x : Cmd) (cs : List Cmd) (ha : alive g.b = true) (hc : g.c = x :: cs)
    (ht : trans g.b x = none) (h : Inv g) :
    Inv { g with b := .dead, c := cs, d := g.d ++ [.death] } := by
  rcases h with ⟨hst, _⟩ | ⟨hb, _⟩ | ⟨_, m', rs, hrun, _⟩
  · exact Or.inl ⟨hst, Or.inl rfl⟩
  · rw [hb] at ha; simp [alive] at ha
  · rw [hc, run_cons_none ht] at hrun; cases hrun

theorem invAlive_idle {g : G} (hc : g.c = []) (hd : g.d = rep g.out) (hw : wf g.b g.ops = true) : InvAlive g :=
  ⟨g.b, [], by rw [hc]; rfl, Or.inl ⟨by rw [hd, rep_nil, List.append_nil], hw⟩⟩

/-- The second shape of `InvAlive` less its side condition: with no notice or event pending it is the first shape. -/
theorem invAlive_of_events {g : G} {notes t : List Msg} (hc : g.c = []) (hn : Notes notes) (ht : EvTail g.b t)
    (hd : g.d = rep g.out ++ notes ++ t) (hf : HForm g.ops) : InvAlive g := by
  by_cases hne : notes ++ t = []
  · obtain ⟨rfl, rfl⟩ := List.append_eq_nil_iff.1 hne
    exact invAlive_idle hc (by simpa using hd) (evtail_nil ht ▸ wf_running_iff.2 hf)
  · exact ⟨g.b, [], by rw [hc]; rfl, Or.inr ⟨hc, notes, t, hn, ht, hne, hd, hf⟩⟩

theorem invAlive_running {g : G} (hb : g.b = .running) (h : InvAlive g) :
    g.c = [] ∧ ∃ notes, Notes notes ∧ g.d = rep g.out ++ notes ∧ HForm g.ops := by
  obtain ⟨m', rs, hrun, hd⟩ := h
  rw [hb] at hrun
  obtain ⟨hc, rfl, rfl⟩ := run_running hrun
  refine ⟨hc, ?_⟩
  rcases hd with ⟨hrep, hwf⟩ | ⟨_, notes, t, hn, htail, _, hdd, hf⟩
  · exact ⟨[], by simp [Notes], by simpa [rep_nil] using hrep.symm, wf_running_iff.1 hwf⟩
  · rcases hb ▸ htail with ⟨_, rfl⟩ | ⟨k, e, _⟩ | ⟨e, _⟩
    · exact ⟨notes, hn, by simpa using hdd, hf⟩
    · cases e
    · cases e

/-- The running daemon writes a notice, or the event after which `EvTail` holds of its new mode. -/
theorem inv_bEvent (g : G) (b' : BMode) (ev : Msg) (hb : g.b = .running)
    (hev : (ev = .note ∧ EvTail b' []) ∨ EvTail b' [ev]) (h : Inv g) :
    Inv { g with b := b', d := g.d ++ [ev] } := by
  have hb' : b' ≠ .dead := by
    rcases hev with ⟨_, ht⟩ | ht <;> rcases ht with ⟨rfl, _⟩ | ⟨k, rfl, _⟩ | ⟨rfl, _⟩ <;> exact BMode.noConfusion
  rcases h with ⟨hst, hr⟩ | ⟨hbd, _⟩ | ⟨_, hal⟩
  · refine Or.inl ⟨hst, ?_⟩
    rcases hr with hbd | ⟨m, rs, hrun⟩
    · rw [hb] at hbd; simp at hbd
    · rw [hb] at hrun
      obtain ⟨hc, _, _⟩ := run_running hrun
      exact Or.inr ⟨b', [], by show run b' g.c = _; rw [hc]; rfl⟩
  · rw [hb] at hbd; simp at hbd
  · obtain ⟨hc, notes, hn, hdd, hf⟩ := invAlive_running hb hal
    refine Or.inr (Or.inr ⟨hb', ?_⟩)
    rcases hev with ⟨rfl, ht⟩ | ht
    · refine invAlive_of_events (notes := notes ++ [.note]) hc ?_ ht ?_ hf
      · intro x hx; rcases List.mem_append.1 hx with hx | hx
        · exact hn x hx
        · simpa using hx
      · show g.d ++ [Msg.note] = _
        rw [hdd]
        simp
    · exact invAlive_of_events hc hn ht (by show g.d ++ [ev] = _; rw [hdd]) hf

theorem inv_bDeath (g : G) (ha : alive g.b = true) (h : Inv g) :
    Inv { g with b := .dead, d := g.d ++ [.death] } := by
  rcases h with ⟨hst, _⟩ | ⟨hb, _⟩ | ⟨_, m', rs, hrun, hd⟩
  · exact Or.inl ⟨hst, Or.inl rfl⟩
  · rw [hb] at ha; simp [alive] at ha
  · refine Or.inr (Or.inl ⟨rfl, ?_⟩)
    rcases hd with ⟨hrep, _⟩ | ⟨_, notes, t, hn, htail, _, hdd, n, rest, hf, _⟩
    · obtain ⟨o, ho, hout⟩ := rep_split hrep
      refine ⟨o, [], [], ?_, ⟨rs, hout.symm⟩, by simp [Notes], Or.inl rfl, by simp⟩
      show g.d ++ [Msg.death] = _
      rw [ho]
      simp
    · refine ⟨g.out, notes, t, ?_, List.prefix_refl _, hn, ?_, fun _ => ⟨rfl, n, rest, hf⟩⟩
      · show g.d ++ [Msg.death] = _; rw [hdd]
      · rcases htail with ⟨_, e⟩ | ⟨k, _, e⟩ | ⟨_, e⟩
        · exact Or.inl e
        · exact Or.inr (Or.inl ⟨k, e⟩)
        · exact Or.inr (Or.inr e)

/-- Python executes an operation that reads nothing: it may write commands `xs`, registering the replies `rs'` the
daemon will give to them.  `hform` serves the cases of the invariant that speak of the drain*·handler form (`InvDead`,
second shape of `InvAlive`): there the operation can only be the end of a `drain`, which writes nothing and keeps the
form; `hwf` serves the first shape of `InvAlive`. -/
theorem inv_pProg (g : G) (xs : List Cmd) (rs' : List Reply) (ops' : List POp) (hl : g.st = .live)
    (hform : ∀ n rest, g.ops = List.replicate n .drain ++ .handler :: rest →
      xs = [] ∧ rs' = [] ∧ ∃ n', ops' = List.replicate n' .drain ++ .handler :: rest)
    (hwf : ∀ m, wf m g.ops = true → ∃ m2, run m xs = some (m2, rs') ∧ wf m2 ops' = true)
    (h : Inv g) : Inv { g with ops := ops', c := g.c ++ xs, out := g.out ++ rs' } := by
  rcases inv_cases_of_live hl h with ⟨hb, o, notes, t, hd, hp, hn, ht, himp⟩ | ⟨hb, m', rs, hrun, hd⟩
  · refine Or.inr (Or.inl ⟨hb, o, notes, t, hd, hp.trans (List.prefix_append ..), hn, ht, fun hne => ?_⟩)
    obtain ⟨e, n, rest, hf⟩ := himp hne
    obtain ⟨_, rfl, n', hf'⟩ := hform n rest hf
    exact ⟨e.trans (List.append_nil _).symm, n', rest, hf'⟩
  · refine Or.inr (Or.inr ⟨hb, ?_⟩)
    rcases hd with ⟨hrep, hwf0⟩ | ⟨hc, notes, t, hn, htail, hne, hdd, n, rest, hf, hw⟩
    · obtain ⟨m2, hr2, hw2⟩ := hwf m' hwf0
      refine ⟨m2, rs ++ rs', run_append hrun hr2, Or.inl ⟨?_, hw2⟩⟩
      show rep (g.out ++ rs') = g.d ++ rep (rs ++ rs')
      rw [rep_append, rep_append, hrep, List.append_assoc]
    · obtain ⟨rfl, rfl, n', hf'⟩ := hform n rest hf
      refine ⟨m', rs, ?_, Or.inr ⟨?_, notes, t, hn, htail, hne, ?_, n', rest, hf', hw⟩⟩
      · show run g.b (g.c ++ []) = _; rwa [List.append_nil]
      · show g.c ++ [] = []; rwa [List.append_nil]
      · show g.d = rep (g.out ++ []) ++ notes ++ t; rwa [List.append_nil]

theorem invDead_last {g : G} (hd : g.d = [.death]) : InvDead g :=
  ⟨[], [], [], hd, List.nil_prefix, by simp [Notes], Or.inl rfl, by simp⟩

/-- What Python finds at the head of `d`, by kind of message, and that taking it off keeps the invariant: the reply it
expects first; with nothing outstanding, an event `generic_handler` has a branch for (the program left is the one the
handler rule for it leaves); or the death notice. -/
theorem inv_pop {g : G} {m : Msg} {d : List Msg} (hl : g.st = .live) (h : Inv g) (hd : g.d = m :: d) :
    match m with
    | .reply r => ∃ out, g.out = r :: out ∧ Inv { g with out := out, d := d }
    | .note => g.out = [] ∧ Inv { g with d := d }
    | .request k => g.out = [] ∧ ∀ ops ans, g.ops = .handler :: ops → wfTo (.wait k) ans .running = true →
        Inv { g with ops := ans ++ .handler :: ops, d := d }
    | .phases => g.out = [] ∧ ∀ ops, g.ops = .handler :: ops → Inv { g with ops := ops, d := d }
    | .death => True
    | .junk => False := by
  rcases inv_cases_of_live hl h with ⟨hb, o, notes, t, hdd, hp, hn, ht, himp⟩ | ⟨hb, m', rs, hrun, hshape⟩
  · rw [hd, List.append_assoc] at hdd
    rcases chan_head hn hdd.symm with ⟨r, o', rfl, rfl, rfl⟩ | ⟨rfl, rfl, notes', hn', rfl, rfl⟩ | ⟨rfl, rfl, hs⟩
    · obtain ⟨w, hw⟩ := hp
      refine ⟨o' ++ w, hw.symm, Or.inr (Or.inl ⟨hb, o', notes, t, (List.append_assoc ..).symm,
        List.prefix_append .., hn, ht, fun hne => ?_⟩)⟩
      obtain ⟨e, hf⟩ := himp hne
      exact ⟨((List.cons.inj (hw.trans e.symm)).2).symm, hf⟩
    · obtain ⟨e, hf⟩ := himp (by simp)
      exact ⟨e.symm, Or.inr (Or.inl ⟨hb, [], notes', t, (List.append_assoc ..).symm, List.nil_prefix, hn', ht,
        fun _ => ⟨e, hf⟩⟩)⟩
    · -- the last event before the death notice, or the notice itself
      rcases ht with rfl | ⟨k, rfl⟩ | rfl <;> obtain ⟨rfl, rfl⟩ := List.cons.inj hs
      · trivial
      · exact ⟨((himp (by simp)).1).symm, fun _ _ _ _ => Or.inr (Or.inl ⟨hb, invDead_last rfl⟩)⟩
      · exact ⟨((himp (by simp)).1).symm, fun _ _ => Or.inr (Or.inl ⟨hb, invDead_last rfl⟩)⟩
  · rcases hshape with ⟨hrep, hwf⟩ | ⟨hc, notes, t, hn, htail, hne, hdd, n, rest, hf, hw⟩
    · obtain ⟨o, ho, hout⟩ := rep_split hrep
      cases o with
      | nil => rw [hd] at ho; cases ho
      | cons r o =>
        rw [hd, rep_cons] at ho
        obtain ⟨rfl, rfl⟩ := List.cons.inj ho
        exact ⟨o ++ rs, hout, Or.inr (Or.inr ⟨hb, m', rs, hrun, Or.inl ⟨rep_append .., hwf⟩⟩)⟩
    · rcases chan_head hn (hd ▸ hdd).symm with ⟨r, o', e, rfl, rfl⟩ | ⟨e, rfl, notes', hn', rfl, rfl⟩ | ⟨e, rfl, hs⟩
      · exact ⟨o', e, Or.inr (Or.inr ⟨hb, m', rs, hrun,
          Or.inr ⟨hc, notes, t, hn, htail, hne, rfl, n, rest, hf, hw⟩⟩)⟩
      · exact ⟨e, Or.inr (Or.inr ⟨hb, invAlive_of_events hc hn' htail
          (by show notes' ++ t = rep g.out ++ notes' ++ t; rw [e]; rfl) ⟨n, rest, hf, hw⟩⟩)⟩
      · -- the event: nothing is left in flight, the daemon waits for the answer or is back in its main loop
        have hr : ∀ {ops}, g.ops = .handler :: ops → wf .main ops = true := fun ho => by
          simpa [ho, wf] using wf_running_iff.2 ⟨n, rest, hf, hw⟩
        obtain ⟨rfl, hh⟩ := evtail_head (hs ▸ htail)
        rcases hh with ⟨k, rfl, hbk⟩ | ⟨rfl, hbm⟩
        · exact ⟨e, fun ops ans ho hans => Or.inr (Or.inr ⟨hb,
            invAlive_idle hc (e ▸ rfl) (hbk ▸ wf_append hans (by simp [wf, hr ho]))⟩)⟩
        · exact ⟨e, fun ops ho => Or.inr (Or.inr ⟨hb, invAlive_idle hc (e ▸ rfl) (hbm ▸ hr ho)⟩)⟩

theorem inv_step {g g' : G} (h : Inv g) (hs : Step g g') : Inv g' := by
  -- the steps that end the session change `st` and `d` only, which `Runnable` does not read
  have hr : Runnable g := inv_runnable h
  cases hs with
  | pStart prog hl ho hw =>
    have := inv_pProg g [] [] prog hl (fun n rest hf => by rw [ho] at hf; simp at hf)
      (fun m hm => by rw [ho] at hm; exact ⟨.main, beq_iff_eq.1 hm ▸ rfl, hw⟩) h
    simpa using this
  | pCmd x ops hl ho =>
    have := inv_pProg g [x] [] ops hl
      (fun n rest hf => by rcases drains_handler_eq_cons (ho ▸ hf).symm with ⟨e, _⟩ | ⟨e, _⟩ <;> cases e)
      (fun m hm => wf_cmd (ho ▸ hm)) h
    simpa using this
  | pAsk x r ops hl ho he =>
    exact inv_pProg g [x] [r] ops hl
      (fun n rest hf => by rcases drains_handler_eq_cons (ho ▸ hf).symm with ⟨e, _⟩ | ⟨e, _⟩ <;> cases e)
      (fun m hm => wf_ask he (ho ▸ hm)) h
  | pDrainDone ops hl ho _ =>
    have := inv_pProg g [] [] ops hl
      (fun n rest hf => by
        rcases drains_handler_eq_cons (ho ▸ hf).symm with ⟨e, _⟩ | ⟨_, n', _, e⟩
        · cases e
        · exact ⟨rfl, rfl, n', e⟩)
      (fun m hm => ⟨m, rfl, by rw [ho] at hm; exact hm⟩) h
    simpa using this
  | pReadExpected r out d o ops hl _ _ hout hd =>
    obtain ⟨out', hout', hi⟩ := inv_pop hl h hd
    obtain ⟨_, rfl⟩ := List.cons.inj (hout.symm.trans hout')
    exact hi
  | pReadMismatch r out m d o ops hl => exact Or.inl ⟨by simp, hr⟩
  | pReadDeath d o ops hl => exact Or.inl ⟨by simp, hr⟩
  | pHandleNote d ops hl _ _ hd => exact (inv_pop hl h hd).2
  | pHandleRequest k ans d ops hl ho _ hd hans => exact (inv_pop hl h hd).2 ops ans ho hans
  | pHandlePhases d ops hl ho _ hd => exact (inv_pop hl h hd).2 ops ho
  | pHandleUnknown m d ops hl => exact Or.inl ⟨by simp, hr⟩
  | pStop ops hl => exact Or.inl ⟨by simp, hr⟩
  | bCmd x cs b' r hc ht => exact inv_bCmd g x cs b' r hc ht h
  | bUnknown x cs ha _ hc ht => exact inv_bUnknown g x cs ha hc ht h
  | bNote hb => exact inv_bEvent g g.b .note hb (Or.inl ⟨rfl, Or.inl ⟨hb, rfl⟩⟩) h
  | bRequest k hb => exact inv_bEvent g (.wait k) (.request k) hb (Or.inr (Or.inr (Or.inl ⟨k, rfl, rfl⟩))) h
  | bFinish hb => exact inv_bEvent g .main .phases hb (Or.inr (Or.inr (Or.inr ⟨rfl, rfl⟩))) h
  | bDeath ha => exact inv_bDeath g ha h

theorem inv_init : Inv init :=
  Or.inr (Or.inr ⟨by decide, invAlive_idle rfl rfl rfl⟩)

theorem inv_empty {g : G} (hl : g.st = .live) (h : Inv g) (hd : g.d = []) :
    g.b ≠ .dead ∧ ∃ m', run g.b g.c = some (m', g.out) ∧ wf m' g.ops = true := by
  rcases inv_cases_of_live hl h with ⟨_, o, notes, t, hdd, _⟩ | ⟨hb, m', rs, hrun, hshape⟩
  · rw [hd] at hdd; simp at hdd
  · refine ⟨hb, m', ?_⟩
    rcases hshape with ⟨hrep, hwf⟩ | ⟨_, notes, t, _, _, hne, hdd, _⟩
    · rw [hd, List.nil_append] at hrep
      exact ⟨rep_injective hrep ▸ hrun, hwf⟩
    · rw [hd] at hdd
      simp only [List.nil_eq, List.append_eq_nil_iff] at hdd
      exact absurd (by rw [hdd.1.2, hdd.2]; rfl) hne

theorem readLines_of_no_notice (replies rest : List Line) (hn : ∀ l ∈ replies, isNoticeLine l = false) :
    readLines replies.length (replies ++ rest) = .got replies rest := by
  induction replies with
  | nil => cases rest <;> rfl
  | cons l ls ih =>
    have h1 : isNoticeLine l = false := hn l (by simp)
    have h2 := ih (fun x hx => hn x (by simp [hx]))
    simp [readLines, h1, h2]

end Pkgcore.C35
