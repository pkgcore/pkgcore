import Pkgcore.Proofs.C17Apply
/-!
A rollback undoes what the log says was done: `backtrack` undoes a `Chain` of logged entries up to `Sim`
(`Proofs/C17Sim`, `Proofs/C17Chain`), and a successful `applyCmd` is such a chain and respects `Same`
(`Proofs/C17Apply`).  Here the induction over histories with rollbacks (`RunInv`, `exec_inv`) for any property that
similar states share and applicable operations keep (`Stable`: C17's own theorems need none, `stable_true`;
`Proofs/C15` puts in `SlotUnique` under unforced operations); `exec_stable` is what it gives for histories run from the
empty planner.
-/
namespace Pkgcore.C17

theorem getElem?_concat_some {α} {l : List α} {x k : α} {j : Nat} (h : (l ++ [x])[j]? = some k) :
    l[j]? = some k ∨ (j = l.length ∧ k = x) := by
  by_cases hj : j < l.length
  · exact .inl (List.getElem?_append_left hj ▸ h)
  · rw [List.getElem?_append_right (Nat.le_of_not_lt hj)] at h
    obtain ⟨hlt, e⟩ := List.getElem?_eq_some_iff.mp h
    have h0 : j - l.length = 0 := Nat.lt_one_iff.mp hlt
    refine .inr ⟨by omega, ?_⟩
    simp only [h0, List.getElem_cons_zero] at e
    exact e.symm

theorem getElem?_take_some {α} {l : List α} {n j : Nat} {k : α} (h : (l.take n)[j]? = some k) :
    j < n ∧ l[j]? = some k := by
  rw [List.getElem?_take] at h
  split at h
  · exact ⟨‹_›, h⟩
  · cases h

theorem replay_append (U : Univ) (s : State) (cs : List Cmd) (c : Cmd) :
    replay U s (cs ++ [c]) = (replay U s cs).bind fun t => (applyCmd U t c).map (·.1) := by
  induction cs generalizing s with
  | nil => simp only [List.nil_append, replay, Option.bind_some]; cases applyCmd U s c <;> rfl
  | cons d ds ih =>
    simp only [List.cons_append, replay]
    cases applyCmd U s d with
    | none => rfl
    | some r => exact ih r.1

structure Stable (U : Univ) (C : Cmd → Prop) (Q : State → Prop) : Prop where
  sim : ∀ {s t}, Sim s t → Q s → Q t
  apply : ∀ {s s' c out},
    Inv s → Q s → C c → applicable U s c = true → applyCmd U s c = some (s', out) → Q s'

theorem stable_true (U : Univ) : Stable U (fun _ => True) (fun _ => True) :=
  ⟨fun _ _ => trivial, fun _ _ _ _ _ => trivial⟩

/-- the invariant of a run: `marks[j]` is a position the planner can be rolled back to, and doing so gives
the snapshot of the replay of the first `j` surviving operations, a consistent state with `Q` -/
structure RunInv (U : Univ) (Q : State → Prop) (r : Run) (cs : List Cmd) : Prop where
  len : r.marks.length = cs.length + 1
  last : r.marks[cs.length]? = some r.st.plan.length
  mono : ∀ (i j ki kj : Nat), i ≤ j → r.marks[i]? = some ki → r.marks[j]? = some kj → ki ≤ kj
  rel : ∀ (j k : Nat), r.marks[j]? = some k →
    ∃ sj tj, backtrack U r.st k = some sj ∧ replay U init (cs.take j) = some tj ∧ Same sj tj ∧ Inv tj ∧ Q tj

variable {U : Univ} {C : Cmd → Prop} {Q : State → Prop}

theorem runInv_init (U : Univ) (q : Q init) : RunInv U Q Run.init [] where
  len := rfl
  last := rfl
  mono i j ki kj _ hi hj := by
    -- `Run.init.marks` is `[] ++ [0]`
    obtain h | ⟨-, rfl⟩ := getElem?_concat_some (l := []) hi
    · cases h
    · exact Nat.zero_le kj
  rel j k hj := by
    obtain h | ⟨rfl, rfl⟩ := getElem?_concat_some (l := []) hj
    · cases h
    · exact ⟨init, init, backtrack_self U init, rfl, Same.refl _, inv_init, q⟩

theorem RunInv.cur {r : Run} {cs : List Cmd} (J : RunInv U Q r cs) :
    ∃ t, replay U init cs = some t ∧ Same r.st t ∧ Inv t ∧ Q t := by
  obtain ⟨sj, tj, h1, h2, h3, h4⟩ := J.rel _ _ J.last
  obtain rfl := Option.some.inj ((backtrack_self U r.st).symm.trans h1)
  exact ⟨tj, by rwa [List.take_length] at h2, h3, h4⟩

theorem RunInv.inv {r : Run} {cs : List Cmd} (J : RunInv U Q r cs) : Inv r.st := by
  obtain ⟨t, -, h, i, -⟩ := J.cur
  exact i.of_sim h.sim.symm

theorem RunInv.le {r : Run} {cs : List Cmd} (J : RunInv U Q r cs) {j k : Nat} (h : r.marks[j]? = some k) :
    k ≤ r.st.plan.length := by
  obtain ⟨_, _, hb, -⟩ := J.rel j k h
  exact (backtrack_plan U hb).1

theorem runInv_op (S : Stable U C Q) {r : Run} {cs : List Cmd} (J : RunInv U Q r cs) {c : Cmd} {s' : State}
    {out : List Conf} (hc : C c) (ha : applicable U r.st c = true) (h : applyCmd U r.st c = some (s', out)) :
    RunInv U Q ⟨s', r.marks ++ [s'.plan.length]⟩ (cs ++ [c]) := by
  have o := apply_outcome U J.inv ha h
  have hle := o.plan_le
  have hlen := J.len
  refine ⟨by simp [hlen], ?_, ?_, ?_⟩
  · rw [List.length_append, List.length_singleton, ← hlen]; exact List.getElem?_concat_length
  · intro i j ki kj hij hi hj
    rcases getElem?_concat_some hi with hi | ⟨rfl, rfl⟩ <;> rcases getElem?_concat_some hj with hj | ⟨rfl, rfl⟩
    · exact J.mono i j ki kj hij hi hj
    · exact Nat.le_trans (J.le hi) hle
    · have := (List.getElem?_eq_some_iff.mp hj).1; omega
    · exact Nat.le_refl _
  · intro j k hj
    rcases getElem?_concat_some hj with hj | ⟨rfl, rfl⟩
    · obtain ⟨sj, tj, h1, h2, h3, h4⟩ := J.rel j k hj
      obtain ⟨sq, hq, hsim, hpl⟩ := o.backtrack J.inv h1
      refine ⟨sq, tj, hq, ?_, same_iff.mpr ⟨hsim.trans h3.sim, by rw [hpl]; exact h3.plan⟩, h4⟩
      rw [List.take_append_of_le_length (by have := (List.getElem?_eq_some_iff.mp hj).1; omega)]; exact h2
    · -- the new mark: the replay takes the same step
      obtain ⟨t, ht, hst, hit, hqt⟩ := J.cur
      obtain ⟨t', out', hat, hst'⟩ := apply_same U hst J.inv ha h
      have hat' : applicable U t c = true := by rw [← applicable_congr U hst.sim c]; exact ha
      refine ⟨s', t', backtrack_self U s', ?_, hst', (apply_outcome U hit hat' hat).inv hit,
        S.apply hit hqt hc hat' hat⟩
      rw [hlen, List.take_of_length_le (by simp), replay_append, ht]
      simp [hat]

theorem runInv_rollback {r : Run} {cs : List Cmd} (J : RunInv U Q r cs) {j k : Nat}
    (hj : r.marks[j]? = some k) :
    ∃ s, backtrack U r.st k = some s ∧ RunInv U Q ⟨s, r.marks.take (j + 1)⟩ (cs.take j) := by
  obtain ⟨sj, tj, h1, h2, h3, h4⟩ := J.rel j k hj
  have hjl : j < r.marks.length := (List.getElem?_eq_some_iff.mp hj).1
  have hjc : j ≤ cs.length := by rw [J.len] at hjl; omega
  obtain ⟨hk, hpl⟩ := backtrack_plan U h1
  have hplen : sj.plan.length = k := by rw [hpl]; simp [hk]
  refine ⟨sj, h1, ⟨?_, ?_, ?_, ?_⟩⟩
  · simp [List.length_take, Nat.min_eq_left hjc]; omega
  · simp only [List.length_take, Nat.min_eq_left hjc]
    rw [List.getElem?_take_of_lt (by omega), hj, hplen]
  · intro i i' ki kj hii hi hi'
    exact J.mono i i' ki kj hii (getElem?_take_some hi).2 (getElem?_take_some hi').2
  · intro i ki hi
    obtain ⟨hij, hi⟩ := getElem?_take_some hi
    obtain ⟨si, ti, g1, g2, g3, g4⟩ := J.rel i ki hi
    have hki : ki ≤ k := J.mono i j ki k (by omega) hi hj
    have htr := backtrack_trans U r.st hki hk
    rw [h1, Option.bind_some] at htr
    refine ⟨si, ti, by rw [← htr]; exact g1, ?_, g3, g4⟩
    rw [List.take_take, Nat.min_eq_left (by omega)]; exact g2

theorem exec_inv (S : Stable U C Q) (h : List Step) : ∀ (r : Run) (cs : List Cmd), RunInv U Q r cs →
    (∀ c, Step.op c ∈ h → C c) →
    (∀ r', exec U r h = .ok r' → RunInv U Q r' (surviving h cs)) ∧ exec U r h ≠ .error .rollbackRaised := by
  induction h with
  | nil =>
    intro r cs J _
    exact ⟨fun r' hr => Except.ok.inj hr ▸ J, nofun⟩
  | cons st h ih =>
    intro r cs J hC
    have hC' : ∀ c, Step.op c ∈ h → C c := fun c hc => hC c (List.mem_cons_of_mem _ hc)
    cases st with
    | op c =>
      simp only [exec, execStep, surviving]
      by_cases ha : applicable U r.st c = true
      · simp only [ha, if_true]
        cases hap : applyCmd U r.st c with
        | none => simp [Except.bind]
        | some res =>
          obtain ⟨s', out⟩ := res
          simp only [Except.bind]
          exact ih _ _ (runInv_op S J (hC c List.mem_cons_self) ha hap) hC'
      · simp [ha, Except.bind]
    | rollback j =>
      simp only [exec, execStep, surviving]
      cases hm : r.marks[j]? with
      | none => simp [Except.bind]
      | some k =>
        obtain ⟨s, hb, J'⟩ := runInv_rollback J hm
        simp only [hb, Except.bind]
        exact ih _ _ J' hC'

/-- **Induction over the reachable planner states**: a `Stable` property of the empty planner holds after every
history — rollbacks included — whose operations satisfy `C`; the state reached is consistent and has the snapshot of
the replay of the surviving operations; no rollback raises. -/
theorem exec_stable (S : Stable U C Q) (q : Q init) {h : List Step} (hC : ∀ c, Step.op c ∈ h → C c) :
    (∀ r, exec U Run.init h = .ok r →
      Inv r.st ∧ Q r.st ∧ ∃ t, replay U init (surviving h []) = some t ∧ Same r.st t) ∧
    exec U Run.init h ≠ .error .rollbackRaised := by
  obtain ⟨h1, h2⟩ := exec_inv S h Run.init [] (runInv_init U q) hC
  refine ⟨fun r hr => ?_, h2⟩
  have J := h1 r hr
  obtain ⟨t, ht, hst, -, hq⟩ := J.cur
  exact ⟨J.inv, S.sim hst.sim.symm hq, t, ht, hst⟩

end Pkgcore.C17
