import Pkgcore.Proofs.C33
import Pkgcore.Proofs.C33Loop
import Pkgcore.Proofs.C33Fs
/-!
# C33 — install helpers create exactly the requested image entries

`Pkgcore.C33.*Plan`, `installPlan`, `runOps`, `relativeDosymTarget` mirror `ebd_ipc.py` / `misc.py` (after the `fix:`
commits); `Pkgcore.C33.Spec.*` is the PMS placement table.
-/
namespace Pkgcore.C33
open Pkgcore.C33.Spec

/-- `os.path.relpath` as used by pkgcore: for absolute `path` and `start`, the result, interpreted in
directory `start`, resolves (lexically, as PMS defines it) to `path`.  All strings, no size bound. -/
theorem relpath_resolves (path start : Str) (hp : isAbs path = true) (hs : isAbs start = true) :
    resolve (start ++ '/' :: relpath path start) = resolve path := by
  rw [resolve_append_sep]
  unfold relpath
  simp only [comps_normpath path hp, comps_normpath start hs]
  have hPo := resolve_ordinary path
  have key := foldl_step_rel _ _ _ (take_commonLen (resolve start) (resolve path)) hPo
  split
  · rename_i hrel
    rw [hrel] at key
    exact key
  · rename_i hrel
    rw [splitOn_joinWith '/' _ hrel]
    · exact key
    · intro c hc
      rcases List.mem_append.1 hc with hc | hc
      · rw [(List.mem_replicate.1 hc).2]; decide
      · exact (hPo c (List.mem_of_mem_drop hc)).2.2.2

example : isAbs "/usr/../a//b/./c".toList = true ∧ isAbs "//x/../y".toList = true := by decide +kernel

/-- **`dosym -r source target` creates a link that resolves to the requested absolute `source`**: the link
text computed by `get_relative_dosym_target`, read in the directory that holds the link
(`os.path.join("/", dirname(target))`, the leading slash of `target` may be omitted), names `source`. -/
theorem relative_target_resolves (source target : Str) (h : isAbs source = true) :
    resolve (pjoin ['/'] (dirname target) ++ '/' :: relativeDosymTarget source target) = resolve source :=
  relpath_resolves source _ h (isAbs_pjoin_root _)

example : relativeDosymTarget "/usr/bin/a".toList "usr/lib/q/b".toList = "../../bin/a".toList := by decide +kernel

def magicNat : String → Option Nat
  | "0" => some 0 | "1" => some 1 | "2" => some 2 | "3" => some 3 | "4" => some 4
  | "5" => some 5 | "6" => some 6 | "7" => some 7 | "8" => some 8 | _ => none

/-- the per-EAPI helper options of `eapi.py` are the PMS feature table: doman languages from EAPI 2 with
`-i18n` precedence from 4, `dodoc -r` from 4, `dosym -r` from 8; every EAPI 0–8 is present -/
theorem eapi_table_is_pms :
    (Generated.C33.eapis.all fun r =>
      match magicNat r.magic with
      | some n => r.domanDetect == pmsDomanLanguages n && r.domanOverride == pmsDomanI18nPrecedence n
          && r.dodocAllowRecursive == pmsDodocRecursive n && r.dosymRelative == pmsDosymRelative n
      | none => false) = true
    ∧ Generated.C33.eapis.map (·.magic) = ["0", "1", "2", "3", "4", "5", "6", "7", "8"]
    ∧ (Generated.C33.eapis.all fun r => !r.archiveExts.contains "") = true := by decide +kernel

/-- default modes as the real option parsers deliver them for every helper of the table `ebd.py` builds:
documentation-like files 0644, dobin/dosbin forced to 0755, dodir/keepdir directories 0755, everything
else as given by insopts/exeopts/libopts -/
theorem helper_default_modes :
    Generated.C33.helpers.map (fun h => (h.name, h.insMode, h.dirMode, h.forcedIns)) =
      [("doins", none, none, false), ("dodoc", some 0o644, none, false), ("dohtml", some 0o644, none, false),
       ("doinfo", some 0o644, none, false), ("dodir", none, some 0o755, false), ("doexe", none, none, false),
       ("dobin", some 0o755, none, true), ("dosbin", some 0o755, none, true), ("dolib", none, none, false),
       ("dolib.so", none, none, false), ("dolib.a", none, none, false), ("doman", some 0o644, none, false),
       ("domo", some 0o644, none, false), ("dosym", none, none, false), ("dohard", none, none, false),
       ("keepdir", none, some 0o755, false)] ∧
    -- only dobin/dosbin force an owner: root:root
    Generated.C33.helpers.map (fun h => (h.insOwner, h.insGroup)) =
      [(none, none), (none, none), (none, none), (none, none), (none, none), (none, none), (some 0, some 0),
       (some 0, some 0), (none, none), (none, none), (none, none), (none, none), (none, none), (none, none),
       (none, none), (none, none)] := by decide +kernel

/-- **nothing else is touched**: a path that is not a requested path or one of its ancestors keeps its
entry (or stays absent) -/
theorem run_frame (u : Umask) (fs fs' : Fs) (ops : List Op) (h : runOps u fs ops = .ok fs')
    (q : Path) (hq : ∀ op ∈ ops, ¬ q <+: op.path) : fs' q = fs q :=
  (runOps_facts u ops fs fs' h).frame q hq

/-- **every requested entry exists and all its ancestors are directories** (well-formedness of the image is
preserved; a directory is never replaced by a non-directory) -/
theorem run_ancestors_are_dirs (u : Umask) (fs fs' : Fs) (ops : List Op) (hwf : WF fs)
    (h : runOps u fs ops = .ok fs') :
    WF fs' ∧ (∀ q, fs.isDir q = true → fs'.isDir q = true) ∧
    ∀ op ∈ ops, op.path ≠ [] → (fs' op.path).isSome = true ∧
      ∀ a, a <+: op.path → a ≠ op.path → fs'.isDir a = true := by
  have f := runOps_facts u ops fs fs' h
  refine ⟨f.wf hwf, f.dirsStay, ?_⟩
  intro op hop hp
  have hs := f.targetExists op hop hp
  refine ⟨hs, ?_⟩
  intro a ⟨t, ht⟩ hne
  obtain ⟨n, hn⟩ := Option.isSome_iff_exists.1 hs
  exact (wf_ancestors fs' (f.wf hwf) a t n (ht ▸ hn)).resolve_right fun e => hne (by rw [← ht, e, List.append_nil])

/-- **the prescribed entry is there**: the entry an operation writes (mode from the install options or the
umask default, content of the named source, link text) is what the image holds at that path afterwards,
unless a later operation of the same request writes at or below that path -/
theorem run_last_entry (u : Umask) (fs fs' : Fs) (before : List Op) (op : Op) (after : List Op)
    (h : runOps u fs (before ++ op :: after) = .ok fs')
    (hlater : ∀ o ∈ after, ¬ op.path <+: o.path) :
    ∃ fs₁, runOps u fs before = .ok fs₁ ∧ op.leafOk u fs₁ (fs' op.path) := by
  obtain ⟨fs1, h1, h2⟩ := runOps_append u before (op :: after) fs fs' h
  obtain ⟨fs2, h3, h4⟩ := runOps_cons u fs1 op after fs' h2
  rw [(runOps_facts u after fs2 fs' h4).frame op.path hlater]
  exact ⟨fs1, h1, (applyOp_facts u fs1 fs2 op h3).2.2⟩

example : ((runOps ⟨⟨0o750, 0, 0⟩, ⟨0o640, 0, 0⟩⟩ emptyFs
    [.mkdirs [['u'], ['b']] none, .copy (.file 7) [['u'], ['b'], ['x']] (some ⟨0o4755, none, some 250⟩)]).toOption.map
      (fun fs => (fs [['u']], fs [['u'], ['b'], ['x']], fs [['v']])))
    = some (some (.dir ⟨0o750, 0, 0⟩), some (.file ⟨0o4755, 0, 250⟩ 7), none) := by decide +kernel

/-- **the requested mode and owner are what the installed file has**: an operation that installs a regular
file with install options `-m M [-o U] [-g G]` leaves exactly mode `M` — set-id and sticky bits included —
and owner `U`/group `G` where given (the process's ids otherwise); a directory created with directory
options gets mode `M` and the given ids, keeping the ids it had where none is given -/
theorem requested_mode_and_owner (u : Umask) (fs fs' : Fs) (before after : List Op) (p : Path) (id : Nat) (a : Attr)
    (h : runOps u fs (before ++ Op.copy (.file id) p (some a) :: after) = .ok fs')
    (hlater : ∀ o ∈ after, ¬ p <+: o.path) :
    fs' p = some (.file ⟨a.mode, a.owner.getD u.fileMode.uid, a.group.getD u.fileMode.gid⟩ id) := by
  obtain ⟨fs1, _, h2⟩ := run_last_entry u fs fs' before (Op.copy (.file id) p (some a)) after h hlater
  simpa [Op.leafOk, Op.path, Attr.over] using h2

example : (⟨0o4755, some 0, none⟩ : Attr).over ⟨0o644, 7, 8⟩ = ⟨0o4755, 0, 8⟩ := by decide +kernel

/-- **a request's placement depends only on that request**: serving a sequence of requests with one helper
table is serving the last one on the image the others left — its plan is computed from the request alone
(no state is carried by the helpers; `dosym` alone looks at the image, and only at whether its link name is
a directory there) -/
theorem request_independent_of_history (u : Umask) (fs : Fs) (earlier : List Request) (r : Request) :
    runRequests u fs (earlier ++ [r]) =
      (match runRequests u fs earlier with
       | .ok fs' => execute u fs' (r.plan fs')
       | .error e => .error e) ∧
    (∀ fs₁ fs₂ : Fs, (∀ c ra rel s t, r = .dosym c ra rel s t → fs₁.isDir (toPath t) = fs₂.isDir (toPath t)) →
      r.plan fs₁ = r.plan fs₂) := by
  constructor
  · induction earlier generalizing fs with
    | nil =>
      simp only [List.nil_append, runRequests]
      cases execute u fs (r.plan fs) <;> rfl
    | cons q rest ih =>
      simp only [List.cons_append, runRequests]
      cases execute u fs (q.plan fs) with
      | error e => rfl
      | ok fs' => exact ih fs'
  · intro fs₁ fs₂ hd
    cases r with
    | dosym c ra rel s t =>
      have := hd c ra rel s t rfl
      simp only [Request.plan, dosymPlan, this]
    | _ => rfl

/-- **doexe, dobin, dosbin, dolib\*, doinfo**: the destination directory plus every argument under its own
name with the requested mode, in order — or the same rejection (no arguments, nonexistent path, a
directory, a dangling link) -/
theorem basename_install_placement (c : Ctx) (ts : List Target) :
    (installPlan .basenameInstall c ts).map (List.map Op.toEntry) = prescribed .basenameInstall c ts := by
  unfold installPlan prescribed
  exact wrapperRun_entries c ts _ _ (installByBasename_entries c ts)

example : (installPlan .basenameInstall ⟨"/usr/bin".toList, some ⟨0o755, some 0, some 0⟩, none⟩ [⟨"src/tool".toList, .file 3⟩]).toOption =
    some [.mkdirs [['u','s','r'], ['b','i','n']] none,
         .copy (.file 3) [['u','s','r'], ['b','i','n'], ['t','o','o','l']] (some ⟨0o755, some 0, some 0⟩)] := by decide +kernel

/-- **a directory argument needs `-r`** (and `dodoc -r` needs EAPI ≥ 4): doins, dodoc and dohtml reject
it with "is a directory"; the helpers without `-r` support reject a directory too -/
theorem directory_needs_recursive (c : Ctx) (ts : List Target) (t : Target) (ht : t ∈ ts) (hdir : t.isDir = true)
    (hargs : checkTargets ts = .ok ()) :
    installPlan (.doins false) c ts = .error .isDirectory ∧
    prescribed (.doins false) c ts = .error .isDirectory ∧
    (∀ allow r, (r && allow) = false →
      installPlan (.dodoc allow r) c ts = .error .isDirectory ∧
      prescribed (.dodoc allow r) c ts = .error .isDirectory) ∧
    (∀ o : HtmlOpts, o.recursive = false → installPlan (.dohtml o) c ts = .error .isDirectory) := by
  have hne : ts.filter (·.isDir) ≠ [] := List.ne_nil_of_mem (List.mem_filter.2 ⟨ht, hdir⟩)
  have hargs' : argsOk ts = .ok () := (argsOk_eq ts).trans hargs
  have hex : ∃ x, x ∈ ts ∧ x.isDir = true := ⟨t, ht, hdir⟩
  refine ⟨?_, ?_, ?_, ?_⟩
  · simp [installPlan, wrapperRun, hargs, doinsTargets, hne, bind, Except.bind]
  · simp [prescribed, withDest, hargs', filesAndTrees, isDirArg, hex, bind, Except.bind]
  · intro allow r hr
    constructor
    · have : ¬ (r = true ∧ allow = true) := fun h => by simp [h.1, h.2] at hr
      simp [installPlan, wrapperRun, hargs, dodocTargets, hne, this, bind, Except.bind]
    · simp [prescribed, withDest, hargs', filesAndTrees, isDirArg, hex, hr, bind, Except.bind]
  · intro o ho
    simp [installPlan, wrapperRun, dohtmlTargets, hne, ho, hargs, bind, Except.bind]

example : (⟨"d".toList, .dir []⟩ : Target).isDir = true ∧ checkTargets [⟨"d".toList, .dir []⟩] = .ok () :=
  ⟨rfl, rfl⟩

/-- **`doins -r` / `dodoc -r` mirror the source tree**: the operations of the `os.walk` based
`_install_from_dirs` (shared by doins, dodoc and dohtml) are — up to order — exactly the depth-first listing of
the trees under the directory's own name (directories as if by dodir, files with the install mode, links as
links), and whole `doins [-r]` and `dodoc [-r]` requests (trees together with the plain file arguments) are the
prescribed entries up to order; one side rejects iff the other does.  (`dohtml`: next theorem.) -/
theorem recursive_install_mirrors_tree (c : Ctx) (ts : List Target) :
    TreeRel (fromDirs c ts) (trees c ts) ∧
    (∀ r, TreeRel (installPlan (.doins r) c ts) (prescribed (.doins r) c ts)) ∧
    (∀ allow r, TreeRel (installPlan (.dodoc allow r) c ts) (prescribed (.dodoc allow r) c ts)) :=
  ⟨fromDirs_rel c ts, fun r => wrapperRun_rel c ts (doinsTargets_rel c r ts),
    fun allow r => wrapperRun_rel c ts (dodocTargets_rel c allow r ts)⟩

example : (installPlan (.doins true) ⟨"/s".toList, some ⟨0o644, none, none⟩, some ⟨0o700, none, none⟩⟩
    [⟨"d/".toList, .dir [("f".toList, .file 1), ("l".toList, .link "f".toList .toFile)]⟩]).toOption.map List.length
    = some 4 := by
  rw [installPlan, wrapperRun, doinsTargets]
  simp only [List.filter, Target.isDir, fromDirs, walkDir, walkSubs]
  decide +kernel

/-- **`dohtml [-r]` installs the filtered arguments under the doc prefix, directories mirrored**: the plan of a
dohtml request and the prescribed entries reject together, and a successful plan is — up to order — exactly
`--dest` joined with the `-p` prefix (leading slashes of the prefix dropped), the depth-first listing of every
directory argument that is not named by `-x` (directories need `-r`; listed as for `doins -r`, under the
directory's own name), and every file argument whose last component has an allowed suffix (`-a` list, or the
default list, plus `-A`; the suffix is what follows the last dot when something other than dots precedes it, the
empty suffix otherwise) or is named by `-f`, under its own name — nothing else.  As in the code, `-x`, the
suffixes and `-f` select among the *arguments*; the contents of a walked directory are installed whole. -/
theorem dohtml_recursive_mirrors_filtered_tree (c : Ctx) (o : HtmlOpts) (ts : List Target) :
    TreeRel (installPlan (.dohtml o) c ts) (prescribed (.dohtml o) c ts) ∧
    (∀ ops, installPlan (.dohtml o) c ts = .ok ops →
      ∃ ds fs,
        (ts.filter (·.isDir) ≠ [] → o.recursive = true) ∧
        trees { c with dest := pjoin c.dest (lstripSlash o.docPrefix) }
          ((ts.filter (·.isDir)).filter fun d => !o.xDirs.contains d.arg) = .ok ds ∧
        byName { c with dest := pjoin c.dest (lstripSlash o.docPrefix) }
          ((ts.filter (!·.isDir)).filter fun t =>
            (hasStem (splitOn '.' (lastComp t.arg)) &&
                (htmlAllowedExts o).contains ((splitOn '.' (lastComp t.arg)).getLast?.getD [])) ||
              (!hasStem (splitOn '.' (lastComp t.arg)) && (htmlAllowedExts o).contains []) ||
              o.fFiles.contains (lastComp t.arg)) = .ok fs ∧
        (ops.map Op.toEntry).Perm
          (Entry.dir (toPath (pjoin c.dest (lstripSlash o.docPrefix))) none :: (ds ++ fs))) := by
  have h := dohtml_rel c o ts
  refine ⟨h, fun ops hok => ?_⟩
  -- the prescribed side, unfolded, is four steps (`argsOk`, the `-r` test, `trees`, `byName`): each succeeds, or `h`
  -- is false
  rw [hok] at h
  unfold prescribed withDest filesAndTrees isDirArg htmlAllowedExts at *
  dsimp only at h
  cases hargs : argsOk ts with
  | error e => rw [hargs] at h; exact h.elim
  | ok _ =>
    rw [hargs] at h
    by_cases hd : ts.filter (·.isDir) ≠ [] ∧ (!o.recursive) = true
    · rw [if_pos hd] at h; exact h.elim
    · rw [if_neg hd] at h
      revert h
      generalize trees _ _ = T
      generalize byName _ _ = B
      intro h
      cases T with
      | error e => exact h.elim
      | ok ds =>
        cases B with
        | error e => exact h.elim
        | ok fs =>
          refine ⟨ds, fs, fun hne => ?_, rfl, rfl, h⟩
          cases hr : o.recursive with
          | true => rfl
          | false => exact absurd ⟨hne, by rw [hr]; rfl⟩ hd

/-- a successful request on a non-trivial tree: `b.exe` is filtered out by its suffix, the directory `skip` is
excluded by `-x`, `README` passes by `-f`, `n.txt` by `-A`; everything lands under `<dest>/api` -/
example : (installPlan (.dohtml ⟨true, [], ["txt".toList], ["README".toList], ["skip".toList], "/api".toList⟩)
      ⟨"/d".toList, some ⟨0o644, none, none⟩, none⟩
      [⟨"doc/".toList, .dir [("i.html".toList, .file 1), ("sub".toList, .dir [("n.bin".toList, .file 2)])]⟩,
       ⟨"skip".toList, .dir [("z.html".toList, .file 3)]⟩,
       ⟨"a.html".toList, .file 4⟩, ⟨"b.exe".toList, .file 5⟩, ⟨"README".toList, .file 6⟩,
       ⟨"x/n.txt".toList, .file 7⟩]).toOption =
    some [.mkdirs ["d".toList, "api".toList] none,
      .mkdirs ["d".toList, "api".toList, "doc".toList] none,
      .copy (.file 1) ["d".toList, "api".toList, "doc".toList, "i.html".toList] (some ⟨0o644, none, none⟩),
      .mkdirs ["d".toList, "api".toList, "doc".toList, "sub".toList] none,
      .copy (.file 2) ["d".toList, "api".toList, "doc".toList, "sub".toList, "n.bin".toList] (some ⟨0o644, none, none⟩),
      .copy (.file 4) ["d".toList, "api".toList, "a.html".toList] (some ⟨0o644, none, none⟩),
      .copy (.file 6) ["d".toList, "api".toList, "README".toList] (some ⟨0o644, none, none⟩),
      .copy (.file 7) ["d".toList, "api".toList, "n.txt".toList] (some ⟨0o644, none, none⟩)] := by
  have x1 : ["skip".toList].contains "doc/".toList = false := by decide +kernel
  have x2 : ["skip".toList].contains "skip".toList = true := by decide +kernel
  -- `walkDir`/`walkSubs` are defined by well-founded recursion: unfolded by their equations, the rest is evaluated
  rw [installPlan, wrapperRun, dohtmlTargets]
  simp only [List.filter, Target.isDir, x1, x2, Bool.not_true, Bool.not_false, fromDirs, walkDir, walkSubs]
  decide +kernel

/-- **the directory level of a recursive install**: an argument whose last non-empty component is a name `n`
(`dir`, `dir/`, `./dir`, `a//dir//`) is installed as `n/…` below `--dest`; an argument ending in the component `.`
(`dir/.`, `dir/.//` — "the contents of `dir`") is installed with *no* extra level: its entries go directly under
`--dest`.  Both the code's `dest_dir` (`topDir`) and the prescribed name (`dirName`) are meant -/
theorem recursive_dir_level (d slashes : Str) (hs : ∀ x ∈ slashes, x = '/') :
    (topDir (d ++ '/' :: '.' :: slashes) = [] ∧ dirName (d ++ '/' :: '.' :: slashes) = []) ∧
    (∀ n : Str, '/' ∉ n → n ≠ [] → n ≠ ['.'] →
      topDir (d ++ '/' :: (n ++ slashes)) = [n] ∧ dirName (d ++ '/' :: (n ++ slashes)) = [n]) := by
  have hl : ∀ n : Str, '/' ∉ n → n ≠ [] → lastName (d ++ '/' :: (n ++ slashes)) = [n] := by
    intro n hn hne
    unfold lastName
    rw [toPath_append_sep, toPath_append_slashes n slashes hs, toPath_no_slash n hn hne]
    simp
  simp only [topDir_eq_dirName, and_self]
  refine ⟨?_, fun n hn hne hdot => ?_⟩
  · exact if_pos (hl ['.'] (by simp) (by simp))
  · rw [dirName, hl n hn hne, if_neg (by simpa using hdot)]

example : dirName "conf/.".toList = [] ∧ dirName "conf/".toList = ["conf".toList] ∧ dirName "./a//conf//".toList = ["conf".toList]
    ∧ topDir "conf/sub/.".toList = [] := by decide +kernel

/-- **doman**: where `Doman` puts a page — `manN/name`, `lang/manN/name` with the language part removed
from `foo.lang.N`, `-i18n` with the EAPI's precedence, one compression suffix looked through — is the PMS
table's destination, for every argument string -/
theorem doman_placement (m : ManCtx) (arg : Str) : manPlace m arg = manDest m (lastComp arg) :=
  manPlace_eq_manDest m arg

example : manPlace ⟨true, true, [], [".gz".toList], false⟩ "x/apt-get.pt_BR.8".toList
    = some ("pt_BR/man8".toList, "apt-get.8".toList) := by decide +kernel

/-- **a man page without a (valid) section is rejected** -/
theorem doman_without_section_rejected (c : Ctx) (m : ManCtx) (ts : List Target) (t : Target) (ht : t ∈ ts)
    (hsec : validSection (sectionOf m (splitOn '.' (lastComp t.arg))) = false) :
    ∃ e, installPlan (.doman m) c ts = .error e := by
  have hnone : manPlace m t.arg = none := by
    rw [manPlace_eq_manDest, manDest_eq_manLang, hsec]
    rfl
  obtain ⟨e, he⟩ := domanLoop_error c m ht hnone []
  exact wrapperRun_error c ts he

example : validSection (sectionOf ⟨true, true, [], [], false⟩ (splitOn '.' "foo".toList)) = false ∧
    validSection (sectionOf ⟨true, true, [], [], false⟩ (splitOn '.' ".1".toList)) = false := by decide +kernel

/-- **doman, whole request**: rejections coincide; on success the page files are the prescribed ones in
order, every operation is a prescribed entry and every prescribed entry is produced (each `lang/manN`
directory once) -/
theorem doman_plan_entries (c : Ctx) (m : ManCtx) (ts : List Target) :
    LoopRel c [] (domanLoop c m [] ts) (manEntries c m ts) :=
  domanLoop_rel c m ts []

/-- **domo**: `<dest>/<name without extension>/LC_MESSAGES/<PN>.mo` for every argument, directories once
(`pn` is a package name, it does not start with a slash) -/
theorem domo_placement (c : Ctx) (pn : Str) (hpn : isAbs pn = false) (ts : List Target) :
    LoopRel c [] (domoLoop c pn [] ts) (moEntries c pn ts) :=
  domoLoop_rel c pn hpn ts []

example : (domoLoop ⟨"/usr/share/locale".toList, some ⟨0o644, none, none⟩, none⟩ "pn".toList []
    [⟨"po/de.mo".toList, .file 1⟩, ⟨"de.mo".toList, .file 2⟩]).toOption.map List.length = some 3 := by decide +kernel

/-- **dodir / keepdir**: exactly the named directories (mode from diropts), and for keepdir an empty
`.keep_<category>_<PN>-<slot>` in each -/
theorem dodir_keepdir_placement (c : Ctx) (category pn slot : Str) (ds : List Str) :
    (dodirPlan c ds).map (List.map Op.toEntry) = dodirEntries c ds ∧
    (keepdirPlan c category pn slot ds).map (List.map Op.toEntry) = keepdirEntries c category pn slot ds := by
  constructor
  · unfold dodirPlan dodirEntries
    by_cases h : ds = []
    · rw [if_pos h, if_pos h]; rfl
    · rw [if_neg h, if_neg h]
      exact congrArg Except.ok (List.map_map ..)
  · unfold keepdirPlan keepdirEntries dodirPlan
    by_cases h : ds = []
    · rw [if_pos h, if_pos h]; rfl
    · rw [if_neg h, if_neg h]
      refine congrArg Except.ok ?_
      rw [List.map_append, List.map_map, List.map_map]
      simp only [List.append_assoc, List.cons_append, List.nil_append]
      rfl

/-- **dosym**: the parent directory of the link name and the link itself with the requested text (the
relative text for `-r`), or the same rejection -/
theorem dosym_placement (c : Ctx) (fs : Fs) (relAllowed relative : Bool) (source target : Str) :
    (dosymPlan c fs relAllowed relative source target).map (List.map Op.toEntry)
      = dosymEntries c fs relAllowed relative source target := by
  unfold dosymPlan dosymEntries
  by_cases h1 : target.getLast? = some '/' ∨ fs.isDir (toPath target) = true
  · simp [h1, Except.map]
  · have ht : target.getLast? ≠ some '/' := fun h => h1 (Or.inl h)
    simp only [h1, if_false]
    cases relative with
    | false =>
      simp [Except.map, pure, Except.pure, symlinkRun_entries c _ target ht, Op.toEntry]
    | true =>
      cases relAllowed with
      | false => simp [Except.map]
      | true =>
        by_cases ha : isAbs source = true
        · simp [ha, Except.map, pure, Except.pure, symlinkRun_entries c _ target ht, Op.toEntry]
        · simp [ha, Except.map]

/-- **dosym rejects what PMS forbids**: a link name ending in a slash or naming a directory of the image
("missing link name"), `-r` before EAPI 8, `-r` with a relative source; everything else is accepted with
the link text requested (`-r`: the text of `relative_target_resolves`) -/
theorem dosym_rejections (c : Ctx) (fs : Fs) (relAllowed relative : Bool) (source target : Str) :
    (dosymPlan c fs relAllowed relative source target = .error .missingLinkName ↔
      (target.getLast? = some '/' ∨ fs.isDir (toPath target) = true)) ∧
    (dosymPlan c fs relAllowed relative source target = .error .relNotPermitted ↔
      (¬ (target.getLast? = some '/' ∨ fs.isDir (toPath target) = true) ∧ relative = true ∧ relAllowed = false)) ∧
    (dosymPlan c fs relAllowed relative source target = .error .relNeedsAbs ↔
      (¬ (target.getLast? = some '/' ∨ fs.isDir (toPath target) = true) ∧ relative = true ∧ relAllowed = true ∧
        isAbs source = false)) ∧
    (¬ (target.getLast? = some '/' ∨ fs.isDir (toPath target) = true) → (relative = true → relAllowed = true ∧ isAbs source = true) →
      ∃ ops, dosymPlan c fs relAllowed relative source target = .ok ops ∧
        ops.getLast? = some (.relink (if relative then relativeDosymTarget source target else source) (toPath target))) := by
  unfold dosymPlan
  by_cases h1 : target.getLast? = some '/' ∨ fs.isDir (toPath target) = true
  · simp [h1]
  · simp only [h1, if_false, not_false_eq_true, true_and]
    cases relative with
    | false => simp [pure, Except.pure, symlinkRun]
    | true =>
      cases relAllowed with
      | false => simp
      | true =>
        by_cases ha : isAbs source = true
        · simp [ha, pure, Except.pure, symlinkRun]
        · simp [ha]

example : ¬ ("/usr/lib/b".toList.getLast? = some '/' ∨ emptyFs.isDir (toPath "/usr/lib/b".toList) = true) := by decide +kernel

/-- **dohard**: the parent directory of the link name and a hard link to the *image* entry `source`, for a link
name that does not end in a slash (a link name ending in a slash: `dohard_trailing_slash_rejected`) -/
theorem dohard_placement (c : Ctx) (source target : Str) (ht : target.getLast? ≠ some '/') :
    (dohardPlan c source target).map (List.map Op.toEntry) = dohardEntries c source target := by
  unfold dohardPlan dohardEntries
  simp [ht, Except.map, pure, Except.pure, symlinkRun_entries c _ target ht, Op.toEntry]

example : (dohardPlan ⟨"/".toList, none, none⟩ "/usr/bin/a".toList "/usr/bin/b".toList).toOption =
    some [.mkdirs [['u','s','r'], ['b','i','n']] none,
         .hardlink [['u','s','r'], ['b','i','n'], ['a']] [['u','s','r'], ['b','i','n'], ['b']]] := by decide +kernel

/-- **dohard with a link name ending in a slash is rejected**: the specification rejects it up front ("missing
link name"); `Dohard.run` has no such test — its plan is "create the directory `d`, then `os.link` onto `d`" — and
running that plan fails on every image and under every umask: creating the parent has made the link name a
directory, which `os.link` does not replace (EEXIST, then `unlink` fails with EISDIR).  Nothing is linked.
(`dohard` takes no `--dest`: `c.dest` is the image root.) -/
theorem dohard_trailing_slash_rejected (c : Ctx) (hc : toPath c.dest = []) (u : Umask) (fs : Fs) (source target : Str)
    (ht : target.getLast? = some '/') :
    dohardEntries c source target = .error .missingLinkName ∧
    dohardPlan c source target =
      .ok [.mkdirs (toPath target) c.dirMode, .hardlink (toPath source) (toPath target)] ∧
    ∃ e, execute u fs (dohardPlan c source target) = .error e := by
  obtain ⟨d, rfl⟩ := List.getLast?_eq_some_iff.1 ht
  have hplan : dohardPlan c source (d ++ ['/']) =
      .ok [.mkdirs (toPath (d ++ ['/'])) c.dirMode, .hardlink (toPath source) (toPath (d ++ ['/']))] := by
    unfold dohardPlan symlinkRun
    have hr : rsplit1Head '/' (d ++ ['/']) = d := rsplit1Head_decomp '/' d [] (by simp)
    simp [hr, prefixed, hc, toPath_snoc_slash, pure, Except.pure]
  exact ⟨by simp [dohardEntries], hplan, hplan ▸ mkdirs_then_hardlink_error u fs _ _ _⟩

example : toPath "/".toList = [] ∧ "/usr/lib/".toList.getLast? = some '/' ∧
    (execute ⟨⟨0o755, 0, 0⟩, ⟨0o644, 0, 0⟩⟩ (emptyFs.set [['a']] (.file ⟨0o644, 0, 0⟩ 1))
      (dohardPlan ⟨"/".toList, none, none⟩ "a".toList "/usr/lib/".toList)).toOption.isNone = true := by decide +kernel

end Pkgcore.C33
