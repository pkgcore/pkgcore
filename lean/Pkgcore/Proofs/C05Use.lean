import Pkgcore.Spec.C05
/-! C05 — the USE clause of `intersects`: a flag of a valid package is in one of three states `St`, and `useOk` holds
exactly when some choice of states satisfies every dep (`useOk_of_all_hold`, `all_hold_of_useOk`). -/
namespace Pkgcore.C05
open Pkgcore.C04 Pkgcore.C04.Spec Pkgcore.C05.Spec
open Pkgcore.C02 (Str)

/-- the three states a valid package can be in with respect to a flag -/
inductive St | on | off | missing
  deriving DecidableEq, Repr

def States.has (s : States) : St → Bool
  | .on => s.on | .off => s.off | .missing => s.missing

def St.of (p : Pkg) (f : Str) : St :=
  if p.iuse.contains f then (if p.use.contains f then .on else .off) else .missing

theorem has_inter (s t : States) (x : St) : (s.inter t).has x = (s.has x && t.has x) := by
  cases x <;> rfl

theorem statesFor_has (deps : List UseDep) (f : Str) (x : St) :
    (statesFor deps f).has x = deps.all fun u => !(u.flag == f) || (allowed u).has x := by
  have fold (l : List UseDep) (s0 : States) :
      (l.foldl (fun s u => s.inter (allowed u)) s0).has x = (s0.has x && l.all fun u => (allowed u).has x) := by
    induction l generalizing s0 with
    | nil => simp
    | cons u l ih => simp only [List.foldl_cons, ih, has_inter, List.all_cons, Bool.and_assoc]
  have h0 : (States.mk true true true).has x = true := by cases x <;> rfl
  rw [statesFor, fold, h0, Bool.true_and, List.all_filter]

theorem nonempty_iff (s : States) : s.nonempty = true ↔ ∃ x, s.has x = true := by
  constructor
  · intro h
    simp only [States.nonempty, Bool.or_eq_true] at h
    rcases h with (h | h) | h
    · exact ⟨.on, h⟩
    · exact ⟨.off, h⟩
    · exact ⟨.missing, h⟩
  · rintro ⟨x, h⟩
    cases x <;> simp_all [States.has, States.nonempty]

/-- enabled flags are flags of the package (the second half of `PkgOk`) -/
abbrev UseInIuse (p : Pkg) : Prop := ∀ f, p.use.contains f = true → p.iuse.contains f = true

theorem useHolds_eq_allowed (p : Pkg) (u : UseDep) (hp : UseInIuse p) :
    useHolds p u = (allowed u).has (St.of p u.flag) := by
  obtain ⟨flag, on, dflt⟩ := u
  have hv := hp flag
  simp only [useHolds, flagState, allowed, St.of]
  cases hi : p.iuse.contains flag <;> cases hu : p.use.contains flag
  case false.true => rw [hu, hi] at hv; exact absurd (hv rfl) (by decide)
  all_goals cases on <;> rcases dflt with _ | _ | _ <;> rfl

theorem useOk_of_all_hold (deps : List UseDep) (p : Pkg) (hp : UseInIuse p) (h : deps.all (useHolds p) = true) :
    useOk deps = true := by
  refine List.all_eq_true.mpr fun u _ => (nonempty_iff _).mpr ⟨St.of p u.flag, ?_⟩
  rw [statesFor_has]
  refine List.all_eq_true.mpr fun w hw => ?_
  have hw' := List.all_eq_true.mp h w hw
  rw [useHolds_eq_allowed p w hp] at hw'
  by_cases hf : w.flag = u.flag
  · rw [← hf, hw', Bool.or_true]
  · rw [beq_false_of_ne hf]; rfl

def witnessSt (s : States) : St := if s.on then .on else if s.off then .off else .missing

theorem witnessSt_has (s : States) (h : s.nonempty = true) : s.has (witnessSt s) = true := by
  obtain ⟨a, b, c⟩ := s
  cases a <;> cases b <;> cases c <;> simp_all [States.nonempty, witnessSt, States.has]

theorem witness_use_valid (deps : List UseDep) (p : Pkg) (hi : p.iuse = witnessIuse deps)
    (hu : p.use = witnessUse deps) : UseInIuse p := by
  intro f
  rw [hi, hu]
  simp only [witnessUse, witnessIuse, List.contains_iff_mem, List.mem_filter, Bool.or_eq_true]
  rintro ⟨h1, h2⟩
  exact ⟨h1, Or.inl h2⟩

theorem St.of_witness (deps : List UseDep) (p : Pkg) (hi : p.iuse = witnessIuse deps) (hu : p.use = witnessUse deps)
    (u : UseDep) (hmem : u ∈ deps) : St.of p u.flag = witnessSt (statesFor deps u.flag) := by
  have hf : u.flag ∈ flags deps := List.mem_map.mpr ⟨u, hmem, rfl⟩
  have hc : ∀ q : Str → Bool, ((flags deps).filter q).contains u.flag = q u.flag := fun q => by
    rw [Bool.eq_iff_iff]
    simp only [List.contains_iff_mem, List.mem_filter, hf, true_and]
  unfold St.of witnessSt
  rw [hi, hu, witnessIuse, witnessUse, hc, hc]
  cases (statesFor deps u.flag).on <;> cases (statesFor deps u.flag).off <;> rfl

theorem all_hold_of_useOk (deps : List UseDep) (p : Pkg) (hi : p.iuse = witnessIuse deps) (hu : p.use = witnessUse deps)
    (h : useOk deps = true) : deps.all (useHolds p) = true := by
  have hp := witness_use_valid deps p hi hu
  apply List.all_eq_true.mpr
  intro u hmem
  rw [useHolds_eq_allowed p u hp, St.of_witness deps p hi hu u hmem]
  have hne := List.all_eq_true.mp h u hmem
  have := witnessSt_has _ hne
  rw [statesFor_has] at this
  have := List.all_eq_true.mp this u hmem
  -- at `u` itself the guard `!(u.flag == u.flag)` is false
  simpa using this

end Pkgcore.C05
