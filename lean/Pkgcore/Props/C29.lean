import Pkgcore.Proofs.C29
/-!
# C29 — package database updates are crash-consistent

A routine is the list of file-system operations it performs on one category directory (`Model/C29.lean`,
mirroring the repaired code); a crash point is any prefix of that list; the reader is the fresh-scan view
`viewVdb` / `viewBin`, which includes every metadata file (resp. the whole tarball) of each listed package.
`CrashConsistent view ops st new` says: at every crash point the view is the old one or `new`, and the completed
routine shows `new`.
-/
namespace Pkgcore.C29
open Pkgcore.C29.Spec

/-- crash points are exactly the prefixes of the operation list -/
theorem crash_states_are_prefixes (ops : List Op) (st s : Store) :
    s ∈ states ops st ↔ ∃ k, k ≤ ops.length ∧ s = run (ops.take k) st := by
  simp only [states_eq_scanl, List.mem_iff_getElem, List.getElem_scanl, List.length_scanl, Nat.lt_succ_iff]
  exact ⟨fun ⟨k, hk, e⟩ => ⟨k, hk, e.symm⟩, fun ⟨k, hk, e⟩ => ⟨k, hk, e.symm⟩⟩

/-- **vdb install**: whatever is in the category (including a leftover `.tmp.` directory of an interrupted
run), every crash point lists the old packages or the old packages plus the complete new entry. -/
theorem vdb_install_crash_consistent (st : Store) (name : Name) (files : List (Name × Content))
    (hn : hiddenVdb name = false) (habs : st name = none) (hok : ∀ c, st (tmpOf name) ≠ some (.file c)) :
    CrashConsistent viewVdb (vdbInstall st name files) st (addPkg (viewVdb st) name (written files)) := by
  rw [viewVdb_eq_viewOf]
  exact crashConsistent_rename_in _ [.noop _] _ _ st _ _ (addData_within _ st name files (hiddenVdb_tmpOf name))
    (within_noop _ _) (hiddenVdb_tmpOf name) hn (addData_run st name files hok) (by rw [habs]; rfl) rfl

/-- **vdb uninstall**: every crash point lists the complete old entry or no entry (never a partly removed one) -/
theorem vdb_uninstall_crash_consistent (st : Store) (name : Name) (fs : List (Name × Content))
    (hn : hiddenVdb name = false) (h0 : st name = some (.dir fs)) (hok : ∀ c, st (hidOf name) ≠ some (.file c)) :
    CrashConsistent viewVdb (vdbUninstall st name) st (removePkg (viewVdb st) name) :=
  (uninstallFinalize_crashConsistent st st name fs hn h0 rfl hok).append_quiet
    (viewVdb_eq_viewOf ▸ quiet_of_within _ (within_noop _ _))

/-- **binpkg install / uninstall / same-version replace**: old or new at every crash point -/
theorem binpkg_install_crash_consistent (st : Store) (tmp final : Name) (pre : List Content) (c : Content)
    (ht : hiddenBin tmp = true) (hf : hiddenBin final = false) (habs : st final = none)
    (hnd : ∀ fs, st tmp ≠ some (.dir fs)) :
    CrashConsistent viewBin (binInstall tmp final pre c) st (addPkg (viewBin st) final c) := by
  rw [viewBin_eq_viewOf]
  exact crashConsistent_rename_in _ [] _ _ st _ _ (binAddData_within _ tmp ht pre c) (List.forall_mem_nil _) ht hf
    (binAddData_run st tmp pre c hnd) (by rw [habs]; rfl) rfl

/-- **binpkg uninstall** is one `unlink`: the old tarball or none at every crash point -/
theorem binpkg_uninstall_crash_consistent (st : Store) (final : Name) (c0 : Content) (h0 : st final = some (.file c0)) :
    CrashConsistent viewBin (binUninstall final) st (removePkg (viewBin st) final) := by
  rw [viewBin_eq_viewOf]
  exact crashConsistent_unlink _ final st c0 (within_noop _ _) h0

/-- **binpkg replace by the same version**: the rename over the old tarball is the one commit point, so a reader finds
the old tarball or the new one, never none -/
theorem binpkg_replace_same_version_crash_consistent (st : Store) (tmp name : Name) (pre : List Content) (c c0 : Content)
    (ht : hiddenBin tmp = true) (hf : hiddenBin name = false) (h0 : st name = some (.file c0))
    (hnd : ∀ fs, st tmp ≠ some (.dir fs)) :
    CrashConsistent viewBin (binReplace tmp name name pre c) st (addPkg (viewBin st) name c) :=
  binReplace_same_crashConsistent st tmp name pre c ht hf hnd (by rw [h0]; rfl)

/-- the entry that becomes visible holds exactly the metadata files handed to `add_data` (distinct file names) -/
theorem new_entry_is_exactly_the_metadata (files : List (Name × Content)) (hd : (files.map (·.1)).Nodup) :
    written files = files :=
  Lib.foldl_fresh Prod.fst (fun fs p hp => by
    rw [setFile_fresh (e := (p.1, [])) hp, setFile_last fs p.1 p.2 [] hp])
    files [] hd

/-- the temp names the code uses are hidden from the listings, for every package name and pid -/
theorem temp_names_hidden (n : Name) (pid : List Char) :
    hiddenVdb (tmpOf n) = true ∧ hiddenVdb (hidOf n) = true ∧ hiddenBin (binTmpOf pid n) = true :=
  ⟨hiddenVdb_tmpOf n, hiddenVdb_hidOf n, hiddenBin_binTmpOf pid n⟩

/-- the statement `repo_update_crash_consistent` of the design, for the routines where it holds in full:
every crash point of install and uninstall (vdb, binpkg) and of a same-version binpkg replace shows the old
or the new state. -/
theorem repo_update_crash_consistent (st : Store) (name : Name) :
    (∀ files, hiddenVdb name = false → st name = none → (∀ c, st (tmpOf name) ≠ some (.file c)) →
      CrashConsistent viewVdb (vdbInstall st name files) st (addPkg (viewVdb st) name (written files))) ∧
    (∀ fs, hiddenVdb name = false → st name = some (.dir fs) → (∀ c, st (hidOf name) ≠ some (.file c)) →
      CrashConsistent viewVdb (vdbUninstall st name) st (removePkg (viewVdb st) name)) ∧
    (∀ pid pre c, hiddenBin name = false → st name = none → (∀ fs, st (binTmpOf pid name) ≠ some (.dir fs)) →
      CrashConsistent viewBin (binInstall (binTmpOf pid name) name pre c) st (addPkg (viewBin st) name c)) ∧
    (∀ c0, st name = some (.file c0) →
      CrashConsistent viewBin (binUninstall name) st (removePkg (viewBin st) name)) ∧
    (∀ pid pre c c0, hiddenBin name = false → st name = some (.file c0) → (∀ fs, st (binTmpOf pid name) ≠ some (.dir fs)) →
      CrashConsistent viewBin (binReplace (binTmpOf pid name) name name pre c) st (addPkg (viewBin st) name c)) :=
  ⟨fun files => vdb_install_crash_consistent st name files,
   fun fs => vdb_uninstall_crash_consistent st name fs,
   fun pid pre c => binpkg_install_crash_consistent st _ name pre c (hiddenBin_binTmpOf pid name),
   fun c0 => binpkg_uninstall_crash_consistent st name c0,
   fun pid pre c c0 => binpkg_replace_same_version_crash_consistent st _ name pre c c0 (hiddenBin_binTmpOf pid name)⟩

/-! Concrete instances (non-vacuity): a category with package directory `a` (two metadata files) and a leftover
temp directory of an interrupted install of `b`. -/

def exStore : Store := fun n =>
  if n = ['a'] then some (.dir [(['S'], ['0']), (['D'], ['x'])])
  else if n = tmpOf ['b'] then some (.dir [(['N'], ['s', 't', 'a', 'l', 'e'])])
  else none

example : hiddenVdb ['b'] = false ∧ exStore ['b'] = none ∧ ∀ c, exStore (tmpOf ['b']) ≠ some (.file c) :=
  ⟨by decide +kernel, by decide +kernel, by intro c h; simp [exStore, tmpOf, tmpPrefix] at h⟩
example : viewVdb (run (vdbInstall exStore ['b'] [(['S'], ['1'])]) exStore) ['b'] = some [(['S'], ['1'])] := by
  decide +kernel
example : hiddenVdb ['a'] = false ∧ exStore ['a'] = some (.dir [(['S'], ['0']), (['D'], ['x'])]) :=
  ⟨by decide +kernel, by decide +kernel⟩
example : viewVdb (run (vdbUninstall exStore ['a']) exStore) ['a'] = none := by decide +kernel

/- Full statement (FALSE for both replace shapes below, see the `_counterexample`/`_gap` theorems):
   `CrashConsistent viewVdb (vdbReplace st old new files) st newView`. -/

/-- **vdb replace by another version** (partial): every crash point shows the old state, the new state, or —
between the two renames — both complete entries; never none of them, never a partial entry. -/
theorem vdb_replace_crash_consistent_partial (st : Store) (old new : Name) (files fsO : List (Name × Content))
    (hne : old ≠ new) (ho : hiddenVdb old = false) (hn : hiddenVdb new = false)
    (h0 : st old = some (.dir fsO)) (habs : st new = none)
    (hokT : ∀ c, st (tmpOf new) ≠ some (.file c)) (hokH : ∀ c, st (hidOf old) ≠ some (.file c))
    (hth : hidOf old ≠ tmpOf new) :
    CrashConsistentVia viewVdb (vdbReplace st old new files) st
      (addPkg (viewVdb st) new (written files))
      (removePkg (addPkg (viewVdb st) new (written files)) old) := by
  -- install the new entry, then uninstall the old one as planned at the start
  have hshape : vdbReplace st old new files = vdbInstall st new files ++ vdbUninstallFinalize st old := by
    simp only [vdbReplace, hne, if_false, vdbInstall, List.append_assoc]
  have hI := vdb_install_crash_consistent st new files hn habs hokT
  have hU := uninstallFinalize_crashConsistent st _ old fsO ho
    ((install_frame st new files old (Lib.ne_of_class (hiddenVdb_tmpOf new) ho).symm hne).trans h0)
    (install_frame st new files _ hth (Lib.ne_of_class (hiddenVdb_hidOf old) hn)) hokH
  rw [hI.2] at hU
  exact hshape ▸ hI.seq hU

/-- … and in that window the package is never unlisted: at every crash point the old or the new entry is there, complete -/
theorem vdb_replace_never_neither (st : Store) (old new : Name) (files fsO : List (Name × Content))
    (hne : old ≠ new) (ho : hiddenVdb old = false) (hn : hiddenVdb new = false)
    (h0 : st old = some (.dir fsO)) (habs : st new = none)
    (hokT : ∀ c, st (tmpOf new) ≠ some (.file c)) (hokH : ∀ c, st (hidOf old) ≠ some (.file c))
    (hth : hidOf old ≠ tmpOf new) :
    ∀ s ∈ states (vdbReplace st old new files) st,
      viewVdb s old = some fsO ∨ viewVdb s new = some (written files) := by
  intro s hs
  have hvo : viewVdb st old = some fsO := by simp [viewVdb, ho, h0]
  rcases (vdb_replace_crash_consistent_partial st old new files fsO hne ho hn h0 habs hokT hokH hth).1 s hs with
    h | h | h
  · left; rw [h, hvo]
  · right; rw [h]; simp [addPkg]
  · right; rw [h]; simp [removePkg, addPkg, hne.symm]

/-- **vdb replace by the same version** (partial): old, new, or — between the two renames — the package missing -/
theorem vdb_replace_same_version_partial (st : Store) (name : Name) (files fsO : List (Name × Content))
    (hn : hiddenVdb name = false) (h0 : st name = some (.dir fsO))
    (hokT : ∀ c, st (tmpOf name) ≠ some (.file c)) (hokH : ∀ c, st (hidOf name) ≠ some (.file c)) :
    CrashConsistentVia viewVdb (vdbReplace st name name files) st
      (removePkg (viewVdb st) name) (addPkg (viewVdb st) name (written files)) := by
  exact vdbReplace_same_shape st name files ▸ (replaceSame_hide_crashConsistent st name files fsO hn h0 hokH).seq
    (replaceSame_renameIn_crashConsistent st name files fsO hn h0 hokH hokT)

/-- the full statement is false for a same-version vdb replace — for *every* input there is a crash point at
which the package is not listed (open finding `C29-vdb-replace-same-version-gap`: two directories cannot
be exchanged with one `rename`) -/
theorem vdb_replace_same_version_gap (st : Store) (name : Name) (files fsO : List (Name × Content))
    (hn : hiddenVdb name = false) (h0 : st name = some (.dir fsO))
    (hokT : ∀ c, st (tmpOf name) ≠ some (.file c)) (hokH : ∀ c, st (hidOf name) ≠ some (.file c)) :
    ∃ s ∈ states (vdbReplace st name name files) st, viewVdb s name = none := by
  refine ⟨_, vdbReplace_same_shape st name files ▸ (mem_states_append _ _ st _).2 (Or.inl (run_mem_states _ st)), ?_⟩
  rw [(replaceSame_hide_crashConsistent st name files fsO hn h0 hokH).2]
  exact if_pos rfl

/-- … on the example store: after 7 of the operations `a` is not listed, though it was before and is at the end -/
theorem vdb_replace_same_version_counterexample :
    viewVdb (run ((vdbReplace exStore ['a'] ['a'] [(['S'], ['1'])]).take 7) exStore) ['a'] = none ∧
    viewVdb exStore ['a'] ≠ none ∧
    viewVdb (run (vdbReplace exStore ['a'] ['a'] [(['S'], ['1'])]) exStore) ['a'] = some [(['S'], ['1'])] := by
  decide +kernel

/-- the window of a different-version replace really shows both (open finding `C29-replace-other-version-both`) -/
theorem vdb_replace_other_version_counterexample :
    let s := run ((vdbReplace exStore ['a'] ['b'] [(['S'], ['1'])]).take 9) exStore
    viewVdb s ['a'] ≠ none ∧ viewVdb s ['b'] = some [(['S'], ['1'])] ∧
    viewVdb (run (vdbReplace exStore ['a'] ['b'] [(['S'], ['1'])]) exStore) ['a'] = none := by decide +kernel

/-- **binpkg replace by another version** (partial): old, both tarballs, or new -/
theorem binpkg_replace_crash_consistent_partial (st : Store) (tmp old new : Name) (pre : List Content) (c cO : Content)
    (hne : old ≠ new) (ht : hiddenBin tmp = true) (hn : hiddenBin new = false) (ho : hiddenBin old = false)
    (h0 : st old = some (.file cO)) (habs : st new = none) (hnd : ∀ fs, st tmp ≠ some (.dir fs)) :
    CrashConsistentVia viewBin (binReplace tmp old new pre c) st
      (addPkg (viewBin st) new c) (removePkg (addPkg (viewBin st) new c) old) := by
  -- the same-version routine for `new`, then the unlink of the old tarball, which that routine did not touch
  have hshape : binReplace tmp old new pre c = binReplace tmp new new pre c ++ [.unlink old] := by
    simp only [binReplace, hne, if_false, if_true, List.append_nil]
  have hI := binReplace_same_crashConsistent st tmp new pre c ht hn hnd (by rw [habs]; rfl)
  have hU : CrashConsistent viewBin [.unlink old] (run (binReplace tmp new new pre c) st) _ :=
    viewBin_eq_viewOf ▸ crashConsistent_unlink [] old _ cO (List.forall_mem_nil _)
      ((binReplace_same_frame st tmp new pre c old (Lib.ne_of_class ht ho).symm hne).trans h0)
  rw [hI.2] at hU
  exact hshape ▸ hI.seq hU

def exBin : Store := fun n => if n = "a-1.tbz2".toList then some (.file ['o', 'l', 'd']) else none

example : hiddenBin "a-1.tbz2".toList = false ∧ hiddenBin "a-2.tbz2".toList = false ∧ hiddenBin (binTmpOf ['7'] "a-2.tbz2".toList) = true := by
  decide +kernel

/-- the window of a different-version binpkg replace really shows both tarballs (after 6 of the operations), the
completed replace only the new one -/
theorem binpkg_replace_other_version_counterexample :
    let ops := binReplace (binTmpOf ['7'] "a-2.tbz2".toList) "a-1.tbz2".toList "a-2.tbz2".toList [[]] ['n', 'e', 'w']
    let s := run (ops.take 6) exBin
    viewBin s "a-1.tbz2".toList = some ['o', 'l', 'd'] ∧ viewBin s "a-2.tbz2".toList = some ['n', 'e', 'w'] ∧
    viewBin (run ops exBin) "a-1.tbz2".toList = none ∧ viewBin (run ops exBin) "a-2.tbz2".toList = some ['n', 'e', 'w'] := by
  decide +kernel

/-! ## the defects repaired by the `fix:` commits, on the routines as they were -/

/-- `shutil.rmtree` on the live entry: a crash point lists the package with one of its two metadata files gone -/
theorem vdb_uninstall_unfixed_counterexample :
    viewVdb (run ((vdbUninstallUnfixed exStore ['a']).take 2) exStore) ['a'] = some [(['D'], ['x'])] ∧
    viewVdb exStore ['a'] = some [(['S'], ['0']), (['D'], ['x'])] := by decide +kernel

/-- old `replace.finalize_data` (wipe old, then rename new in): a crash point lists neither version -/
theorem vdb_replace_unfixed_counterexample :
    let s := run ((vdbReplaceUnfixed exStore ['a'] ['c'] [(['S'], ['1'])]).take 9) exStore
    viewVdb s ['a'] = none ∧ viewVdb s ['c'] = none ∧
    viewVdb (run (vdbReplaceUnfixed exStore ['a'] ['c'] [(['S'], ['1'])]) exStore) ['c'] = some [(['S'], ['1'])] := by
  decide +kernel

/-- old binpkg `replace.finalize_data` (rename only): the *completed* replace still lists the replaced version -/
theorem binpkg_replace_unfixed_counterexample :
    let ops := binReplaceUnfixed (binTmpOf ['7'] "a-2.tbz2".toList) "a-2.tbz2".toList [[]] ['n', 'e', 'w']
    viewBin (run ops exBin) "a-1.tbz2".toList = some ['o', 'l', 'd'] ∧
    viewBin (run ops exBin) "a-2.tbz2".toList = some ['n', 'e', 'w'] := by decide +kernel

end Pkgcore.C29
