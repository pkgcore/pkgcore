import Pkgcore.Proofs.C18Fs
/-!
# C18 — the code fragments of a merge

For each fragment (`unlink_if_exists`, the build of one object, `copyfile`, `do_link`, one directory entry) one
contract (`Frag`) about a run with **any** outcome.  `ensure_dirs` returns a flag, not an exception: for it the states
it passes through only (`Traj`).
-/
namespace Pkgcore.C18
open Pkgcore.C18.Spec

def OffEq (base : Fs) (fp : Path) (f : Fs) : Prop := ∀ q, q ≠ fp → f.view q = base.view q

/-- The object being built at `fp` is `nd` on inode `n`, every other path is as in `base`, and no other path of
`base` (hence of `fs`) carries `n`: a data or metadata call on `fp` changes `nd` and nothing else (`SoloAt.upd`). -/
structure SoloAt (base : Fs) (fp : Path) (n : Nat) (nd : Inode) (fs : Fs) : Prop where
  here : fs.view fp = some (n, nd)
  off : OffEq base fp fs
  alone : ∀ q, q ≠ fp → ∀ j nd', base.view q = some (j, nd') → j ≠ n

theorem SoloAt.upd {fs base : Fs} {fp : Path} {n : Nat} {nd : Inode} (h : SoloAt base fp n nd fs) (f : Inode → Inode) :
    SoloAt base fp n (f nd) (fs.updIno n f) := by
  refine ⟨view_updIno_self h.here f, ?_, h.alone⟩
  intro q hq
  rw [← h.off q hq]
  apply view_updIno_of_ne_ino
  intro j nd' hv
  rw [h.off q hq] at hv
  exact h.alone q hq j nd' hv

theorem SoloAt.alloc {base : Fs} (hwf : base.WF1) (fp : Path) (nd : Inode) :
    SoloAt base fp base.next nd (base.alloc fp nd) :=
  ⟨by simp, fun q hq => by simp [hq], fun q _ j nd' hv => Nat.ne_of_lt (hwf q j nd' hv)⟩

/-- what a data or metadata call does to the inode it reaches -/
def Op.upd : Op → Inode → Inode
  | .creat _ _, n => { n with kind := .file "", mtime := 0 }
  | .write _ data, n =>
    match n.kind with
    | .file d => { n with kind := .file (d ++ data), mtime := 0 }
    | _ => n
  | .lchown _ u g, n => { n with uid := u, gid := g }
  | .chmod _ m, n => { n with mode := m }
  | .utime _ t _, n => if n.kind = .dir then n else { n with mtime := t }
  | _, n => n

def Op.UpdatesAt (fp : Path) : Op → Prop
  | .creat p _ | .write p _ | .lchown p _ _ | .chmod p _ | .utime p _ _ => p = fp
  | _ => False

theorem SoloAt.step {env : Env} {f f' base : Fs} {fp : Path} {n : Nat} {nd : Inode} {op : Op}
    (h : SoloAt base fp n nd f) (hu : op.UpdatesAt fp) (hs : step env f op = .ok f') :
    SoloAt base fp n (op.upd nd) f' ∧ (nd.kind = .dir → (op.upd nd).kind = .dir) := by
  cases op <;> simp only [Op.UpdatesAt] at hu <;> try (exact absurd hu id)
  all_goals subst hu
  case creat p m =>
    obtain ⟨-, ⟨hv, -⟩ | ⟨i, nd0, d, hv, hk, rfl⟩⟩ := step_creat_ok hs
    · rw [h.here] at hv; cases hv
    · rw [h.here] at hv; cases hv
      exact ⟨h.upd _, fun hd => by rw [hd] at hk; cases hk⟩
  case write p data =>
    obtain ⟨i, nd0, d, hv, hk, rfl⟩ := step_write_ok hs
    rw [h.here] at hv; cases hv
    refine ⟨?_, fun hd => by rw [hd] at hk; cases hk⟩
    have := h.upd fun n => { n with kind := .file (d ++ data), mtime := 0 }
    simpa only [Op.upd, hk] using this
  case lchown p u g =>
    obtain ⟨i, nd0, hv, rfl⟩ := step_lchown_ok hs
    rw [h.here] at hv; cases hv
    exact ⟨h.upd _, id⟩
  case chmod p m =>
    obtain ⟨i, nd0, hv, -, rfl⟩ := step_chmod_ok hs
    rw [h.here] at hv; cases hv
    exact ⟨h.upd _, id⟩
  case utime p t fl =>
    obtain ⟨i, nd0, hv, ⟨hk, rfl⟩ | ⟨hk, rfl⟩⟩ := step_utime_ok hs
    · rw [h.here] at hv; cases hv
      have : Op.upd (.utime p t fl) nd = nd := by simp only [Op.upd, if_pos hk]
      rw [this]; exact ⟨h, id⟩
    · rw [h.here] at hv; cases hv
      have : Op.upd (.utime p t fl) nd = { nd with mtime := t } := by simp only [Op.upd, if_neg hk]
      rw [this]; exact ⟨h.upd fun n => { n with mtime := t }, fun hd => absurd hd hk⟩

/-- the directory clause of the trajectory predicate is for `mkdirPerms_spec`, whose crash states show a directory -/
theorem sysAll_solo {env : Env} {base : Fs} {fp : Path} {n : Nat} (ops : List Op) {s : St} {nd : Inode}
    (hu : ∀ op ∈ ops, op.UpdatesAt fp) (h0 : SoloAt base fp n nd s.fs) :
    Frag env (fun f => ∃ nd', SoloAt base fp n nd' f ∧ (nd.kind = .dir → nd'.kind = .dir))
      (fun s' => SoloAt base fp n (ops.foldl (fun a op => op.upd a) nd) s'.fs) s (s.sysAll env ops) := by
  induction ops generalizing s nd with
  | nil => exact (Traj.refl ⟨nd, h0, id⟩).ok h0
  | cons op ops ih =>
    refine Frag.sysAll_cons ⟨nd, h0, id⟩ fun s1 h1 => ?_
    obtain ⟨a1, k1⟩ := h0.step (hu op List.mem_cons_self) (St.sys_ok h1).1
    exact (ih (fun o ho => hu o (List.mem_cons_of_mem _ ho)) a1).mono
      fun f ⟨nd', g1, g2⟩ => ⟨nd', g1, fun hd => g2 (k1 hd)⟩

theorem inode_kind_ne_dir {x : Entry} (h : x.isDir = false) : x.inode.kind ≠ .dir := by
  obtain ⟨loc, kind, mode, uid, gid, mtime⟩ := x
  cases kind <;> simp_all [Entry.isDir, Entry.inode]

theorem permsOps_updatesAt (e : Entry) (fp : Path) : ∀ op ∈ permsOps e fp, op.UpdatesAt fp := by
  intro op hop
  unfold permsOps at hop
  split at hop
  all_goals
    simp only [List.mem_cons, List.not_mem_nil, or_false] at hop
    rcases hop with rfl | rfl | rfl
  all_goals rfl

/-- `ensure_perms` turns a freshly created object of the entry's kind into the recorded inode.  A symlink must have
been created with mode `0o777` and a directory with mtime 0: `permsOps` sets neither (directory mtimes are not
modelled). -/
theorem permsOps_fold (e : Entry) (fp : Path) (nd0 : Inode) (hk : nd0.kind = e.inode.kind)
    (hm : e.isSym = true → nd0.mode = 0o777) (ht : e.isDir = true → nd0.mtime = 0) :
    (permsOps e fp).foldl (fun a op => op.upd a) nd0 = e.inode := by
  obtain ⟨loc, kind, mode, uid, gid, mtime⟩ := e
  obtain ⟨k0, m0, u0, g0, t0⟩ := nd0
  cases kind with
  | dir => cases hk; cases ht rfl; rfl
  | sym t => cases hk; cases hm rfl; rfl
  | reg d k => cases hk; rfl
  | fifo => cases hk; rfl

/-- the calls that build a non-directory entry at `fp`: one creating call, which succeeds only below a directory and
puts an object (`nd0`) on a new inode, then data and metadata calls that turn that object into the recorded one -/
theorem buildOps_cons (env : Env) {e : Entry} (fp : Path) (hnd : e.isDir = false) :
    ∃ (c : Op) (ups : List Op) (nd0 : Fs → Inode), createOps env e fp ++ permsOps e fp = c :: ups ∧
      (∀ op ∈ ups, op.UpdatesAt fp) ∧ (∀ fs, ups.foldl (fun a op => op.upd a) (nd0 fs) = e.inode) ∧
      ∀ fs fs', step env fs c = .ok fs' →
        fs.parentErr fp = none ∧ (fs.view fp = none → fs' = fs.alloc fp (nd0 fs)) := by
  have hp := permsOps_updatesAt e fp
  obtain ⟨loc, kind, mode, uid, gid, mtime⟩ := e
  cases kind with
  | dir => simp [Entry.isDir] at hnd
  | sym t =>
    exact ⟨.symlink t fp, _, fun fs => ⟨.sym t, 0o777, env.uid, newGid env fs fp, 0⟩, rfl, hp,
      fun fs => permsOps_fold _ fp _ rfl (fun _ => rfl) (by simp [Entry.isDir]),
      fun fs fs' hs => ⟨(step_symlink_ok hs).1, fun _ => (step_symlink_ok hs).2.2⟩⟩
  | fifo =>
    exact ⟨.mkfifo fp (maskMode 0o666 env.umask), _,
      fun fs => ⟨.fifo, maskMode 0o666 env.umask, env.uid, newGid env fs fp, 0⟩, rfl, hp,
      fun fs => permsOps_fold _ fp _ rfl (by simp [Entry.isSym]) (by simp [Entry.isDir]),
      fun fs fs' hs => ⟨(step_mkfifo_ok hs).1, fun _ => (step_mkfifo_ok hs).2.2⟩⟩
  | reg d key =>
    refine ⟨.creat fp (maskMode 0o666 env.umask),
      (if d = "" then [] else [.write fp d]) ++ permsOps ⟨loc, .reg d key, mode, uid, gid, mtime⟩ fp,
      fun fs => ⟨.file "", maskMode 0o666 env.umask, env.uid, newGid env fs fp, 0⟩, ?_, ?_, fun fs => ?_,
      fun fs fs' hs => ?_⟩
    · simp only [createOps]; split <;> rfl
    · intro op hop
      rcases List.mem_append.mp hop with ho | ho
      · split at ho
        · cases ho
        · rw [List.mem_singleton.mp ho]; rfl
      · exact hp op ho
    · rw [List.foldl_append]
      refine permsOps_fold _ fp _ ?_ (by simp [Entry.isSym]) (by simp [Entry.isDir])
      split
      · next hd => rw [hd]; rfl
      · simp [Op.upd, Entry.inode]
    · obtain ⟨hpe, ⟨-, e1⟩ | ⟨i, nd1, d1, hv1, -⟩⟩ := step_creat_ok hs
      · exact ⟨hpe, fun _ => e1⟩
      · exact ⟨hpe, fun hv => by rw [hv] at hv1; cases hv1⟩

/-- `fp ≠ []`: at the root the creating call fails -/
theorem build_spec {env : Env} {s : St} {e : Entry} {fp : Path} (hnd : e.isDir = false) (hv : s.fs.view fp = none)
    (hwf : s.fs.WF1) :
    Frag env (OffEq s.fs fp) (fun s' => SoloAt s.fs fp s.fs.next e.inode s'.fs ∧ fp ≠ []) s
      (s.sysAll env (createOps env e fp ++ permsOps e fp)) := by
  obtain ⟨c, ups, nd0, hops, hu, hf, hc⟩ := buildOps_cons env fp hnd
  rw [hops]
  refine Frag.sysAll_cons (fun _ _ => rfl) fun s1 h1 => ?_
  obtain ⟨hpe, e1⟩ := hc _ _ (St.sys_ok h1).1
  have a1 := SoloAt.alloc hwf fp (nd0 s.fs)
  rw [← e1 hv] at a1
  exact (sysAll_solo ups hu a1).imp (fun f ⟨_, g, _⟩ => g.off) fun _ q => ⟨hf s.fs ▸ q, parentErr_none_ne_nil hpe⟩

/-- at the root the first call of a build fails -/
theorem build_root {env : Env} {s : St} {x : Entry} {P : Fs → Prop} {Q : St → Prop} (hnd : x.isDir = false)
    (h0 : P s.fs) : Frag env P Q s (s.sysAll env (createOps env x [] ++ permsOps x [])) := by
  obtain ⟨c, ups, nd0, hops, -, -, hc⟩ := buildOps_cons env [] hnd
  rw [hops]
  exact Frag.sysAll_cons h0 fun s1 h1 => absurd rfl (parentErr_none_ne_nil (hc _ _ (St.sys_ok h1).1).1)

/-- the log clause is for the unmerge loop of C20 -/
theorem unlinkIfExists_spec {env : Env} {s : St} {p : Path} :
    Frag env (OffEq s.fs p)
      (fun s' => (∀ q, s'.fs.view q = if q = p then none else s.fs.view q) ∧ s'.fs.next = s.fs.next ∧
        ∃ e, s'.log = s.log ++ [(.unlink p, e)]) s
      (unlinkIfExists env s p) := by
  have base0 : OffEq s.fs p s.fs := fun _ _ => rfl
  unfold unlinkIfExists
  split
  · next s1 hsys =>
    obtain ⟨i, nd, -, -, e1⟩ := step_unlink_ok (St.sys_ok hsys).1
    have hv : ∀ q, s1.fs.view q = if q = p then none else s.fs.view q := by intro q; rw [e1]; simp
    exact (Traj.sys hsys base0 fun _ q hq => by rw [hv, if_neg hq]).ok ⟨hv, by rw [e1]; rfl, _, (St.sys_ok hsys).2⟩
  · next s1 hsys =>
    obtain ⟨e1, e2, e3⟩ := St.sys_err hsys
    refine (Traj.sys_err hsys base0).ok ⟨fun q => ?_, by rw [e2], _, e3⟩
    rw [e2]; split
    · next hq => rw [hq, step_unlink_ENOENT e1]
    · rfl
  · next s1 e _ hsys => exact (Traj.sys_err hsys base0).error _

/-- trajectory predicate of `ensure_dirs`: only missing paths of the walked list appear, as directories on
inodes that did not exist -/
def EnsP (base : Fs) (l : List Path) (f : Fs) : Prop :=
  ∀ q, f.view q = base.view q ∨
    (base.view q = none ∧ q ∈ l ∧ ∃ j nd, f.view q = some (j, nd) ∧ nd.kind = .dir ∧ base.next ≤ j)

theorem EnsP.trans {b m f : Fs} {l l' : List Path} (h1 : EnsP b l m) (hn : b.next ≤ m.next) (hl : ∀ q ∈ l', q ∈ l)
    (h2 : EnsP m l' f) : EnsP b l f := by
  intro q
  rcases h2 q with e | ⟨hn0, hm, j, nd, hv, hk, hj⟩
  · rw [e]; exact h1 q
  · rcases h1 q with e | ⟨_, _, j', nd', hv', _⟩
    · exact Or.inr ⟨e ▸ hn0, hl q hm, j, nd, hv, hk, Nat.le_trans hn hj⟩
    · rw [hn0] at hv'; cases hv'

theorem ensureDirsWalk_traj {env : Env} (l : List Path) (s : St) :
    Traj env (EnsP s.fs l) s (ensureDirsWalk env s l).1 := by
  induction l generalizing s with
  | nil => exact Traj.refl (fun q => Or.inl rfl)
  | cons a rest ih =>
    have base0 : EnsP s.fs (a :: rest) s.fs := fun q => Or.inl rfl
    rw [ensureDirsWalk]
    split
    · split
      · exact (ih s).mono fun f => EnsP.trans base0 (Nat.le_refl _) fun q => List.mem_cons_of_mem _
      · exact Traj.refl base0
    · split
      · next s1 hsys =>
        obtain ⟨-, hva, e1⟩ := step_mkdir_ok (St.sys_ok hsys).1
        have p1 : EnsP s.fs (a :: rest) s1.fs := by
          intro q
          rw [e1, Fs.view_alloc]
          by_cases hq : q = a
          · subst hq
            exact Or.inr ⟨hva, List.mem_cons_self, s.fs.next, _, if_pos rfl, rfl, Nat.le_refl _⟩
          · simp [hq]
        exact (Traj.sys hsys base0 fun _ => p1).trans
          ((ih s1).mono fun f => EnsP.trans p1 (by rw [e1]; simp) fun q => List.mem_cons_of_mem _)
      · next s1 e hsys => exact Traj.sys_err hsys base0

/-- the `resets` step of `ensure_dirs`, which re-applies the mode to the directory it has just made -/
theorem ensP_chmod {env : Env} {base f f' : Fs} {l : List Path} {p : Path} {m : Nat} (hwf : base.WF1)
    (hp : base.view p = none) (h : EnsP base l f) (hs : step env f (.chmod p m) = .ok f') : EnsP base l f' := by
  obtain ⟨i, nd, hv, -, rfl⟩ := step_chmod_ok hs
  have hi : base.next ≤ i := by
    rcases h p with h1 | ⟨_, _, j, nd', h3, _, h5⟩
    · rw [hv, hp] at h1; cases h1
    · rw [hv] at h3; cases h3; exact h5
  intro q
  rcases h q with h1 | ⟨h1, h2, j, nd', h3, h4, h5⟩
  · left
    rw [← h1]
    exact view_updIno_of_ne_ino fun j ndq hj => Nat.ne_of_lt (Nat.lt_of_lt_of_le (hwf q j ndq (h1 ▸ hj)) hi)
  · refine Or.inr ⟨h1, h2, j, if j = i then { nd' with mode := m } else nd', ?_, ?_, h5⟩
    · rw [Fs.view_updIno, h3]
      simp only [Option.map_some]
      split <;> rfl
    · split <;> exact h4

theorem ensureDirs_traj {env : Env} {p : Path} {s : St} (hwf : s.fs.WF1) :
    Traj env (EnsP s.fs (ancestorsIncl p)) s (ensureDirs env s p).1 := by
  unfold ensureDirs
  have t1 := ensureDirsWalk_traj (env := env) (ancestorsIncl p) s
  split
  · next s1 hw =>
    rw [hw] at t1
    split
    · next hc =>
      split
      · next s2 hsys =>
        exact t1.trans (Traj.sys hsys t1.final fun _ => ensP_chmod hwf hc.1 t1.final (St.sys_ok hsys).1)
      · next s2 e hsys => exact t1.trans (Traj.sys_err hsys t1.final)
    · exact t1
  · next s1 hw => rw [hw] at t1; exact t1

/-- what a crash may observe at the location of a directory entry `x` that is being merged from `base`, where `base`
has something: the old inode, kept as `Spec.KeptLink` says (in C19: `KeptAt`); over a symlink also nothing or a new
directory (in C19: `WindowAt`).  A free location is the first case of `EntryAt`. -/
def DirAt (base : Fs) (x : Entry) (v : Option (Nat × Inode)) : Prop :=
  (∃ i nd, base.view x.loc = some (i, nd) ∧ ∃ nd', v = some (i, nd') ∧ nd'.kind = nd.kind ∧ nd'.mode = nd.mode ∧
      nd'.mtime = nd.mtime ∧ ((nd'.uid = nd.uid ∧ nd'.gid = nd.gid) ∨ (nd'.uid = x.uid ∧ nd'.gid = x.gid)))
  ∨ ((∃ i nd t, base.view x.loc = some (i, nd) ∧ nd.kind = .sym t) ∧
      (v = none ∨ ∃ j nd', v = some (j, nd') ∧ nd'.kind = .dir))

theorem dirAt_base_congr {b b' : Fs} {x : Entry} {v : Option (Nat × Inode)} (h : b.view x.loc = b'.view x.loc)
    (hd : DirAt b x v) : DirAt b' x v := by
  unfold DirAt at *
  rw [← h]; exact hd

/-- what merging the entry `x` from `base` may show at the path `q`, besides what `base` has there: something where a
missing parent (or the location) was; for a non-directory anything at its `'#new'` sibling and the recorded inode at
its location; for a directory `DirAt` at its location -/
def EntryAt (base : Fs) (x : Entry) (q : Path) (v : Option (Nat × Inode)) : Prop :=
  (base.view q = none ∧ q <:+ x.loc)
  ∨ (x.isDir = false ∧ (q = tmpOf x.loc ∨ (q = x.loc ∧ ∃ j, v = some (j, x.inode))))
  ∨ (x.isDir = true ∧ q = x.loc ∧ DirAt base x v)

/-- what a crash may observe while the entry `x` is being merged from state `base` -/
def Merging (base : Fs) (x : Entry) (f : Fs) : Prop := ∀ q, f.view q = base.view q ∨ EntryAt base x q (f.view q)

theorem merging_of_offEq_tmp {base f : Fs} {x : Entry} (hnd : x.isDir = false) (h : OffEq base (tmpOf x.loc) f) :
    Merging base x f := by
  intro q
  by_cases h2 : q = tmpOf x.loc
  · exact Or.inr (Or.inr (Or.inl ⟨hnd, Or.inl h2⟩))
  · exact Or.inl (h q h2)

theorem merging_of_offEq_loc {base f : Fs} {x : Entry} (h : OffEq base x.loc f)
    (hx : EntryAt base x x.loc (f.view x.loc)) : Merging base x f := by
  intro q
  by_cases hq : q = x.loc
  · exact Or.inr (hq ▸ hx)
  · exact Or.inl (h q hq)

/-- the view after the entry `x` was put at its location on inode `j`: when the location was taken its `'#new'`
sibling was used for the replacement and is gone -/
def placedView (base : Fs) (x : Entry) (j : Nat) (q : Path) : Option (Nat × Inode) :=
  if q = x.loc then some (j, x.inode)
  else if q = tmpOf x.loc ∧ base.view x.loc ≠ none then none else base.view q

theorem merging_of_view {base f : Fs} {x : Entry} {j : Nat} (hnd : x.isDir = false)
    (hv : ∀ q, f.view q = placedView base x j q) : Merging base x f := by
  intro q; rw [hv, placedView]
  by_cases h1 : q = x.loc
  · exact Or.inr (Or.inr (Or.inl ⟨hnd, Or.inr ⟨h1, j, if_pos h1⟩⟩))
  · by_cases h2 : q = tmpOf x.loc ∧ base.view x.loc ≠ none
    · exact Or.inr (Or.inr (Or.inl ⟨hnd, Or.inl h2.1⟩))
    · exact Or.inl (by rw [if_neg h1, if_neg h2])

/-- the last call of a replace-by-rename.  `hino`: `rename` does nothing when both names are one inode. -/
theorem rename_tmp {env : Env} {base f f' : Fs} {loc : Path} {i : Nat} {nd : Inode}
    (hoff : OffEq base (tmpOf loc) f) (hne : tmpOf loc ≠ loc) (htmp : f.view (tmpOf loc) = some (i, nd))
    (hino : ∀ j nd', base.view loc = some (j, nd') → j ≠ i)
    (hs : step env f (.rename (tmpOf loc) loc) = .ok f') :
    ∀ q, f'.view q = if q = loc then some (i, nd) else if q = tmpOf loc then none else base.view q := by
  obtain ⟨i', nd', hsrc, -, -, ⟨⟨nd'', hd⟩, -⟩ | ⟨-, rfl⟩⟩ := step_rename_ok hs
  · rw [htmp] at hsrc; cases hsrc
    rw [hoff _ (Ne.symm hne)] at hd
    exact absurd rfl (hino _ _ hd)
  · rw [htmp] at hsrc; cases hsrc
    intro q
    simp only [Fs.view_put, Fs.view_del]
    split
    · rfl
    · split
      · rfl
      · next h2 => exact hoff q h2

/-- `copyfile` (or `do_link`) has put the non-directory entry `x` at its location on an inode numbered at least `lo`
(the allocation counter before the merge, so the inode is not one of `pre`): what else may have changed (`frame`,
`parents`: missing parent directories made on the way), what became of the `'#new'` sibling (another path: `locNe`),
and that every inode in sight is an old one at its old path or a new one (`fresh`) -/
structure CopyPost (lo : Nat) (s s' : St) (x : Entry) : Prop where
  placed : ∃ j, s'.fs.view x.loc = some (j, x.inode) ∧ lo ≤ j
  frame : ∀ q, q ≠ x.loc → q ≠ tmpOf x.loc → ¬ (s.fs.view q = none ∧ ProperAnc q x.loc) → s'.fs.view q = s.fs.view q
  parents : ∀ q, s.fs.view q = none → ProperAnc q x.loc →
    s'.fs.view q = none ∨ ∃ j nd, s'.fs.view q = some (j, nd) ∧ nd.kind = .dir
  tmpGone : s.fs.view x.loc ≠ none → s'.fs.view (tmpOf x.loc) = none
  tmpKept : s.fs.view x.loc = none → s'.fs.view (tmpOf x.loc) = s.fs.view (tmpOf x.loc)
  locNe : x.loc ≠ []
  fresh : ∀ q i nd, s'.fs.view q = some (i, nd) → s.fs.view q = some (i, nd) ∨ lo ≤ i

theorem CopyPost.mono {lo lo' : Nat} {s s' : St} {x : Entry} (hl : lo' ≤ lo) (p : CopyPost lo s s' x) :
    CopyPost lo' s s' x := by
  obtain ⟨⟨j, h1, h2⟩, h3, h4, h5, h6, h7, h8⟩ := p
  refine ⟨⟨j, h1, Nat.le_trans hl h2⟩, h3, h4, h5, h6, h7, ?_⟩
  intro q i nd hq
  rcases h8 q i nd hq with h | h
  · exact Or.inl h
  · exact Or.inr (Nat.le_trans hl h)

theorem CopyPost.of_replace {lo : Nat} {s s' : St} {x : Entry} {j : Nat} (hloc : x.loc ≠ []) (hj : lo ≤ j)
    (hv : ∀ q, s'.fs.view q = placedView s.fs x j q) : CopyPost lo s s' x := by
  simp only [placedView] at hv
  have hne : tmpOf x.loc ≠ x.loc := tmpOf_ne hloc
  refine ⟨⟨j, by rw [hv, if_pos rfl], hj⟩, ?_, ?_, ?_, ?_, hloc, ?_⟩
  · intro q h1 h2 _
    have h3 : ¬ (q = tmpOf x.loc ∧ s.fs.view x.loc ≠ none) := fun h => h2 h.1
    rw [hv, if_neg h1, if_neg h3]
  · intro q hq hanc
    have h3 : ¬ (q = tmpOf x.loc ∧ s.fs.view x.loc ≠ none) := fun h => tmpOf_not_properAnc x.loc (h.1 ▸ hanc)
    left
    rw [hv, if_neg hanc.1, if_neg h3, hq]
  · intro h0; rw [hv, if_neg hne, if_pos ⟨rfl, h0⟩]
  · intro h0
    have h3 : ¬ (tmpOf x.loc = tmpOf x.loc ∧ s.fs.view x.loc ≠ none) := fun h => h.2 h0
    rw [hv, if_neg hne, if_neg h3]
  · intro q i nd hq
    rw [hv] at hq
    split at hq
    · cases hq; exact Or.inr hj
    · split at hq
      · cases hq
      · exact Or.inl hq

/-- the entry was built at its free location (`b1`) after missing proper ancestors had been made (`e1`) -/
theorem CopyPost.of_free {s s1 s' : St} {x : Entry} {l : List Path} (hloc : x.loc ≠ []) (hv : s.fs.view x.loc = none)
    (hl : ∀ q ∈ l, ProperAnc q x.loc) (e1 : EnsP s.fs l s1.fs) (hn : s.fs.next ≤ s1.fs.next)
    (b1 : SoloAt s1.fs x.loc s1.fs.next x.inode s'.fs) : CopyPost s.fs.next s s' x := by
  have hsame : ∀ q, ¬ (s.fs.view q = none ∧ ProperAnc q x.loc) → s1.fs.view q = s.fs.view q := by
    intro q hq
    rcases e1 q with h1 | ⟨h1, h2, _⟩
    · exact h1
    · exact absurd ⟨h1, hl q h2⟩ hq
  refine ⟨⟨s1.fs.next, b1.here, hn⟩, ?_, ?_, ?_, ?_, hloc, ?_⟩
  · intro q h1 _ h3
    rw [b1.off q h1, hsame q h3]
  · intro q hq hpa
    rw [b1.off q hpa.1]
    rcases e1 q with h1 | ⟨_, _, j, nd, h3, h4, _⟩
    · left; rw [h1, hq]
    · right; exact ⟨j, nd, h3, h4⟩
  · intro h0; exact absurd hv h0
  · intro _
    rw [b1.off _ (tmpOf_ne hloc)]
    apply hsame
    rintro ⟨_, h2⟩
    exact tmpOf_not_properAnc _ h2
  · intro q i nd hq
    by_cases h1 : q = x.loc
    · rw [h1, b1.here] at hq; cases hq; exact Or.inr hn
    · rw [b1.off q h1] at hq
      rcases e1 q with h2 | ⟨_, _, j, nd', h3, _, h5⟩
      · rw [h2] at hq; exact Or.inl hq
      · rw [h3] at hq; cases hq; exact Or.inr h5

theorem copyfile_spec {env : Env} {s : St} {x : Entry} (hnd : x.isDir = false) (hwf : s.fs.WF) :
    Frag env (Merging s.fs x) (fun s' => CopyPost s.fs.next s s' x) s (copyfile env s x) := by
  -- Along the code.  Something at the location: a directory is refused; otherwise unlink the `'#new'` sibling, build
  -- there, rename over the location (`rename_tmp`, `CopyPost.of_replace`).  Nothing there: `ensure_dirs` for the
  -- parent (`EnsP`), then build at the location itself (`CopyPost.of_free`).
  have base0 : Merging s.fs x s.fs := fun q => Or.inl rfl
  unfold copyfile
  split
  · next i0 nd0 hv =>
    split
    · exact (Traj.refl base0).error _
    · refine (unlinkIfExists_spec.mono fun f hf => merging_of_offEq_tmp hnd hf).seq' fun s1 t1 ⟨u1, u2, _⟩ => ?_
      have hv1 : s1.fs.view (tmpOf x.loc) = none := by rw [u1]; simp
      refine Frag.sysAll_append
        ((build_spec hnd hv1 (t1.WF hwf).1.lt).mono fun f hf =>
          merging_of_offEq_tmp hnd fun q hq => by rw [hf q hq, u1, if_neg hq])
        fun s2 t2 ⟨b1, b4⟩ => Frag.sysAll_cons t2.final fun s3 h3 => ?_
      have hloc : x.loc ≠ [] := fun e0 => b4 (by rw [e0]; rfl)
      have hv3 := rename_tmp (base := s.fs) (fun q hq => by rw [b1.off q hq, u1, if_neg hq]) (tmpOf_ne hloc) b1.here
        (fun j nd' hj => by rw [hv] at hj; cases hj; rw [u2]; exact Nat.ne_of_lt (hwf.lt _ _ _ hv))
        (St.sys_ok h3).1
      have hv4 : ∀ q, s3.fs.view q = placedView s.fs x s1.fs.next q :=
        fun q => by rw [hv3, placedView]; simp [hv]
      exact (Traj.refl (merging_of_view hnd hv4)).ok (CopyPost.of_replace hloc (Nat.le_of_eq u2.symm) hv4)
  · next hv =>
    simp only
    generalize hr :
      (if (statFollow s.fs 8 x.loc.tail).isSome = true then (s, true) else ensureDirs env s x.loc.tail) = rd
    obtain ⟨s1, okDirs⟩ := rd
    have hens : Traj env (EnsP s.fs (ancestorsIncl x.loc.tail)) s s1 := by
      split at hr
      · obtain ⟨rfl, -⟩ := Prod.mk.inj hr
        exact Traj.refl (fun q => Or.inl rfl)
      · have := ensureDirs_traj (env := env) (p := x.loc.tail) hwf.lt
        rwa [hr] at this
    have pens : ∀ f, EnsP s.fs (ancestorsIncl x.loc.tail) f → Merging s.fs x f := by
      intro f hf q
      rcases hf q with h1 | ⟨h1, h2, _⟩
      · exact Or.inl h1
      · exact Or.inr (Or.inl ⟨h1, (mem_ancestorsIncl.mp h2).trans (List.tail_suffix _)⟩)
    have t1 := hens.mono pens
    cases okDirs with
    | false => exact t1.error _
    | true =>
      refine t1.andThen ?_
      simp only [if_true]
      by_cases hloc : x.loc = []
      · rw [hloc]; exact build_root hnd t1.final
      have wf1 := hens.WF hwf
      have e1 := hens.final
      have hanc : ∀ q, q ∈ ancestorsIncl x.loc.tail → ProperAnc q x.loc := fun q hq =>
        properAnc_iff_suffix_tail.mpr ⟨hloc, mem_ancestorsIncl.mp hq⟩
      have hv1 : s1.fs.view x.loc = none := by
        rcases e1 x.loc with h1 | ⟨_, h2, _⟩
        · rw [h1, hv]
        · exact absurd rfl (hanc _ h2).1
      refine (build_spec hnd hv1 wf1.1.lt).imp (fun f hf q => ?_) fun _ ⟨b1, _⟩ =>
        CopyPost.of_free hloc hv hanc e1 wf1.2 b1
      by_cases h1 : q = x.loc
      · exact Or.inr (Or.inl ⟨by rw [h1, hv], by rw [h1]; exact List.suffix_refl _⟩)
      · rw [hf q h1]; exact pens _ e1 q

theorem copyfile_cannotOverwrite {env : Env} {s s1 : St} {x : Entry}
    (h : copyfile env s x = (s1, .error .cannotOverwrite)) :
    ∃ j nd, s.fs.view x.loc = some (j, nd) ∧ nd.kind = .dir := by
  -- every other exit raises `FailedCopy` or the `OSError` of a system call
  have os : ∀ {ops : List Op} {s2 : St}, (s2.sysAll env ops).2 ≠ .error .cannotOverwrite := fun h2 => by
    obtain ⟨n, hn⟩ := sysAll_error_os _ _ h2; cases hn
  unfold copyfile at h
  split at h
  · next j nd hv =>
    split at h
    · next hk => exact ⟨j, nd, hv, hk⟩
    · simp only at h
      split at h
      · next s2 e hu =>
        cases (Prod.mk.inj h).2
        unfold unlinkIfExists at hu
        split at hu <;> cases (Prod.mk.inj hu).2
      · exact absurd (congrArg Prod.snd h) os
  · simp only at h
    generalize
      (if (statFollow s.fs 8 x.loc.tail).isSome = true then (s, true) else ensureDirs env s x.loc.tail) = r at h
    split at h
    · exact absurd (congrArg Prod.snd h) os
    · cases (Prod.mk.inj h).2

/-- `do_link` giving the inode `i`, which holds what the entry `x` records, the name `x.loc`.  `hstmp`: it unlinks the
`'#new'` sibling before it links there, so the source must not be it; `hino`: for `rename_tmp`. -/
theorem doLink_spec {env : Env} {s : St} {src : Path} {x : Entry} {i : Nat} (hnd : x.isDir = false)
    (hsrc : s.fs.view src = some (i, x.inode)) (hstmp : src ≠ tmpOf x.loc)
    (hino : ∀ j nd', s.fs.view x.loc = some (j, nd') → j ≠ i) :
    Frag env (Merging s.fs x) (fun s' => x.loc ≠ [] ∧ ∀ q, s'.fs.view q = placedView s.fs x i q) s
      (doLink env s src x.loc) := by
  unfold doLink
  have base0 : Merging s.fs x s.fs := fun q => Or.inl rfl
  split
  · next s1 hsys =>
    obtain ⟨i', nd', hs', -, hpe, hvt, e1⟩ := step_link_ok (St.sys_ok hsys).1
    rw [hsrc] at hs'; cases hs'
    have hv1 : ∀ q, s1.fs.view q = placedView s.fs x i q := by
      intro q; rw [e1, Fs.view_put, placedView]; simp [hvt]
    exact (Traj.sys hsys base0 fun _ => merging_of_view hnd hv1).ok ⟨parentErr_none_ne_nil hpe, hv1⟩
  · next s1 hsys =>
    obtain ⟨e1, e2, -⟩ := St.sys_err hsys
    obtain ⟨hpe, ⟨i0, nd0⟩, hv0⟩ := step_link_EEXIST hsrc e1
    have hloc := parentErr_none_ne_nil hpe
    refine (Traj.sys_err hsys base0).andThen ((unlinkIfExists_spec.mono fun f hf =>
      merging_of_offEq_tmp (base := s.fs) hnd fun q hq => by rw [hf q hq, e2]).seq' fun s2 t2 ⟨u1, _⟩ => ?_)
    have h2 := t2.final
    split
    · next s3 e' hsys2 => exact (Traj.sys_err hsys2 h2).error _
    · next s3 hsys2 =>
      obtain ⟨i', nd', hs2, -, -, -, f3⟩ := step_link_ok (St.sys_ok hsys2).1
      rw [u1, if_neg hstmp, e2, hsrc] at hs2; cases hs2
      have hv3 : ∀ q, s3.fs.view q = if q = tmpOf x.loc then some (i, x.inode) else s.fs.view q := by
        intro q; rw [f3]; simp only [Fs.view_put]
        split
        · rfl
        · next hq => rw [u1, if_neg hq, e2]
      have p3 : Merging s.fs x s3.fs := merging_of_offEq_tmp hnd (fun q hq => by rw [hv3, if_neg hq])
      refine (Traj.sys hsys2 h2 fun _ => p3).andThen ?_
      split
      · next s4 hsys3 =>
        have hv4 := rename_tmp (base := s.fs) (fun q hq => by rw [hv3, if_neg hq]) (tmpOf_ne hloc)
          (by rw [hv3, if_pos rfl]) hino (St.sys_ok hsys3).1
        have hv4' : ∀ q, s4.fs.view q = placedView s.fs x i q :=
          fun q => by rw [hv4, placedView]; simp [hv0]
        exact (Traj.sys hsys3 p3 fun _ => merging_of_view hnd hv4').ok ⟨hloc, hv4'⟩
      · next s4 e' hsys3 =>
        obtain ⟨-, g2, -⟩ := St.sys_err hsys3
        exact (Traj.sys_err hsys3 p3).andThen ((unlinkIfExists_spec.mono fun f hf =>
          merging_of_offEq_tmp (base := s.fs) hnd fun q hq => by rw [hf q hq, g2, hv3, if_neg hq]).seq'
            fun s5 t5 _ => (Traj.refl t5.final).error _)
  · next s1 e _ hsys => exact (Traj.sys_err hsys base0).error _

/-- what a crash may observe while a directory is made at the free path `fp` and given its permissions -/
def MakingDir (base : Fs) (fp : Path) (f : Fs) : Prop :=
  OffEq base fp f ∧ (f.view fp = none ∨ ∃ j nd, f.view fp = some (j, nd) ∧ nd.kind = .dir)

theorem mkdirPerms_spec {env : Env} {s : St} {x : Entry} (hd : x.isDir = true) (hv : s.fs.view x.loc = none)
    (hwf : s.fs.WF1) :
    Frag env (MakingDir s.fs x.loc) (fun s' => SoloAt s.fs x.loc s.fs.next x.inode s'.fs) s
      (s.sysAll env (.mkdir x.loc (mkdirMode env x) :: (permsOps x x.loc ++ permsOps x x.loc))) := by
  refine Frag.sysAll_cons ⟨fun _ _ => rfl, Or.inl hv⟩ fun s1 h1 => ?_
  obtain ⟨-, -, e1⟩ := step_mkdir_ok (St.sys_ok h1).1
  have a1 := SoloAt.alloc hwf x.loc
    ⟨.dir, newDirMode s.fs x.loc (mkdirMode env x &&& 0o1777), env.uid, newGid env s.fs x.loc, 0⟩
  rw [← e1] at a1
  have hp := permsOps_updatesAt x x.loc
  have hx : x.inode.kind = .dir ∧ x.isSym = false ∧ x.inode.mtime = 0 := by
    obtain ⟨loc, kind, mode, uid, gid, mtime⟩ := x
    cases kind <;> simp_all [Entry.isDir, Entry.isSym, Entry.inode]
  refine (sysAll_solo _ (fun op hop => (List.mem_append.mp hop).elim (hp op) (hp op)) a1).imp ?_ fun _ q => ?_
  · rintro f ⟨nd', g1, g2⟩; exact ⟨g1.off, Or.inr ⟨_, _, g1.here, g2 rfl⟩⟩
  · have f1 := permsOps_fold x x.loc
      ⟨.dir, newDirMode s.fs x.loc (mkdirMode env x &&& 0o1777), env.uid, newGid env s.fs x.loc, 0⟩
      hx.1.symm (by simp [hx.2.1]) (fun _ => rfl)
    rwa [List.foldl_append, f1, permsOps_fold x x.loc x.inode rfl (by simp [hx.2.1]) (fun _ => hx.2.2)] at q

theorem inode_eta_owner (nd : Inode) (u g : Nat) (hu : u = nd.uid) (hg : g = nd.gid) :
    ({ nd with uid := u, gid := g } : Inode) = nd := by
  cases nd; simp_all

/-- `mergeDir` has returned normally.  `ino`: the inode at the location is the one that was there or a new one, which
is what `Mid.inos` asks of every path. -/
structure DirPost (s s' : St) (x : Entry) : Prop where
  placed : PlacedDir s.fs s'.fs x
  frame : ∀ q, q ≠ x.loc → s'.fs.view q = s.fs.view q
  ino : ∀ i nd, s'.fs.view x.loc = some (i, nd) → (∃ nd0, s.fs.view x.loc = some (i, nd0)) ∨ s.fs.next ≤ i

theorem mergeDir_spec {env : Env} {s : St} {x : Entry} (hd : x.isDir = true) (hwf : s.fs.WF)
    (hsolo : ∀ i nd t, s.fs.view x.loc = some (i, nd) → nd.kind = .sym t →
      ∀ q, q ≠ x.loc → ∀ nd', s.fs.view q ≠ some (i, nd')) :
    Frag env (Merging s.fs x) (fun s' => DirPost s s' x) s (mergeDir env s x) := by
  -- Along the code.  `stat` finds something: not a directory is refused; a directory (there, or behind the symlink
  -- that is there) gets at most one `lchown`, which reaches no other path.  `stat` finds nothing: `mkdir` succeeds
  -- (`mkdirPerms_spec`), or fails with `EEXIST` on a dangling symlink, which is unlinked before the same steps.
  unfold mergeDir
  have base0 : Merging s.fs x s.fs := fun q => Or.inl rfl
  split
  · next p' i' nd' hsf =>
    split
    · exact (Traj.refl base0).error _
    · next hkd =>
      have hkd : nd'.kind = .dir := by simpa using hkd
      cases hv : s.fs.view x.loc with
      | none => rw [statFollow_view_none 8 hv] at hsf; cases hsf
      | some v0 =>
        obtain ⟨i0, nd0⟩ := v0
        -- `stat` found a directory behind the symlink at the location (then `hsolo`, from `SymAtDirSolo`, keeps the
        -- `lchown` to this one name) or at the location itself (then `WF.dir1` does)
        have hkind : (∃ t, nd0.kind = .sym t) ∨ nd' = nd0 := by
          by_cases hs : ∃ t, nd0.kind = .sym t
          · exact Or.inl hs
          · rw [statFollow_nonsym 7 hv fun t ht => hs ⟨t, ht⟩] at hsf
            cases hsf; exact Or.inr rfl
        unfold dirPermsExisting
        split
        · next hown =>
          have hother : ∀ q, q ≠ x.loc → ∀ j nd'', s.fs.view q = some (j, nd'') → j ≠ i0 := by
            rintro q hq j nd'' hvq rfl
            rcases hkind with ⟨t, hk⟩ | rfl
            · exact hsolo j nd0 t hv hk q hq nd'' hvq
            · exact hq (hwf.dir1 x.loc q j nd' nd'' hv hvq hkd).symm
          refine Frag.sysAll_cons base0 fun s1 h1 => ?_
          obtain ⟨i, nd, hv', e1⟩ := step_lchown_ok (St.sys_ok h1).1
          rw [hv] at hv'; cases hv'
          have hv1 : ∀ q, q ≠ x.loc → s1.fs.view q = s.fs.view q :=
            fun q hq => by rw [e1]; exact view_updIno_of_ne_ino (hother q hq)
          have hvx : s1.fs.view x.loc = some (i0, withOwner nd0 x) := by rw [e1]; exact view_updIno_self hv _
          have kept : KeptLink s1.fs x i0 nd0 := ⟨withOwner nd0 x, hvx, rfl, rfl, rfl, Or.inr ⟨rfl, rfl⟩⟩
          have pfin : Merging s.fs x s1.fs :=
            merging_of_offEq_loc hv1 (Or.inr (Or.inr ⟨hd, rfl, Or.inl ⟨i0, nd0, hv, kept⟩⟩))
          refine (Traj.refl pfin).ok ⟨?_, hv1, fun i nd hq => ?_⟩
          · unfold PlacedDir
            simp only [hv]
            rcases hkind with ⟨t, hk⟩ | rfl
            · simp only [hk]; exact Or.inr kept
            · simp only [hkd]; exact hvx
          · rw [hvx] at hq; cases hq; exact Or.inl ⟨nd0, hv⟩
        · next hown =>
          refine (Traj.refl base0).ok ⟨?_, fun q _ => rfl, fun i nd hq => Or.inl ⟨nd, hq⟩⟩
          unfold PlacedDir
          simp only [hv]
          rcases hkind with ⟨t, hk⟩ | rfl
          · simp only [hk]; exact Or.inr ⟨nd0, hv, rfl, rfl, rfl, Or.inl ⟨rfl, rfl⟩⟩
          · have hown' : x.uid = nd'.uid ∧ x.gid = nd'.gid := by
              constructor <;> (apply Classical.byContradiction; intro hc; exact hown (by simp [hc]))
            simp only [hkd]
            rw [withOwner, inode_eta_owner nd' _ _ hown'.1 hown'.2]
  · next hsf =>
    split
    · exact (Traj.refl base0).error _
    · split
      · next s1 hsys =>
        obtain ⟨-, hv, -⟩ := step_mkdir_ok (St.sys_ok hsys).1
        have f := mkdirPerms_spec (env := env) hd hv hwf.lt
        rw [sysAll_cons_of_ok _ hsys] at f
        refine f.imp (fun f hf => merging_of_offEq_loc hf.1 (Or.inl ⟨hv, List.suffix_refl _⟩))
          fun _ b1 => ⟨?_, b1.off, fun i nd hq => ?_⟩
        · unfold PlacedDir
          simp only [hv]
          exact ⟨_, b1.here⟩
        · rw [b1.here] at hq; cases hq; exact Or.inr (Nat.le_refl _)
      · next s1 hsys =>
        -- `EEXIST` although `stat` found nothing: a dangling symlink sits there; it is unlinked first
        obtain ⟨e1, e2, -⟩ := St.sys_err hsys
        obtain ⟨⟨i0, nd0⟩, hv⟩ := step_mkdir_EEXIST e1
        obtain ⟨t, hk⟩ := statFollow_none_sym 7 hv hsf
        have psym : ∃ i nd t, s.fs.view x.loc = some (i, nd) ∧ nd.kind = .sym t := ⟨i0, nd0, t, hv, hk⟩
        refine (Traj.sys_err hsys base0).andThen (Frag.sysAll_cons (e2 ▸ base0) fun s2 h2 => ?_)
        obtain ⟨-, -, -, -, f2⟩ := step_unlink_ok (St.sys_ok h2).1
        rw [e2] at f2
        have hv2 : ∀ q, s2.fs.view q = if q = x.loc then none else s.fs.view q := by
          intro q; rw [f2]; simp
        have hoff2 : ∀ q, q ≠ x.loc → s2.fs.view q = s.fs.view q := fun q hq => by rw [hv2, if_neg hq]
        have wf2 : s2.fs.WF := by rw [f2]; exact WF_del hwf _
        refine (mkdirPerms_spec hd (by rw [hv2, if_pos rfl]) wf2.lt).imp
          (fun f hf => merging_of_offEq_loc (fun q hq => by rw [hf.1 q hq, hoff2 q hq])
            (Or.inr (Or.inr ⟨hd, rfl, Or.inr ⟨psym, hf.2⟩⟩)))
          fun _ b1 => ⟨?_, fun q hq => by rw [b1.off q hq, hoff2 q hq], fun i nd hq => ?_⟩
        · unfold PlacedDir
          simp only [hv, hk]
          exact Or.inl ⟨_, b1.here⟩
        · rw [b1.here] at hq; cases hq
          right; rw [f2]; exact Nat.le_refl _
      · next s1 e _ hsys => exact (Traj.sys_err hsys base0).error _

end Pkgcore.C18
