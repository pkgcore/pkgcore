import Pkgcore.Proofs.C43
/-!
# C43 — config section inheritance resolves to the nearest definition

`buildLookup`, `inherited`, `collapse` mirror `ConfigManager._integrate_config_source`, `_get_inherited_sections`,
`collapse_section` (pkgcore/config/central.py); `Spec.*` is the reference semantics (latest source first, generations of
the inheritance graph, first definer wins).
`stkOf` (the table as a function of the name), `WF` and `sourcesAfter` are defined in Proofs/C43.  The theorems about
named and about anonymous sections are the same three facts about `collapseNode` (Proofs/C43), read over
`Spec.stackOf sources` through `stk_eq`.
-/
namespace Pkgcore.C43
open Pkgcore.C43.Spec

/-- **later config sources override earlier ones for the same name**: the stack `sections_lookup[n]` built by
`appendleft` over all sources is the list of all sections named `n`, latest source first. -/
theorem lookup_is_latest_first (sources : List Source) (hwf : WF sources) (n : Name) :
    stkOf (buildLookup sources) n = Spec.stackOf sources n := by
  unfold buildLookup
  rw [stkOf_foldl _ _ _ hwf]
  simp [stkOf, List.lookup]

example : WF [[("A", ⟨none, false, [("k", "old")]⟩)], [("A", ⟨some ["A"], false, [("k", "new")]⟩)]] ∧
    Spec.stackOf [[("A", ⟨none, false, [("k", "old")]⟩)], [("A", ⟨some ["A"], false, [("k", "new")]⟩)]] "A"
      = [⟨some ["A"], false, [("k", "new")]⟩, ⟨none, false, [("k", "old")]⟩] := by
  exact ⟨by unfold WF; decide +kernel, by decide +kernel⟩

theorem stk_eq (sources : List Source) (hwf : WF sources) : stkOf (buildLookup sources) = Spec.stackOf sources :=
  funext (lookup_is_latest_first sources hwf)

/-- **the relevant sections are the inheritance graph in breadth-first order**: whenever
`_get_inherited_sections` returns, it returns the root, then its children left to right, then theirs, … until a
generation is empty (graphs of any size and depth), and every inherit target on the way existed. -/
theorem inherited_is_breadth_first (sources : List Source) (hwf : WF sources) (name : Name) (l : List Entry)
    (h : inherited (buildLookup sources) name = .ok l) :
    ∃ r D, Spec.root (Spec.stackOf sources) name = some r ∧ lev (Spec.stackOf sources) D [r] = [] ∧
      l = upTo (Spec.stackOf sources) D [r] ∧ ∀ e ∈ l, dangling (Spec.stackOf sources) e = false := by
  rw [← stk_eq sources hwf]
  rw [inherited_eq] at h
  split at h
  · cases h
  · next r hr =>
    obtain ⟨D, h1, rfl, h3, -⟩ := (loop_iff _ _ _ _ _ (List.pairwise_singleton _ _)).1 h
    exact ⟨r, D, hr, h1, rfl, h3⟩

/-- **nearest definition**: whenever collapsing a named section succeeds, each ordinary key has the value set
by the first section, in breadth-first inheritance order (latest source first for equal names), that sets it —
the section itself if it does; the result has no other keys, and each key once. -/
theorem collapse_nearest_definition (sources : List Source) (hwf : WF sources) (name : Name)
    (cfg : List (String × String)) (h : collapse (buildLookup sources) name = .ok cfg) :
    ∃ r D, Spec.root (Spec.stackOf sources) name = some r ∧ lev (Spec.stackOf sources) D [r] = [] ∧
      (∀ k, k ∉ specialKeys → cfg.lookup k = Spec.value k (upTo (Spec.stackOf sources) D [r])) ∧
      (∀ k, k ∈ specialKeys → cfg.lookup k = none) ∧ (cfg.map (·.1)).Nodup ∧
      (Spec.value "class" (upTo (Spec.stackOf sources) D [r])).isSome = true := by
  rw [← stk_eq sources hwf]
  rw [collapse_eq] at h
  split at h
  · cases h
  · next r hr =>
    obtain ⟨D, h1, hk, hsp, hnd, hc, -⟩ := collapseNode_ok _ _ _ h
    exact ⟨r, D, hr, h1, hk, hsp, hnd, hc⟩

/-- **tree-shaped graphs of any size collapse**: if the section exists, is not inherit-only, the inheritance graph
below it is tree-shaped (every target exists, no section name inherited twice; `D` bounds its depth) and some
section of it sets `class`, collapsing succeeds — so by `collapse_nearest_definition` it yields the nearest
definitions. -/
theorem tree_shaped_collapses (sources : List Source) (hwf : WF sources) (name : Name) (r : Entry) (D : Nat)
    (hroot : Spec.root (Spec.stackOf sources) name = some r) (hio : r.conf.inheritOnly = false)
    (htree : TreeShaped (Spec.stackOf sources) r D)
    (hclass : (Spec.value "class" (upTo (Spec.stackOf sources) D [r])).isSome = true) :
    ∃ cfg, collapse (buildLookup sources) name = .ok cfg := by
  rw [← stk_eq sources hwf] at hroot htree hclass
  rw [collapse_eq, hroot]
  exact collapseNode_complete _ r D hio htree hclass

/-- non-vacuity: a three-source configuration with a self-inherit chain and two other bases is tree-shaped, and
the breadth-first order puts the earlier `A` before `A`'s other base `C`, and `B` last -/
example :
    let sources : List Source :=
      [[("A", ⟨some ["B"], false, [("k1", "a0")]⟩), ("B", ⟨none, false, [("class", "x"), ("k2", "b0")]⟩)],
       [("A", ⟨some ["A", "C"], false, [("k3", "a1")]⟩), ("C", ⟨none, false, [("k1", "c1"), ("k2", "c1")]⟩)]]
    ∃ r, Spec.root (Spec.stackOf sources) "A" = some r ∧ r.conf.inheritOnly = false ∧
      TreeShaped (Spec.stackOf sources) r 3 ∧
      (upTo (Spec.stackOf sources) 3 [r]).map (·.name) = ["A", "A", "C", "B"] ∧
      Spec.value "k1" (upTo (Spec.stackOf sources) 3 [r]) = some "a0" ∧
      Spec.value "k2" (upTo (Spec.stackOf sources) 3 [r]) = some "c1" := by
  refine ⟨⟨"A", ⟨some ["A", "C"], false, [("k3", "a1")]⟩, [⟨some ["B"], false, [("k1", "a0")]⟩]⟩,
    by decide +kernel, rfl, ?_, by decide +kernel, by decide +kernel, by decide +kernel⟩
  exact ⟨by decide +kernel, by decide +kernel, by decide +kernel⟩

/-- **inheritance cycles and missing targets are errors**: if, below the section being collapsed, some section
names a target that does not exist (another section, or itself with no earlier source left) or some section
reaches itself through inherits, collapsing reports an error. -/
theorem cycle_or_missing_is_error (sources : List Source) (hwf : WF sources) (name : Name) (r : Entry)
    (hroot : Spec.root (Spec.stackOf sources) name = some r)
    (hbad : Missing (Spec.stackOf sources) r ∨ Cyclic (Spec.stackOf sources) r) :
    ∃ err, collapse (buildLookup sources) name = .error err := by
  rw [← stk_eq sources hwf] at hroot hbad
  rw [collapse_eq, hroot]
  exact collapseNode_error _ r hbad

/-- non-vacuity: a two-cycle reached from the root, and a missing target one level down -/
example :
    let sources : List Source := [[("A", ⟨some ["B"], false, [("class", "x")]⟩), ("B", ⟨some ["C"], false, []⟩),
                                   ("C", ⟨some ["B", "Z"], false, []⟩)]]
    Cyclic (Spec.stackOf sources) ⟨"A", ⟨some ["B"], false, [("class", "x")]⟩, []⟩ ∧
    Missing (Spec.stackOf sources) ⟨"A", ⟨some ["B"], false, [("class", "x")]⟩, []⟩ := by
  intro sources
  have eB : (⟨"B", ⟨some ["C"], false, []⟩, []⟩ : Entry) ∈
      kids (Spec.stackOf sources) ⟨"A", ⟨some ["B"], false, [("class", "x")]⟩, []⟩ := by decide +kernel
  have eC : (⟨"C", ⟨some ["B", "Z"], false, []⟩, []⟩ : Entry) ∈
      kids (Spec.stackOf sources) ⟨"B", ⟨some ["C"], false, []⟩, []⟩ := by decide +kernel
  have eB' : (⟨"B", ⟨some ["C"], false, []⟩, []⟩ : Entry) ∈
      kids (Spec.stackOf sources) ⟨"C", ⟨some ["B", "Z"], false, []⟩, []⟩ := by decide +kernel
  constructor
  · exact ⟨_, Reach.step (Reach.refl _) eB, ReachPlus.step (ReachPlus.one eC) eB'⟩
  · exact ⟨_, Reach.step (Reach.step (Reach.refl _) eB) eC, by decide +kernel⟩

/-- **reads follow the current stack of sources**: in any history of collapses, `add_config_source` calls and
reloads, every collapse returns exactly what collapsing from scratch over the sources configured at that moment returns
(so, by `collapse_nearest_definition`, the nearest definitions w.r.t. the *current* sources) — the rendered-section cache
is never stale. -/
theorem history_collapse_is_current (s : List Source) (pre post : List MOp) (n : Name) :
    (Mgr.run (Mgr.init s) (pre ++ MOp.collapse n :: post)).2[pre.length]?
      = some (some (collapse (buildLookup (sourcesAfter s pre)) n)) := by
  rw [run_getElem, step_collapse_of_inv _ _ (minv_run s pre _ (minv_init s))]

/-- non-vacuity: a section collapsed before a source that redefines its base is added must change afterwards -/
example :
    let s0 : List Source := [[("A", ⟨some ["B"], false, [("class", "x")]⟩), ("B", ⟨none, false, [("k", "old")]⟩)]]
    let add : Source := [("B", ⟨none, false, [("k", "new")]⟩)]
    sourcesAfter s0 [.collapse "A", .addSource add] = s0 ++ [add] ∧
    Spec.stackOf (s0 ++ [add]) "B" = [⟨none, false, [("k", "new")]⟩, ⟨none, false, [("k", "old")]⟩] := by
  decide +kernel

/-- **the `default` flag follows the same rule**: the raw value the manager turns into `is_default` is the one of the first
section in breadth-first order that sets `default` — an explicit (even false/empty) value in a nearer section shadows
every farther one. -/
theorem default_nearest_definition (sources : List Source) (hwf : WF sources) (name : Name) (l : List Entry)
    (h : inherited (buildLookup sources) name = .ok l) :
    ∃ r D, Spec.root (Spec.stackOf sources) name = some r ∧ lev (Spec.stackOf sources) D [r] = [] ∧
      defaultOf l = Spec.value "default" (upTo (Spec.stackOf sources) D [r]) := by
  obtain ⟨r, D, h1, h2, h3, _⟩ := inherited_is_breadth_first sources hwf name l h
  exact ⟨r, D, h1, h2, by rw [h3, defaultOf, firstDef_eq_value]⟩

/-- an explicitly empty value in the nearer section wins over a non-empty one farther away (values are opaque: "set" means
the key is present), for ordinary keys and for `default` -/
example :
    let sources : List Source := [[("A", ⟨some ["B"], false, [("k", ""), ("default", "false")]⟩),
                                   ("B", ⟨none, false, [("class", "x"), ("k", "b"), ("default", "true")]⟩)]]
    ∃ r, Spec.root (Spec.stackOf sources) "A" = some r ∧ TreeShaped (Spec.stackOf sources) r 2 ∧
      Spec.value "k" (upTo (Spec.stackOf sources) 2 [r]) = some "" ∧
      Spec.value "default" (upTo (Spec.stackOf sources) 2 [r]) = some "false" := by
  refine ⟨⟨"A", ⟨some ["B"], false, [("k", ""), ("default", "false")]⟩, []⟩,
    by decide +kernel, ?_, by decide +kernel, by decide +kernel⟩
  exact ⟨by decide +kernel, by decide +kernel, by decide +kernel⟩

/-- **anonymous (inline) sections resolve the same way**: whenever `collapse_section([sec])` on an unnamed section succeeds,
the relevant sections are the generations below the node `(None, sec)` in breadth-first order over the current sources, every
target existed, and each ordinary key has the value of the first of them that sets it.  The answer is a function of the
sources and of `sec` alone. -/
theorem anon_collapse_nearest_definition (sources : List Source) (hwf : WF sources) (sec : Sec)
    (cfg : List (String × String)) (h : collapseAnon (buildLookup sources) sec = .ok cfg) :
    ∃ D, lev (Spec.stackOf sources) D [⟨anonName, sec, []⟩] = [] ∧
      (∀ k, k ∉ specialKeys → cfg.lookup k = Spec.value k (upTo (Spec.stackOf sources) D [⟨anonName, sec, []⟩])) ∧
      (∀ k, k ∈ specialKeys → cfg.lookup k = none) ∧ (cfg.map (·.1)).Nodup ∧
      (Spec.value "class" (upTo (Spec.stackOf sources) D [⟨anonName, sec, []⟩])).isSome = true ∧
      ∀ e ∈ upTo (Spec.stackOf sources) D [⟨anonName, sec, []⟩], dangling (Spec.stackOf sources) e = false := by
  rw [← stk_eq sources hwf]
  rw [collapseAnon_eq] at h
  exact collapseNode_ok _ _ _ h

/-- **tree-shaped graphs below an anonymous section collapse** (completeness, so the previous theorem is not vacuous) -/
theorem anon_tree_shaped_collapses (sources : List Source) (hwf : WF sources) (sec : Sec) (D : Nat)
    (hio : sec.inheritOnly = false)
    (htree : TreeShaped (Spec.stackOf sources) ⟨anonName, sec, []⟩ D)
    (hclass : (Spec.value "class" (upTo (Spec.stackOf sources) D [⟨anonName, sec, []⟩])).isSome = true) :
    ∃ cfg, collapseAnon (buildLookup sources) sec = .ok cfg := by
  rw [← stk_eq sources hwf] at htree hclass
  rw [collapseAnon_eq]
  exact collapseNode_complete _ _ D hio htree hclass

/-- non-vacuity: two inline sections with different bases over the same sources are both tree-shaped and get different
values for `a` -/
example :
    let sources : List Source := [[("R", ⟨none, false, [("class", "x"), ("a", "red")]⟩), ("B", ⟨none, false, [("class", "x"), ("a", "blue")]⟩)]]
    TreeShaped (Spec.stackOf sources) ⟨anonName, ⟨some ["R"], false, [("c", "1")]⟩, []⟩ 2 ∧
    TreeShaped (Spec.stackOf sources) ⟨anonName, ⟨some ["B"], false, [("b", "2")]⟩, []⟩ 2 ∧
    Spec.value "a" (upTo (Spec.stackOf sources) 2 [⟨anonName, ⟨some ["R"], false, [("c", "1")]⟩, []⟩]) = some "red" ∧
    Spec.value "a" (upTo (Spec.stackOf sources) 2 [⟨anonName, ⟨some ["B"], false, [("b", "2")]⟩, []⟩]) = some "blue" := by
  refine ⟨⟨by decide +kernel, by decide +kernel, by decide +kernel⟩,
    ⟨by decide +kernel, by decide +kernel, by decide +kernel⟩, by decide +kernel, by decide +kernel⟩

/-- **missing targets and cycles below an anonymous section are errors** -/
theorem anon_cycle_or_missing_is_error (sources : List Source) (hwf : WF sources) (sec : Sec)
    (hbad : Missing (Spec.stackOf sources) ⟨anonName, sec, []⟩ ∨ Cyclic (Spec.stackOf sources) ⟨anonName, sec, []⟩) :
    ∃ err, collapseAnon (buildLookup sources) sec = .error err := by
  rw [← stk_eq sources hwf] at hbad
  rw [collapseAnon_eq]
  exact collapseNode_error _ _ hbad

example : Missing (Spec.stackOf [[("R", ⟨none, false, [("class", "x")]⟩)]]) ⟨anonName, ⟨some ["R", "Z"], false, []⟩, []⟩ :=
  ⟨_, Reach.refl _, by decide +kernel⟩

/-- **an anonymous collapse depends on the current sources only**: in any history of named and anonymous collapses,
`add_config_source` calls and reloads, collapsing an anonymous section returns exactly what it returns on a manager created
over the sources configured at that moment — in particular it does not depend on which sections (named or anonymous) were
collapsed before it. -/
theorem history_anon_collapse_is_current (s : List Source) (pre post : List MOp) (sec : Sec) :
    (Mgr.run (Mgr.init s) (pre ++ MOp.collapseAnon sec :: post)).2[pre.length]?
      = some (some (collapseAnon (buildLookup (sourcesAfter s pre)) sec)) := by
  rw [run_getElem, step_collapseAnon_of_inv _ _ (minv_run s pre _ (minv_init s))]

example :
    sourcesAfter [[("R", ⟨none, false, [("class", "x")]⟩)]]
      [.collapseAnon ⟨some ["R"], false, []⟩, .addSource [("B", ⟨none, false, []⟩)], .collapse "R"]
      = [[("R", ⟨none, false, [("class", "x")]⟩)], [("B", ⟨none, false, []⟩)]] := by
  decide +kernel

end Pkgcore.C43
