import Pkgcore.Proofs.C09Tree
/-!
# C09 — lemmas behind `Props/C09`: the two readings of a structure, and USE evaluation

First the readings: `satAbs` by its equations, independent of the flags once no conditional is left (`condFree_flags`),
unchanged by `collapse` (`collapse_sat`), equal to the PMS reading on tame structures (`tame_sat`); `satAbs_condFree`,
`satAbs_collapse`, `tame_members` state one half of these alone.  Then evaluation: `finish_cases` says what `finish`
returns, `forall_mem_evalNode` what `evalNode` emits; `Rep`/`Comb` relate the values of emitted items to the value of
the node they come from.
-/
namespace Pkgcore.C09
open Pkgcore.C09.Spec

/-- In the generated class table `_evaluate_collapsible` and `_evaluate_wipe_empty` coincide for every group class,
and both are the specification's `wipes` (true for all-of / any-of, false for `^^` / `??`). -/
theorem classFlags_lookup (k : Kind) :
    Generated.C09.classFlags.lookup k.className = some (wipes k, wipes k) := by
  cases k <;> decide +kernel

theorem collapsible_eq_wipes (k : Kind) : collapsible k = wipes k := by rw [collapsible, classFlags_lookup]
theorem wipeEmpty_eq_wipes (k : Kind) : wipeEmpty k = wipes k := by rw [wipeEmpty, classFlags_lookup]

theorem wipes_iff {k : Kind} : wipes k = true ↔ k = .and ∨ k = .or := by cases k <;> simp [wipes]

@[simp] theorem membersAbs_nil (F T) : membersAbs F T [] = [] := by simp [membersAbs]
@[simp] theorem membersAbs_cons (F T c cs) :
    membersAbs F T (c :: cs) = (satAbs F T c).toList ++ membersAbs F T cs := by simp [membersAbs]

theorem membersAbs_append (F T) (a b : List Dep) :
    membersAbs F T (a ++ b) = membersAbs F T a ++ membersAbs F T b := by
  induction a with
  | nil => simp
  | cons x xs ih => simp [ih]

@[simp] theorem hasCondL_nil : hasCondL [] = false := by simp [hasCondL]
@[simp] theorem hasCondL_cons (c cs) : hasCondL (c :: cs) = (hasCond c || hasCondL cs) := by simp [hasCondL]

theorem hasCondL_eq_false {cs : List Dep} : hasCondL cs = false ↔ ∀ c ∈ cs, hasCond c = false := by
  induction cs with
  | nil => simp
  | cons c cs ih => simp [ih]

theorem satAbs_grp (F T kind cs) : satAbs F T (.grp kind cs) =
    if (membersAbs F T cs).isEmpty && wipes kind then none else some (judge kind (membersAbs F T cs)) := by
  simp only [satAbs]

theorem satAbs_cond (F T n f cs) :
    satAbs F T (.cond n f cs) = if F f != n then satAbs F T (.grp .and cs) else none := by
  simp [satAbs, wipes, judge]

theorem judge_nil (kind : Kind) : judge kind [] = true := by cases kind <;> rfl

/-- only a group without members can be absent, and every verdict on no members is `true` -/
theorem satAbs_grp_getD (F T kind cs) :
    (satAbs F T (.grp kind cs)).getD true = judge kind (membersAbs F T cs) := by
  rw [satAbs_grp]
  cases membersAbs F T cs with
  | nil => cases wipes kind <;> simp [judge_nil]
  | cons _ _ => rfl

theorem satAbs_cond_getD (F T n f cs) :
    (satAbs F T (.cond n f cs)).getD true = if F f != n then (membersAbs F T cs).all id else true := by
  rw [satAbs_cond]
  split
  · exact satAbs_grp_getD F T .and cs
  · rfl

theorem membersAbs_cons_all (F T c cs) :
    (membersAbs F T (c :: cs)).all id = ((satAbs F T c).getD true && (membersAbs F T cs).all id) := by
  rw [membersAbs_cons]
  cases satAbs F T c <;> simp

theorem satAbs_grp_singleton (F T) {kind} (x : Dep) (h : wipes kind = true) :
    satAbs F T (.grp kind [x]) = satAbs F T x := by
  rw [satAbs_grp, membersAbs_cons, membersAbs_nil, List.append_nil, h]
  cases satAbs F T x with
  | none => rfl
  | some b => rcases wipes_iff.mp h with rfl | rfl <;> simp [judge]

theorem condFree_flags (F F' : Tok → Bool) (T : Present) :
    (∀ t : Dep, hasCond t = false → satAbs F T t = satAbs F' T t) ∧
      ∀ cs : List Dep, hasCondL cs = false → membersAbs F T cs = membersAbs F' T cs := by
  apply Dep.induct₂
  case leaf => intro k r _; simp [satAbs]
  case grp => intro kind cs ih h; simp only [satAbs, ih (by simpa [hasCond] using h)]
  case cond => intro n f cs _ h; simp [hasCond] at h
  case nil => intro _; rfl
  case cons =>
    intro c cs hc hcs h
    rw [hasCondL_cons, Bool.or_eq_false_iff] at h
    rw [membersAbs_cons, membersAbs_cons, hc h.1, hcs h.2]

theorem satAbs_condFree (F F' : Tok → Bool) (T : Present) : ∀ t : Dep, hasCond t = false → satAbs F T t = satAbs F' T t :=
  (condFree_flags F F' T).1

theorem satAbs_collapse_grp (F T kind cs) :
    satAbs F T (collapse (.grp kind cs)) = satAbs F T (.grp kind (collapseL cs)) := by
  simp only [collapse]
  split
  · rename_i x hx
    split
    · rename_i hc
      rw [collapsible_eq_wipes] at hc
      rw [hx, satAbs_grp_singleton F T x hc]
    · rw [hx]
  · rfl

theorem collapse_sat (F : Tok → Bool) (T : Present) :
    (∀ t : Dep, satAbs F T (collapse t) = satAbs F T t) ∧
      ∀ cs : List Dep, membersAbs F T (collapseL cs) = membersAbs F T cs := by
  apply Dep.induct₂
  case leaf => intro k r; simp [collapse]
  case grp => intro kind cs ih; rw [satAbs_collapse_grp, satAbs_grp, satAbs_grp, ih]
  case cond => intro n f cs ih; simp only [collapse, satAbs, ih]
  case nil => rfl
  case cons => intro c cs hc hcs; rw [collapseL_cons, membersAbs_cons, membersAbs_cons, hc, hcs]

theorem satAbs_collapse (F : Tok → Bool) (T : Present) : ∀ t : Dep, satAbs F T (collapse t) = satAbs F T t :=
  (collapse_sat F T).1

/-- not absent: the node counts as a member of its parent -/
def presentNode (F : Tok → Bool) (T : Present) (x : Dep) : Prop := (satAbs F T x).isSome = true

theorem membersAbs_ne_nil {F T} {cs : List Dep} {c} (hc : c ∈ cs) (h : presentNode F T c) :
    membersAbs F T cs ≠ [] := by
  induction cs with
  | nil => cases hc
  | cons x xs ih =>
    rw [membersAbs_cons]
    rcases List.mem_cons.mp hc with rfl | hc
    · unfold presentNode at h
      cases hs : satAbs F T c with
      | none => simp [hs] at h
      | some b => simp
    · simp [ih hc]

theorem solid_present (F : Tok → Bool) (T : Present) :
    (∀ t : Dep, solid t = true → presentNode F T t) ∧ ∀ cs : List Dep, solidAny cs = true → membersAbs F T cs ≠ [] := by
  apply Dep.induct₂
  case leaf => intro k r _; simp [presentNode, satAbs]
  case cond => intro n f cs _ h; simp [solid] at h
  case grp =>
    intro kind cs ih h
    simp only [solid, Bool.or_eq_true, Bool.not_eq_true'] at h
    unfold presentNode
    rw [satAbs_grp]
    rcases h with h | h
    · simp [h]
    · simp [ih h]
  case nil => intro h; cases h
  case cons =>
    intro c cs hc hcs h
    simp only [solidAny, Bool.or_eq_true] at h
    rcases h with h | h
    · exact membersAbs_ne_nil List.mem_cons_self (hc h)
    · simp [hcs h]

@[simp] theorem membersPMS_nil (F T) : membersPMS F T [] = [] := by simp [membersPMS]
@[simp] theorem allPMS_nil (F T) : allPMS F T [] = true := by simp [allPMS]
@[simp] theorem allPMS_cons (F T c cs) : allPMS F T (c :: cs) = (satPMS F T c && allPMS F T cs) := by simp [allPMS]

theorem membersPMS_all (F : Tok → Bool) (T : Present) : ∀ cs : List Dep, (membersPMS F T cs).all id = allPMS F T cs
  | [] => by simp
  | .leaf k r :: cs => by simp [membersPMS, satPMS, membersPMS_all F T cs]
  | .grp kind ps :: cs => by simp [membersPMS, satPMS, membersPMS_all F T cs]
  | .cond n f ps :: cs => by
      by_cases h : (F f != n) = true <;> simp [membersPMS, satPMS, h, membersPMS_all F T cs]

theorem membersPMS_cons_of_sat {F T} (c : Dep) (cs : List Dep) (hok : memberOk c = true)
    (h : satPMS F T c = (satAbs F T c).getD true) :
    membersPMS F T (c :: cs) = (satAbs F T c).toList ++ membersPMS F T cs := by
  cases c with
  | leaf k r => simp [membersPMS, satAbs]
  | grp kind ps =>
    have hp := (solid_present F T).1 _ hok
    unfold presentNode at hp
    rw [satPMS] at h
    cases hv : satAbs F T (.grp kind ps) with
    | none => simp [hv] at hp
    | some b => simpa [membersPMS, hv] using h
  | cond n f ps =>
    have hne : (membersAbs F T ps).isEmpty = false := by simpa using (solid_present F T).2 ps hok
    by_cases hmet : (F f != n) = true
    · simpa [membersPMS, satPMS, satAbs, hmet, hne] using h
    · simp [membersPMS, satAbs, hmet]

/-- on tame structures the two readings agree: node by node, for the conjunction of a list, and member by member where
the members are fit to stand inside `||`/`^^`/`??` -/
theorem tame_sat (F : Tok → Bool) (T : Present) :
    (∀ t : Dep, tame t = true → satPMS F T t = (satAbs F T t).getD true) ∧
      ∀ cs : List Dep, tameL cs = true → allPMS F T cs = (membersAbs F T cs).all id ∧
        (membersOk cs = true → membersPMS F T cs = membersAbs F T cs) := by
  apply Dep.induct₂
  case leaf => intro k r _; simp [satPMS, satAbs]
  case cond => intro n f cs ih h; rw [satPMS, (ih (by simpa [tame] using h)).1, satAbs_cond_getD]
  case grp =>
    intro kind cs ih h
    simp only [tame, Bool.and_eq_true, Bool.or_eq_true, beq_iff_eq] at h
    rw [satPMS, satAbs_grp_getD]
    rcases h.2 with rfl | hk
    · rw [judge, judge, membersPMS_all, (ih h.1).1]
    · rw [(ih h.1).2 hk]
  case nil => exact fun _ => ⟨rfl, fun _ => rfl⟩
  case cons =>
    intro c cs hc hcs h
    simp only [tameL, Bool.and_eq_true] at h
    refine ⟨?_, fun hm => ?_⟩
    · rw [allPMS_cons, hc h.1, (hcs h.2).1, membersAbs_cons_all]
    · simp only [membersOk, Bool.and_eq_true] at hm
      rw [membersPMS_cons_of_sat c cs hm.1 (hc h.1), (hcs h.2).2 hm.2, membersAbs_cons]

theorem tame_members (F : Tok → Bool) (T : Present) : ∀ cs : List Dep, tameL cs = true → membersOk cs = true →
    membersPMS F T cs = membersAbs F T cs :=
  fun cs h => ((tame_sat F T).2 cs h).2

@[simp] theorem evalList_nil (F p) : evalList F p [] = [] := by simp [evalList]
@[simp] theorem evalList_cons (F p c cs) : evalList F p (c :: cs) = evalNode F p c ++ evalList F p cs := by
  simp [evalList]

theorem mem_evalList {F p cs x} : x ∈ evalList F p cs ↔ ∃ c ∈ cs, x ∈ evalNode F p c := by
  induction cs with
  | nil => simp
  | cons c cs ih => simp [ih]

theorem finish_force (p kind) (l : List Dep) : finish p kind true l = l := by
  cases l <;> simp [finish]

theorem finish_cases (p kind) (l : List Dep) :
    (finish p kind false l = [.grp kind l] ∧ (wipes kind = false ∨ l ≠ [])) ∨
      (finish p kind false l = l ∧ wipes kind = true ∧ (isSubclass p kind = true ∨ l.length ≤ 1)) := by
  unfold finish
  rw [wipeEmpty_eq_wipes, collapsible_eq_wipes]
  cases wipes kind with
  | false => exact Or.inl ⟨by simp, Or.inl rfl⟩
  | true =>
    cases hc : isSubclass p kind || decide (l.length ≤ 1) with
    | true => exact Or.inr ⟨by cases l <;> rfl, rfl, by simpa using hc⟩
    | false =>
      have hne : l ≠ [] := by rintro rfl; simp at hc
      exact Or.inl ⟨by simp [hne], Or.inr hne⟩

theorem evalNode_cond (F p n f cs) :
    evalNode F p (.cond n f cs) = if F f != n then evalNode F p (.grp .and cs) else [] := by
  cases cs with
  | nil => simp [evalNode, finish, wipeEmpty_eq_wipes, wipes]
  | cons c cs => simp [evalNode]

/-- `Dep.induct₂` for statements about evaluation, where a conditional only adds a test to the all-of case -/
theorem Dep.induct₂_cond {P : Dep → Prop} {Q : List Dep → Prop} (leaf : ∀ k r, P (.leaf k r))
    (grp : ∀ kind cs, Q cs → P (.grp kind cs)) (cond : ∀ n f cs, P (.grp .and cs) → P (.cond n f cs))
    (nil : Q []) (cons : ∀ c cs, P c → Q cs → Q (c :: cs)) : (∀ t, P t) ∧ ∀ cs, Q cs :=
  Dep.induct₂ leaf grp (fun n f cs ih => cond n f cs (grp .and cs ih)) nil cons

/-- Every item evaluation emits is an element of the input or a group rebuilt over emitted items, non-empty if of a
kind that is wiped when empty; so a property of elements that such groups inherit holds of all of them. -/
theorem forall_mem_evalNode {P : Dep → Prop} (F : Tok → Bool) (hleaf : ∀ k r, P (.leaf k r))
    (hgrp : ∀ kind l, (∀ x ∈ l, P x) → (wipes kind = false ∨ l ≠ []) → P (.grp kind l)) :
    ∀ t p, ∀ x ∈ evalNode F p t, P x := by
  refine (Dep.induct₂_cond (Q := fun cs => ∀ p, ∀ x ∈ evalList F p cs, P x) ?leaf ?grp ?cond ?nil ?cons).1
  case leaf =>
    intro k r p x hx
    rw [evalNode, List.mem_singleton] at hx
    rw [hx]
    exact hleaf k r
  case grp =>
    intro kind cs ih p x hx
    rw [evalNode] at hx
    rcases finish_cases p kind (evalList F (.node kind) cs) with ⟨h, hne⟩ | ⟨h, _⟩ <;> rw [h] at hx
    · rw [List.mem_singleton.mp hx]
      exact hgrp kind _ (ih _) hne
    · exact ih _ x hx
  case cond =>
    intro n f cs ih p x hx
    rw [evalNode_cond] at hx
    split at hx
    · exact ih p x hx
    · cases hx
  case nil => intro p x hx; cases hx
  case cons =>
    intro c cs hc hcs p x hx
    rw [evalList_cons, List.mem_append] at hx
    exact hx.elim (hc p x) (hcs p x)

theorem hasCondL_evalNode (F : Tok → Bool) : ∀ (t : Dep) (p : PCls), hasCondL (evalNode F p t) = false :=
  fun t p => hasCondL_eq_false.mpr <|
    forall_mem_evalNode F (fun _ _ => by simp [hasCond])
      (fun _ l hl _ => by simpa [hasCond] using hasCondL_eq_false.mpr hl) t p

/-- the parent is an all-of: members spliced into it count through `all` -/
def andLike (p : PCls) : Prop := p = .depset ∨ p = .node .and
/-- the parent is an any-of: members spliced into it count through `any` -/
def orLike (p : PCls) : Prop := p = .node .or

theorem not_orLike_of_andLike {p : PCls} (ha : andLike p) : ¬orLike p := by
  intro ho
  rw [orLike] at ho
  rcases ha with ha | ha
  · rw [ho] at ha; cases ha
  · rw [ho] at ha; cases ha

theorem isSubclass_and {p} (h : isSubclass p .and = true) : andLike p := by
  cases p with
  | depset => exact Or.inl rfl
  | node k => right; simpa [isSubclass] using h

theorem isSubclass_or {p} (h : isSubclass p .or = true) : orLike p := by
  cases p with
  | depset => simp [isSubclass] at h
  | node k => simpa [isSubclass, orLike] using h

/-- how the values of the spliced-in items `vs` represent the value `o` of the node they come from, inside a parent
of class `p` -/
def Rep (p : PCls) (vs : List Bool) : Option Bool → Prop
  | none => vs = []
  | some b => vs = [b] ∨ (andLike p ∧ vs ≠ [] ∧ vs.all id = b) ∨ (orLike p ∧ vs ≠ [] ∧ vs.any id = b)

/-- the values `m'` of the evaluated children stand for the values `m` of the original members, inside a parent of
class `p` -/
structure Comb (p : PCls) (m' m : List Bool) : Prop where
  empty : m'.isEmpty = m.isEmpty
  all : andLike p → m'.all id = m.all id
  any : orLike p → m'.any id = m.any id
  same : ¬ andLike p → ¬ orLike p → m' = m

theorem Comb.nil (p) : Comb p [] [] := ⟨rfl, fun _ => rfl, fun _ => rfl, fun _ _ => rfl⟩

theorem Comb.append {p vs o m' m} (h : Rep p vs o) (c : Comb p m' m) : Comb p (vs ++ m') (o.toList ++ m) := by
  cases o with
  | none =>
    simp only [Rep] at h
    subst h
    simpa using c
  | some b =>
    simp only [Rep] at h
    rcases h with h | ⟨hp, hne, hb⟩ | ⟨hp, hne, hb⟩
    · subst h
      exact ⟨by simp, fun hp => by simp [c.all hp], fun hp => by simp [c.any hp],
        fun h1 h2 => by simp [c.same h1 h2]⟩
    · refine ⟨by simp [hne], fun _ => ?_, fun ho => ?_, fun h1 _ => absurd hp h1⟩
      · simp [List.all_append, hb, c.all hp]
      · exact absurd ho (not_orLike_of_andLike hp)
    · refine ⟨by simp [hne], fun ha => ?_, fun _ => ?_, fun _ h2 => absurd hp h2⟩
      · exact absurd hp (not_orLike_of_andLike ha)
      · simp [List.any_append, hb, c.any hp]

theorem Comb.judge_eq {kind m' m} (c : Comb (.node kind) m' m) : judge kind m' = judge kind m := by
  cases kind with
  | and => simpa [judge] using c.all (Or.inr rfl)
  | or => simp [judge, c.empty, c.any rfl]
  | justOne => rw [c.same (by simp [andLike]) (by simp [orLike])]
  | atMostOne => rw [c.same (by simp [andLike]) (by simp [orLike])]

theorem rep_toList (p : PCls) (o : Option Bool) : Rep p o.toList o := by
  cases o with
  | none => rfl
  | some b => exact Or.inl rfl

theorem Comb.grp_eq {F F' : Tok → Bool} {T : Present} {kind} {l' l : List Dep}
    (c : Comb (.node kind) (membersAbs F' T l') (membersAbs F T l)) :
    satAbs F' T (.grp kind l') = satAbs F T (.grp kind l) := by
  rw [satAbs_grp, satAbs_grp, c.judge_eq, c.empty]

theorem finish_rep (F : Tok → Bool) (T : Present) (p : PCls) (kind : Kind) (l : List Dep)
    (hl : ∀ x ∈ l, presentNode F T x) :
    Rep p (membersAbs F T (finish p kind false l)) (satAbs F T (.grp kind l)) := by
  have rebuilt : Rep p (membersAbs F T [.grp kind l]) (satAbs F T (.grp kind l)) := by
    rw [membersAbs_cons, membersAbs_nil, List.append_nil]
    exact rep_toList p _
  rcases finish_cases p kind l with ⟨h, _⟩ | ⟨h, hw, hc⟩ <;> rw [h]
  · exact rebuilt
  · cases l with
    | nil =>
      rw [satAbs_grp, hw]
      rfl
    | cons y l₁ =>
      cases l₁ with
      | nil =>
        rw [satAbs_grp_singleton F T y hw, membersAbs_cons, membersAbs_nil, List.append_nil]
        exact rep_toList p _
      | cons z l' =>
        -- same class as the parent: the members join the parent's own; by `hl` the first is not absent, so neither is
        -- the group
        have hs : isSubclass p kind = true := hc.resolve_right (by simp)
        have hne : membersAbs F T (y :: z :: l') ≠ [] := membersAbs_ne_nil List.mem_cons_self (hl y (by simp))
        have he := List.isEmpty_eq_false_iff.mpr hne
        rw [satAbs_grp, he]
        rcases wipes_iff.mp hw with rfl | rfl
        · exact Or.inr (Or.inl ⟨isSubclass_and hs, hne, rfl⟩)
        · exact Or.inr (Or.inr ⟨isSubclass_or hs, hne, by simp only [judge, he, Bool.false_or]⟩)

theorem tameL_iff {cs : List Dep} : tameL cs = true ↔ ∀ c ∈ cs, tame c = true := by
  induction cs with
  | nil => simp [tameL]
  | cons c cs ih => simp [tameL, ih]

theorem membersOk_iff {cs : List Dep} : membersOk cs = true ↔ ∀ c ∈ cs, memberOk c = true := by
  induction cs with
  | nil => simp [membersOk]
  | cons c cs ih => simp [membersOk, ih]

/-- what evaluation emits: tame, never absent, and fit to stand inside `||` / `^^` / `??` -/
def goodNode (x : Dep) : Prop := tame x = true ∧ solid x = true ∧ memberOk x = true

theorem good_grp {kind} {l : List Dep} (hl : ∀ x ∈ l, goodNode x) (h : wipes kind = false ∨ l ≠ []) :
    goodNode (.grp kind l) := by
  have hsolid : solid (.grp kind l) = true := by
    simp only [solid, Bool.or_eq_true, Bool.not_eq_true']
    rcases h with h | h
    · exact Or.inl h
    · right
      cases l with
      | nil => exact absurd rfl h
      | cons y ys => simp [solidAny, (hl y (by simp)).2.1]
  refine ⟨?_, hsolid, hsolid⟩  -- on a group `memberOk` is `solid`
  simp [tame, tameL_iff.mpr fun x hx => (hl x hx).1, membersOk_iff.mpr fun x hx => (hl x hx).2.2]

theorem evalNode_good (F : Tok → Bool) : ∀ (t : Dep) (p : PCls), ∀ x ∈ evalNode F p t, goodNode x :=
  forall_mem_evalNode F (fun _ _ => by simp [goodNode, tame, solid, memberOk]) (fun _ _ => good_grp)

theorem evalNode_present (F F' : Tok → Bool) (T : Present) (t : Dep) (p : PCls) :
    ∀ x ∈ evalNode F p t, presentNode F' T x :=
  fun x hx => (solid_present F' T).1 x (evalNode_good F t p x hx).2.1

/-- the values of what evaluation emits stand for the value of the node, and for the members of a list of nodes,
whatever the parent class and the flag set the result is read under -/
theorem eval_rep (F F' : Tok → Bool) (T : Present) :
    (∀ t p, Rep p (membersAbs F' T (evalNode F p t)) (satAbs F T t)) ∧
      ∀ cs p, Comb p (membersAbs F' T (evalList F p cs)) (membersAbs F T cs) := by
  apply Dep.induct₂_cond
  case leaf =>
    intro k r p
    rw [evalNode, membersAbs_cons, membersAbs_nil, List.append_nil]
    exact rep_toList p _
  case grp =>
    intro kind cs ih p
    rw [evalNode, ← (ih (.node kind)).grp_eq]
    exact finish_rep F' T p kind _ fun x hx =>
      have ⟨c, _, hx⟩ := mem_evalList.mp hx
      evalNode_present F F' T c _ x hx
  case cond =>
    intro n f cs ih p
    rw [evalNode_cond, satAbs_cond]
    split
    · exact ih p
    · rfl
  case nil => exact Comb.nil
  case cons =>
    intro c cs hc hcs p
    rw [evalList_cons, membersAbs_append, membersAbs_cons]
    exact Comb.append (hc p) (hcs p)

theorem evalNode_rep (F F' : Tok → Bool) (T : Present) : ∀ (t : Dep) (p : PCls),
    Rep p (membersAbs F' T (evalNode F p t)) (satAbs F T t) ∧ ∀ x ∈ evalNode F p t, presentNode F' T x :=
  fun t p => ⟨(eval_rep F F' T).1 t p, evalNode_present F F' T t p⟩

theorem tameL_evaluateDepset (F : Tok → Bool) (ts : List Dep) (h : tameL ts = true) :
    tameL (evaluateDepset F ts) = true := by
  unfold evaluateDepset
  split
  · rw [finish_force]
    refine tameL_iff.mpr fun x hx => ?_
    obtain ⟨c, _, hx⟩ := mem_evalList.mp hx
    exact (evalNode_good F c _ x hx).1
  · exact h

end Pkgcore.C09
