import Pkgcore.Spec.C42
import Pkgcore.Proofs.Lib
/-!
# C42 — commands, names and files: what mentions no heap

The specification recurses on the command list from the front and the loop accepts commands one at a time, so `chain`,
`cur` and `movedKeys` are given their equations for a command appended at the end; a name that is the source of no
command has an empty chain and keeps its name.  `assoc` is `List.lookup`; `mods` changes by an entry appended at the
end and by `setTail`, and `readUpdates` maps and filters it (`assoc_map_filter`).  `UFile.le`, by which the scan sorts,
is transitive and total and implies `chronLe`.
-/
namespace Pkgcore.C42
open Spec

/-- the name a package originally called `k` has after the commands `cs` -/
def cur (k : Key) : List Cmd → Key
  | [] => k
  | c :: cs => cur (rename k c) cs

theorem rename_of_ne {k : Key} {c : Cmd} (h : c.srcKey ≠ k) : rename k c = k := by
  cases c <;> simp_all [rename, Cmd.srcKey]

theorem chain_cons (k : Key) (c : Cmd) (cs : List Cmd) :
    chain k (c :: cs) = (if c.srcKey = k then [c] else []) ++ chain (rename k c) cs := by
  by_cases h : c.srcKey = k
  · simp [chain, h]
  · simp [chain, h, rename_of_ne h]

theorem chain_append (k : Key) (cs : List Cmd) (c : Cmd) :
    chain k (cs ++ [c]) = chain k cs ++ (if c.srcKey = cur k cs then [c] else []) := by
  induction cs generalizing k with
  | nil => by_cases h : c.srcKey = k <;> simp [chain, cur, h]
  | cons d ds ih =>
    rw [List.cons_append, chain_cons, chain_cons, ih, cur, List.append_assoc]

theorem cur_append (k : Key) (cs : List Cmd) (c : Cmd) : cur k (cs ++ [c]) = rename (cur k cs) c := by
  induction cs generalizing k with
  | nil => simp [cur]
  | cons d ds ih => simp [cur, ih]

theorem movedKeys_append (cs : List Cmd) (c : Cmd) :
    movedKeys (cs ++ [c]) = movedKeys cs ++ (match c with | .move s _ => [s.key] | .slotmove _ _ _ => []) := by
  cases c <;> simp [movedKeys, List.filterMap_append]

theorem movedKeys_src {cs : List Cmd} {k : Key} (h : k ∈ movedKeys cs) : ∃ c ∈ cs, c.srcKey = k := by
  unfold movedKeys at h
  rw [List.mem_filterMap] at h
  obtain ⟨c, hc, hk⟩ := h
  cases c with
  | move s t => simp at hk; exact ⟨_, hc, hk⟩
  | slotmove s f t => simp at hk

theorem chain_cur_of_no_src (k : Key) (cs : List Cmd) (h : ∀ c ∈ cs, c.srcKey ≠ k) :
    chain k cs = [] ∧ cur k cs = k := by
  induction cs with
  | nil => simp [chain, cur]
  | cons d ds ih =>
    have hd : d.srcKey ≠ k := h d (by simp)
    have := ih (fun c hc => h c (by simp [hc]))
    simp [chain, cur, hd, rename_of_ne hd, this]

/-- every source has an entry (field `srcIn` of the invariant in `Proofs/C42`), so a name without one is no source -/
theorem absent_of_srcIn {mods : List (Key × Nat × Nat)} {cs : List Cmd}
    (h : ∀ c ∈ cs, (assoc c.srcKey mods).isSome) {k : Key} (hk : assoc k mods = none) :
    chain k cs = [] ∧ cur k cs = k := by
  apply chain_cur_of_no_src
  intro c hc e
  have := h c hc
  rw [e, hk] at this
  simp at this

theorem assoc_eq_lookup {β : Type} (k : Key) (l : List (Key × β)) : assoc k l = l.lookup k := by
  induction l with
  | nil => rfl
  | cons e l ih =>
    rw [assoc, List.lookup_cons, ih]
    by_cases h : e.1 = k
    · rw [if_pos h, beq_iff_eq.2 h.symm]
    · rw [if_neg h, beq_eq_false_iff_ne.2 (Ne.symm h)]

theorem assoc_append {β : Type} (k : Key) (l m : List (Key × β)) :
    assoc k (l ++ m) = (assoc k l).or (assoc k m) := by
  simp only [assoc_eq_lookup, List.lookup_append]

theorem assoc_none_iff {β : Type} (k : Key) (l : List (Key × β)) : assoc k l = none ↔ k ∉ l.map (·.1) := by
  rw [assoc_eq_lookup, Lib.lookup_eq_none_iff_not_mem]

theorem mem_of_assoc {β : Type} {k : Key} {l : List (Key × β)} {v : β} (h : assoc k l = some v) : (k, v) ∈ l :=
  Lib.mem_of_lookup_eq_some ((assoc_eq_lookup k l).symm.trans h)

theorem assoc_of_mem {β : Type} {k : Key} {l : List (Key × β)} {v : β} (nd : (l.map (·.1)).Nodup)
    (h : (k, v) ∈ l) : assoc k l = some v :=
  (assoc_eq_lookup k l).trans (Lib.lookup_eq_some_of_mem nd h)

theorem assoc_append_iff {β : Type} {k : Key} {l : List (Key × β)} (hk : assoc k l = none) (v : β) {k' : Key}
    {x : β} :
    assoc k' (l ++ [(k, v)]) = some x ↔ assoc k' l = some x ∨ (k' = k ∧ x = v) := by
  rw [assoc_append]
  cases h : assoc k' l with
  | some y => exact ⟨.inl, fun r => r.elim id (fun r => by rw [r.1, hk] at h; cases h)⟩
  | none => simp [assoc, @eq_comm _ k, @eq_comm _ v]

theorem assoc_map_filter {β γ : Type} (g : Key × β → γ) (p : Key × γ → Bool) (k : Key) (l : List (Key × β))
    (nd : (l.map (·.1)).Nodup) :
    assoc k ((l.map fun e => (e.1, g e)).filter p)
      = match assoc k l with
        | some v => if p (k, g (k, v)) then some (g (k, v)) else none
        | none => none := by
  induction l with
  | nil => rfl
  | cons e l ih =>
    obtain ⟨a, b⟩ := e
    rw [List.map_cons, List.nodup_cons] at nd
    have ih := ih nd.2
    by_cases ha : a = k
    · subst ha
      rw [(assoc_none_iff _ _).2 nd.1] at ih
      by_cases hp : p (a, g (a, b)) <;> simp [hp, assoc, ih]
    · by_cases hp : p (a, g (a, b)) <;> simp [hp, assoc, ha, ih]

theorem keys_setTail (y : Key) (d : Nat) (mods : List (Key × Nat × Nat)) :
    (setTail y d mods).map (·.1) = mods.map (·.1) := by
  unfold setTail
  rw [List.map_map]
  apply List.map_congr_left
  intro e _
  by_cases h : e.1 = y <;> simp [h]

theorem assoc_setTail (y : Key) (d : Nat) (mods : List (Key × Nat × Nat)) (k : Key) :
    assoc k (setTail y d mods) = (assoc k mods).map fun v => if k = y then (v.1, d) else v := by
  induction mods with
  | nil => simp [setTail, assoc]
  | cons e l ih =>
    obtain ⟨a, b, c⟩ := e
    have ih' : assoc k (List.map (fun e => if e.1 = y then (e.1, e.2.1, d) else e) l)
        = (assoc k l).map fun v => if k = y then (v.1, d) else v := ih
    by_cases ha : a = k
    · subst ha
      by_cases hy : a = y <;> simp [setTail, assoc, hy]
    · by_cases hy : a = y
      · subst hy; simp [setTail, assoc, ha, ih']
      · simp [setTail, assoc, hy, ha, ih']

theorem assoc_setTail_cases {y : Key} {d : Nat} {mods : List (Key × Nat × Nat)} {dy u : Nat}
    (ey : assoc y mods = some (dy, u)) {k : Key} {h w : Nat} :
    assoc k (setTail y d mods) = some (h, w) ↔
      (k = y ∧ h = dy ∧ w = d) ∨ (k ≠ y ∧ assoc k mods = some (h, w)) := by
  rw [assoc_setTail]
  by_cases hk : k = y
  · subst hk
    simp only [ey, Option.map_some, if_true, Option.some.injEq, Prod.mk.injEq, true_and, ne_eq, not_true_eq_false,
      false_and, or_false]
    exact ⟨fun r => ⟨r.1.symm, r.2.symm⟩, fun r => ⟨r.1.symm, r.2.symm⟩⟩
  · simp only [hk, if_false, false_and, false_or, ne_eq, not_false_eq_true, true_and]
    cases assoc k mods <;> simp only [Option.map_some, Option.map_none]

attribute [local instance] lexOrd

theorem UFile.le_trans (a b c : UFile) (h1 : UFile.le a b = true) (h2 : UFile.le b c = true) :
    UFile.le a c = true := by
  unfold UFile.le at *
  exact Std.TransCmp.isLE_trans h1 h2

theorem UFile.le_total (a b : UFile) : (UFile.le a b || UFile.le b a) = true := by
  unfold UFile.le
  rw [Std.OrientedCmp.eq_swap (cmp := compare) (a := a.sortKey) (b := b.sortKey)]
  cases compare b.sortKey a.sortKey <;> rfl

theorem UFile.le_chron (a b : UFile) (h : UFile.le a b = true) : chronLe a b := by
  unfold UFile.le UFile.sortKey at h
  rw [Lib.lex_pair, Lib.lex_pair] at h
  unfold chronLe
  cases hy : compare (a.key.getD (0, 0)).1 (b.key.getD (0, 0)).1 with
  | lt => exact .inl (Nat.compare_eq_lt.1 hy)
  | gt => rw [hy] at h; cases h
  | eq =>
    rw [hy] at h
    exact .inr ⟨Nat.compare_eq_eq.1 hy, Nat.compare_ne_gt.1 fun e => by rw [e] at h; cases h⟩

end Pkgcore.C42
