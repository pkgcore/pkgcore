import Pkgcore.Spec.C43
import Pkgcore.Proofs.Lib
/-! C43: the notions of the property statements (`stkOf`, `WF`, `sourcesAfter`); the lookup table as a function of the
sources (`stkOf_foldl`); over an arbitrary stack function, the breadth-first generations of the specification, the queue
identity `upTo_queue`, the relation `Walks` with its two equations, and that a walk that ends has met no missing target
and no cycle; then the `for` loops of `_get_inherited_sections`: one pass over an inherit list succeeds exactly when
every name has a target and none is repeated (`expand_iff`), the loop returns `l` exactly when `Walks … l` (`loop_iff`);
`collapse_section` on a given root node (`collapseNode`, shared by named and anonymous sections); the invariant of the
manager over a history (`MInv`). -/
namespace Pkgcore.C43
open Pkgcore.C43.Spec

/-- the stack of a name in the model's table, as a plain list -/
def stkOf (lk : Lookup) (n : Name) : List Sec := (lk.lookup n).getD []

/-- config sources are mappings: a section name occurs once per source -/
def WF (sources : List Source) : Prop := ∀ src ∈ sources, (src.map (·.1)).Nodup

/-- `original_config_sources` after a history: only `add_config_source` changes it -/
def sourcesAfter : List Source → List MOp → List Source
  | s, [] => s
  | s, .addSource src :: ops => sourcesAfter (s ++ [src]) ops
  | s, .collapse _ :: ops => sourcesAfter s ops
  | s, .reload :: ops => sourcesAfter s ops
  | s, .collapseAnon _ :: ops => sourcesAfter s ops

theorem sourcesAfter_cons (s : List Source) (op : MOp) (ops : List MOp) :
    sourcesAfter s (op :: ops) = sourcesAfter (sourcesAfter s [op]) ops := by
  cases op <;> rfl

theorem stackOf_eq (lk : Lookup) (n : Name) :
    stackOf lk n = match stkOf lk n with | [] => none | c :: r => some (c, r) := by
  unfold stackOf stkOf
  cases h : lk.lookup n with
  | none => simp
  | some st => cases st <;> simp

theorem stackOf_some_iff (lk : Lookup) (i : Name) (c : Sec) (r : List Sec) :
    stackOf lk i = some (c, r) ↔ stkOf lk i = c :: r := by
  rw [stackOf_eq]
  cases stkOf lk i <;> simp

theorem stackOf_none_iff (lk : Lookup) (i : Name) : stackOf lk i = none ↔ stkOf lk i = [] := by
  rw [stackOf_eq]
  cases stkOf lk i <;> simp

theorem Spec.stackOf_cons (sources : List Source) (src : Source) (m : Name) :
    Spec.stackOf (src :: sources) m = Spec.stackOf sources m ++ (src.lookup m).toList := by
  unfold Spec.stackOf
  simp only [List.reverse_cons, List.filterMap_append, List.filterMap_cons, List.filterMap_nil]
  cases src.lookup m <;> simp

theorem lookup_cons_ite {α β : Type} [DecidableEq α] (k a : α) (b : β) (l : List (α × β)) :
    ((k, b) :: l).lookup a = if a = k then some b else l.lookup a := by
  rw [List.lookup_cons]
  by_cases h : a = k
  · simp [h]
  · rw [beq_eq_false_iff_ne.2 h, if_neg h]

theorem stkOf_cons (k : Name) (st : List Sec) (lk : Lookup) (m : Name) :
    stkOf ((k, st) :: lk) m = if m = k then st else stkOf lk m := by
  unfold stkOf
  rw [lookup_cons_ite]
  split <;> rfl

theorem stkOf_pushLeft (lk : Lookup) (n : Name) (s : Sec) (m : Name) :
    stkOf (pushLeft lk n s) m = if m = n then s :: stkOf lk m else stkOf lk m := by
  fun_induction pushLeft lk n s with
  | case1 n s => exact stkOf_cons n [s] [] m
  | case2 st lk n s =>
    rw [stkOf_cons, stkOf_cons]
    by_cases hm : m = n
    · simp only [if_pos hm]
    · simp only [if_neg hm]
  | case3 k st lk n s h ih =>
    rw [stkOf_cons, stkOf_cons, ih]
    by_cases hm : m = k
    · simp only [if_pos hm, if_neg (hm ▸ h : ¬ m = n)]
    · simp only [if_neg hm]

theorem stkOf_integrate (src : Source) (lk : Lookup) (m : Name) (hnd : (src.map (·.1)).Nodup) :
    stkOf (integrate lk src) m = (src.lookup m).toList ++ stkOf lk m := by
  induction src generalizing lk with
  | nil => rfl
  | cons p src ih =>
    obtain ⟨n, s⟩ := p
    obtain ⟨hn, hnd⟩ := List.nodup_cons.1 hnd
    show stkOf (integrate (pushLeft lk n s) src) m = _
    rw [ih _ hnd, lookup_cons_ite]
    by_cases h : m = n
    · subst h
      simp [stkOf_pushLeft, Lib.lookup_eq_none_iff_not_mem.2 hn]
    · simp [stkOf_pushLeft, h]

theorem stkOf_foldl (sources : List Source) (lk : Lookup) (m : Name) (hwf : WF sources) :
    stkOf (sources.foldl integrate lk) m = Spec.stackOf sources m ++ stkOf lk m := by
  induction sources generalizing lk with
  | nil => simp [Spec.stackOf]
  | cons src sources ih =>
    simp only [List.foldl_cons]
    rw [ih _ (fun s hs => hwf s (by simp [hs])), stkOf_integrate _ _ _ (hwf src (by simp)), Spec.stackOf_cons]
    simp

section
variable (stk : Name → List Sec)

theorem lev_nil (d : Nat) : lev stk d [] = [] := by
  induction d with
  | zero => rfl
  | succ d ih => simpa [lev] using ih

theorem lev_append (d : Nat) (a b : List Entry) : lev stk d (a ++ b) = lev stk d a ++ lev stk d b := by
  induction d generalizing a b with
  | zero => rfl
  | succ d ih => simp [lev, List.flatMap_append, ih]

theorem lev_succ_last (d : Nat) (q : List Entry) : lev stk (d + 1) q = (lev stk d q).flatMap (kids stk) := by
  induction d generalizing q with
  | zero => rfl
  | succ d ih => exact ih (q.flatMap (kids stk))

theorem lev_eq_nil_succ (d : Nat) (q : List Entry) (h : lev stk d q = []) : lev stk (d + 1) q = [] := by
  rw [lev_succ_last, h]
  rfl

theorem lev_eq_nil_of_le (d d' : Nat) (q : List Entry) (h : lev stk d q = []) (hle : d ≤ d') : lev stk d' q = [] := by
  induction hle with
  | refl => exact h
  | step _ ih => exact lev_eq_nil_succ stk _ q ih

theorem lev_single_succ (D : Nat) (e : Entry) : lev stk (D + 1) [e] = lev stk D (kids stk e) := by
  simp [lev]

theorem upTo_nil (D : Nat) : upTo stk D [] = [] := by
  induction D with
  | zero => rfl
  | succ D ih => simpa [upTo] using ih

theorem upTo_eq_flatMap (D : Nat) (q : List Entry) : upTo stk D q = (List.range D).flatMap (lev stk · q) := by
  induction D generalizing q with
  | zero => rfl
  | succ D ih =>
    rw [upTo, ih, List.range_succ_eq_map, List.flatMap_cons, List.flatMap_map]
    rfl

theorem upTo_succ_last (D : Nat) (q : List Entry) : upTo stk (D + 1) q = upTo stk D q ++ lev stk D q := by
  rw [upTo_eq_flatMap, upTo_eq_flatMap, List.range_succ, List.flatMap_append, List.flatMap_singleton]

theorem upTo_stable (D D' : Nat) (q : List Entry) (h : lev stk D q = []) (hle : D ≤ D') :
    upTo stk D' q = upTo stk D q := by
  induction hle with
  | refl => rfl
  | step hle ih =>
    rw [upTo_succ_last, lev_eq_nil_of_le stk D _ q h hle, ih]
    simp

theorem mem_upTo (D d : Nat) (q : List Entry) (x : Entry) (hd : d < D) (hx : x ∈ lev stk d q) :
    x ∈ upTo stk D q := by
  rw [upTo_eq_flatMap]
  exact List.mem_flatMap.2 ⟨d, List.mem_range.2 hd, hx⟩

theorem mem_lev_succ (d : Nat) (q : List Entry) {b c : Entry} (hb : b ∈ lev stk d q) (hc : c ∈ kids stk b) :
    c ∈ lev stk (d + 1) q := by
  rw [lev_succ_last]
  exact List.mem_flatMap.2 ⟨b, hb, hc⟩

/-- the queue identity behind breadth-first search: visiting `a` first and queueing its children behind `b`
enumerates the same sequence as the generations of `a ++ b` — as far as `upTo` cuts neither short, hence `h` -/
theorem upTo_queue (D : Nat) (a b : List Entry) (h : lev stk D (b ++ a.flatMap (kids stk)) = []) :
    upTo stk (D + 1) (a ++ b) = a ++ upTo stk D (b ++ a.flatMap (kids stk)) := by
  induction D generalizing a b with
  | zero =>
    have hb : b = [] := (List.append_eq_nil_iff.1 h).1
    simp [upTo, hb]
  | succ D ih =>
    have h' : lev stk D ((b.flatMap (kids stk)) ++ (a.flatMap (kids stk)).flatMap (kids stk)) = [] := by
      simpa [lev, List.flatMap_append] using h
    show (a ++ b) ++ upTo stk (D + 1) ((a ++ b).flatMap (kids stk)) = a ++ upTo stk (D + 1) (b ++ a.flatMap (kids stk))
    rw [List.flatMap_append, ih _ _ h']
    simp [upTo, List.flatMap_append, List.append_assoc]

/-- visiting `e`: a depth `D` that exhausts the queue behind it gives depth `D + 1` for `e :: q'` (`upTo_queue` with
`a = [e]`) -/
theorem queue_step (D : Nat) (e : Entry) (q' : List Entry) (h : lev stk D (q' ++ kids stk e) = []) :
    lev stk (D + 1) (e :: q') = [] ∧ upTo stk (D + 1) (e :: q') = e :: upTo stk D (q' ++ kids stk e) := by
  refine ⟨?_, by simpa using upTo_queue stk D [e] q' (by simpa using h)⟩
  obtain ⟨hq, he⟩ := List.append_eq_nil_iff.1 (lev_append stk D q' _ ▸ h)
  rw [← lev_single_succ] at he
  rw [← List.singleton_append, lev_append, he, lev_eq_nil_succ stk D q' hq]
  rfl

/-- the converse, with the same `D` on both sides: generation `D` of `e :: q'` is empty already, so one generation more
adds nothing (`upTo_stable`) -/
theorem queue_pop (D : Nat) (e : Entry) (q' : List Entry) (h : lev stk D (e :: q') = []) :
    lev stk D (q' ++ kids stk e) = [] ∧ upTo stk D (e :: q') = e :: upTo stk D (q' ++ kids stk e) := by
  obtain ⟨he, hq⟩ := List.append_eq_nil_iff.1 (lev_append stk D [e] q' ▸ h)
  have hq' : lev stk D (q' ++ kids stk e) = [] := by
    rw [lev_append, hq, ← lev_single_succ, lev_eq_nil_succ stk D [e] he]; rfl
  exact ⟨hq', by rw [← (queue_step stk D e q' hq').2, upTo_stable stk D (D + 1) _ h (Nat.le_succ D)]⟩

theorem dangling_false_iff (e : Entry) :
    dangling stk e = false ↔ ∀ i ∈ inherits e, (target stk e i).isSome = true := by
  simp [dangling, Option.isSome_iff_ne_none]

/-- `l` is `acc` (reversed), then everything below the queue `q` breadth-first — generation after generation until one
is empty —, every inherit target on the way exists, and no name is inherited that is in `v` or was inherited before -/
def Walks (q : List Entry) (v : List Name) (acc l : List Entry) : Prop :=
  ∃ D, lev stk D q = [] ∧ l = acc.reverse ++ upTo stk D q ∧ (∀ e ∈ upTo stk D q, dangling stk e = false) ∧
    (v ++ (upTo stk D q).flatMap nonSelf).Nodup

theorem walks_nil (v : List Name) (acc l : List Entry) (hv : v.Nodup) : Walks stk [] v acc l ↔ l = acc.reverse := by
  constructor
  · rintro ⟨D, _, rfl, _⟩
    rw [upTo_nil, List.append_nil]
  · rintro rfl
    exact ⟨0, rfl, (List.append_nil _).symm, nofun, by rwa [upTo, List.flatMap_nil, List.append_nil]⟩

theorem walks_cons (e : Entry) (q' : List Entry) (v : List Name) (acc l : List Entry) :
    Walks stk (e :: q') v acc l ↔
      dangling stk e = false ∧ Walks stk (q' ++ kids stk e) (v ++ nonSelf e) (e :: acc) l := by
  constructor
  · rintro ⟨D, h1, rfl, h3, hnd⟩
    obtain ⟨g1, g2⟩ := queue_pop stk D e q' h1
    rw [g2] at h3 hnd ⊢
    exact ⟨h3 e List.mem_cons_self, D, g1, by simp, fun x hx => h3 x (List.mem_cons_of_mem _ hx),
      by simpa using hnd⟩
  · rintro ⟨he, D, h1, rfl, h3, hnd⟩
    obtain ⟨g1, g2⟩ := queue_step stk D e q' h1
    refine ⟨D + 1, g1, ?_⟩
    rw [g2]
    exact ⟨by simp, fun x hx => (List.mem_cons.1 hx).elim (· ▸ he) (h3 x), by simpa using hnd⟩

theorem reach_in_lev (r e : Entry) (h : Reach stk r e) : ∃ d, e ∈ lev stk d [r] := by
  induction h with
  | refl => exact ⟨0, by simp [lev]⟩
  | step _ hc ih =>
    obtain ⟨d, hd⟩ := ih
    exact ⟨d + 1, mem_lev_succ stk d _ hd hc⟩

theorem reachPlus_later_lev (q : List Entry) (a b : Entry) (h : ReachPlus stk a b) (d : Nat) (ha : a ∈ lev stk d q) :
    ∃ d', d < d' ∧ b ∈ lev stk d' q := by
  induction h with
  | one hc => exact ⟨d + 1, by omega, mem_lev_succ stk d q ha hc⟩
  | step _ hc ih =>
    obtain ⟨d', hlt, hb⟩ := ih
    exact ⟨d' + 1, by omega, mem_lev_succ stk d' q hb hc⟩

theorem cycle_unbounded (q : List Entry) (e : Entry) (hc : ReachPlus stk e e) (d : Nat) (he : e ∈ lev stk d q)
    (n : Nat) :
    ∃ d', n ≤ d' ∧ e ∈ lev stk d' q := by
  induction n with
  | zero => exact ⟨d, by omega, he⟩
  | succ n ih =>
    obtain ⟨d', hle, hd'⟩ := ih
    obtain ⟨d'', hlt, hd''⟩ := reachPlus_later_lev stk q e e hc d' hd'
    exact ⟨d'', by omega, hd''⟩

/-- the hypotheses are the first and third component of `Walks stk [r] …` -/
theorem no_missing_no_cycle (r : Entry) (D : Nat) (hend : lev stk D [r] = [])
    (hdang : ∀ e ∈ upTo stk D [r], dangling stk e = false) : ¬ Missing stk r ∧ ¬ Cyclic stk r := by
  have hnil : ∀ d x, D ≤ d → x ∉ lev stk d [r] := fun d x hle hx => by
    rw [lev_eq_nil_of_le stk D d [r] hend hle] at hx
    cases hx
  constructor
  · rintro ⟨e, hr, hd⟩
    obtain ⟨d, hed⟩ := reach_in_lev stk r e hr
    have hlt : d < D := Nat.lt_of_not_le fun hle => hnil d e hle hed
    rw [hdang e (mem_upTo stk D d [r] e hlt hed)] at hd
    cases hd
  · rintro ⟨e, hr, hc⟩
    obtain ⟨d, hed⟩ := reach_in_lev stk r e hr
    obtain ⟨d', hle, hd'⟩ := cycle_unbounded stk [r] e hc d hed D
    exact hnil d' e hle hd'

end

/-- `v'.Nodup` says that no name other than `e`'s own is in `v` or occurs twice in `inh` -/
theorem expand_iff (lk : Lookup) (e : Entry) (inh : List Name) (v : List Name) (adds adds' : List Entry)
    (v' : List Name) (hv : v.Nodup) :
    expand lk e.name e.rest inh v adds = .ok (adds', v') ↔
      (∀ i ∈ inh, (target (stkOf lk) e i).isSome = true) ∧ v'.Nodup ∧
      adds' = adds ++ inh.filterMap (target (stkOf lk) e) ∧ v' = v ++ inh.filter (· ≠ e.name) := by
  -- no name left; `e`'s own name without, with an earlier section; a name inherited before; one without, with a section
  fun_induction expand lk e.name e.rest inh v adds with
  | case1 v adds =>
    simp only [Except.ok.injEq, Prod.mk.injEq, List.filterMap_nil, List.filter_nil, List.append_nil]
    exact ⟨fun ⟨h1, h2⟩ => ⟨nofun, h2 ▸ hv, h1.symm, h2.symm⟩,
      fun ⟨_, _, h1, h2⟩ => ⟨h1.symm, h2.symm⟩⟩
  | case2 is v adds hr =>
    exact iff_of_false nofun fun h => by simpa [target, hr] using h.1 _ List.mem_cons_self
  | case3 is v adds c r hr ih =>
    have ht : target (stkOf lk) e e.name = some ⟨e.name, c, r⟩ := by simp [target, hr]
    rw [← hr, ih hv, List.forall_mem_cons, List.filterMap_cons, ht, List.filter_cons_of_neg (by simp),
      List.append_assoc]
    exact and_congr_left' (and_iff_right rfl).symm
  | case4 i is v adds hic hiv =>
    -- `i ∈ v` is the one test that `target` does not make: it is what `v'.Nodup` excludes
    refine iff_of_false nofun fun ⟨_, hnd, _, hv'⟩ => ?_
    rw [hv', List.filter_cons_of_pos (by simpa using hic)] at hnd
    exact (List.nodup_append.1 hnd).2.2 i hiv i List.mem_cons_self rfl
  | case5 i is v adds hic hiv hs =>
    exact iff_of_false nofun fun h => by
      simpa [target, hic, (stackOf_none_iff lk i).1 hs] using h.1 _ List.mem_cons_self
  | case6 i is v adds hic hiv c r hs ih =>
    have ht : target (stkOf lk) e i = some ⟨i, c, r⟩ := by simp [target, hic, (stackOf_some_iff lk i c r).1 hs]
    have hv1 : (v ++ [i]).Nodup :=
      List.nodup_append.2 ⟨hv, List.nodup_cons.2 ⟨List.not_mem_nil, List.nodup_nil⟩,
        fun a ha b hb e => hiv (by rw [← List.mem_singleton.1 hb, ← e]; exact ha)⟩
    rw [ih hv1, List.forall_mem_cons, List.filterMap_cons, ht, List.filter_cons_of_pos (by simpa using hic),
      List.append_assoc, List.append_assoc]
    exact and_congr_left' (and_iff_right rfl).symm

theorem loop_iff (lk : Lookup) (q : List Entry) (v : List Name) (acc l : List Entry) (hv : v.Nodup) :
    loop lk q v acc = .ok l ↔ Walks (stkOf lk) q v acc l := by
  fun_induction loop lk q v acc
  · -- the queue is empty
    rw [walks_nil _ _ _ _ hv, Except.ok.injEq, eq_comm]
  · -- `e` has no `inherit` key
    rename_i v acc e q' hinh ih
    rw [ih hv, walks_cons, kids, nonSelf, inherits, hinh]
    simp [dangling, inherits, hinh]
  · -- `expand` fails
    rename_i v acc e q' inh hinh err hex
    rw [walks_cons, dangling_false_iff]
    refine iff_of_false nofun fun ⟨hd, _, _, _, _, hnd⟩ => ?_
    simp only [nonSelf, inherits, hinh, Option.getD_some] at hd hnd
    have := (expand_iff lk e inh v [] _ _ hv).2 ⟨hd, (List.nodup_append.1 hnd).1, rfl, rfl⟩
    rw [hex] at this
    cases this
  · -- `expand` succeeds
    rename_i v acc e q' inh hinh adds v' hex ih
    obtain ⟨ht, hv', rfl, rfl⟩ := (expand_iff lk e inh v [] _ _ hv).1 hex
    rw [ih hv', walks_cons, kids, nonSelf, inherits, hinh]
    exact (and_iff_right (by simpa [dangling_false_iff, inherits, hinh] using ht)).symm

theorem mem_dedup (l : List String) (x : String) : x ∈ dedup l ↔ x ∈ l := by
  induction l with
  | nil => simp [dedup]
  | cons a l ih =>
    simp only [dedup, List.mem_cons, List.mem_filter, ih]
    by_cases h : x = a <;> simp [h]

theorem nodup_dedup (l : List String) : (dedup l).Nodup := by
  induction l with
  | nil => simp [dedup]
  | cons a l ih =>
    simp only [dedup, List.nodup_cons]
    exact ⟨by simp [List.mem_filter], ih.filter _⟩

theorem lookup_filterMap_keys (keys : List String) (f : String → Option String) (k : String) :
    (keys.filterMap (fun k => (f k).map (k, ·))).lookup k = if k ∈ keys then f k else none := by
  induction keys with
  | nil => rfl
  | cons a keys ih =>
    rw [List.filterMap_cons]
    cases hf : f a with
    | none =>
      rw [Option.map_none, ih]
      by_cases hka : k = a <;> simp [hka, hf]
    | some v =>
      rw [Option.map_some, lookup_cons_ite, ih]
      by_cases hka : k = a <;> simp [hka, hf]

theorem keys_filterMap (keys : List String) (f : String → Option String) :
    (keys.filterMap (fun k => (f k).map (k, ·))).map (·.1) = keys.filter (fun k => (f k).isSome) := by
  induction keys with
  | nil => rfl
  | cons a keys ih =>
    rw [List.filterMap_cons, List.filter_cons]
    cases hf : f a <;> simp [ih]

theorem firstDef_eq_none (k : String) (slist : List Entry)
    (h : k ∉ slist.flatMap (fun e => e.conf.items.map (·.1))) : firstDef k slist = none :=
  List.findSome?_eq_none_iff.2 fun e he =>
    Lib.lookup_eq_none_iff_not_mem.2 fun hk => h (List.mem_flatMap.2 ⟨e, he, hk⟩)

theorem firstDef_eq_value : firstDef = Spec.value := rfl

theorem finish_ok (slist : List Entry) (cfg : List (String × String)) (h : finish slist = .ok cfg) :
    (firstDef "class" slist).isSome = true ∧
      (∀ k, cfg.lookup k = if k ∈ specialKeys then none else firstDef k slist) ∧ (cfg.map (·.1)).Nodup := by
  unfold finish at h
  split at h
  · cases h
  · next hc =>
    simp only [Except.ok.injEq] at h
    subst h
    refine ⟨by rw [hc]; rfl, fun k => ?_, ?_⟩
    · rw [lookup_filterMap_keys]
      by_cases hk : k ∈ specialKeys
      · simp [hk]
      · by_cases hm : k ∈ slist.flatMap (fun e => e.conf.items.map (·.1))
        · simp [hk, hm, mem_dedup]
        · simp [hk, hm, mem_dedup, firstDef_eq_none k slist hm]
    · rw [keys_filterMap]
      exact (((nodup_dedup _).filter _).filter _)

/-- `collapse_section` on a given stack: what `collapse` and `collapseAnon` do once the root node `e` is known -/
def collapseNode (lk : Lookup) (e : Entry) : Except Err Cfg :=
  if e.conf.inheritOnly then .error .inheritOnly
  else match loop lk [e] [e.name] [] with
    | .error err => .error err
    | .ok slist => finish slist

theorem root_eq (lk : Lookup) (name : Name) :
    Spec.root (stkOf lk) name = (stackOf lk name).map (fun p => ⟨name, p.1, p.2⟩) := by
  rw [stackOf_eq]
  unfold Spec.root
  cases stkOf lk name <;> rfl

theorem collapse_eq (lk : Lookup) (name : Name) :
    collapse lk name = match Spec.root (stkOf lk) name with
      | none => .error (.noSection name)
      | some r => collapseNode lk r := by
  rw [root_eq]
  unfold collapse
  cases stackOf lk name <;> rfl

theorem collapseAnon_eq (lk : Lookup) (sec : Sec) : collapseAnon lk sec = collapseNode lk ⟨anonName, sec, []⟩ := rfl

theorem inherited_eq (lk : Lookup) (name : Name) :
    inherited lk name = match Spec.root (stkOf lk) name with
      | none => .error (.noSection name)
      | some r => loop lk [r] [r.name] [] := by
  rw [root_eq]
  unfold inherited
  cases stackOf lk name <;> rfl

theorem collapseNode_ok (lk : Lookup) (r : Entry) (cfg : Cfg) (h : collapseNode lk r = .ok cfg) :
    ∃ D, lev (stkOf lk) D [r] = [] ∧
      (∀ k, k ∉ specialKeys → cfg.lookup k = Spec.value k (upTo (stkOf lk) D [r])) ∧
      (∀ k, k ∈ specialKeys → cfg.lookup k = none) ∧ (cfg.map (·.1)).Nodup ∧
      (Spec.value "class" (upTo (stkOf lk) D [r])).isSome = true ∧
      ∀ e ∈ upTo (stkOf lk) D [r], dangling (stkOf lk) e = false := by
  unfold collapseNode at h
  split at h
  · cases h
  · split at h
    · cases h
    · next slist hl =>
      obtain ⟨D, h1, rfl, h3, -⟩ := (loop_iff _ _ _ _ _ (List.pairwise_singleton _ _)).1 hl
      obtain ⟨hc, hk, hnd⟩ := finish_ok (upTo (stkOf lk) D [r]) _ h
      exact ⟨D, h1, fun k hk' => by rw [hk, if_neg hk', firstDef_eq_value], fun k hk' => by rw [hk, if_pos hk'], hnd,
        firstDef_eq_value ▸ hc, h3⟩

theorem collapseNode_complete (lk : Lookup) (r : Entry) (D : Nat) (hio : r.conf.inheritOnly = false)
    (htree : TreeShaped (stkOf lk) r D)
    (hclass : (Spec.value "class" (upTo (stkOf lk) D [r])).isSome = true) :
    ∃ cfg, collapseNode lk r = .ok cfg := by
  obtain ⟨h1, h2, h3⟩ := htree
  obtain ⟨v, hv⟩ := Option.isSome_iff_exists.1 hclass
  rw [← firstDef_eq_value] at hv
  unfold collapseNode finish
  rw [if_neg (ne_true_of_eq_false hio), (loop_iff _ _ _ _ _ (List.pairwise_singleton _ _)).2 ⟨D, h1, rfl, h2, h3⟩]
  simp only [List.reverse_nil, List.nil_append, hv]
  exact ⟨_, rfl⟩

theorem collapseNode_error (lk : Lookup) (r : Entry) (hbad : Missing (stkOf lk) r ∨ Cyclic (stkOf lk) r) :
    ∃ err, collapseNode lk r = .error err := by
  cases hc : collapseNode lk r with
  | error err => exact ⟨err, rfl⟩
  | ok cfg =>
    obtain ⟨D, h1, -, -, -, -, h3⟩ := collapseNode_ok _ _ _ hc
    exact absurd hbad (not_or.2 (no_missing_no_cycle _ r D h1 h3))

/-- `m` is a manager over the sources `s`: its table is the one built from `s`, and every rendered section is what
collapsing would give now -/
def MInv (s : List Source) (m : Mgr) : Prop :=
  m.sources = s ∧ m.lookup = buildLookup s ∧ ∀ n c, m.cache.lookup n = some c → collapse m.lookup n = .ok c

theorem minv_reload (m : Mgr) : MInv m.sources m.reload := ⟨rfl, rfl, nofun⟩

theorem minv_init (s : List Source) : MInv s (Mgr.init s) := minv_reload _

theorem minv_step (s : List Source) (m : Mgr) (op : MOp) (h : MInv s m) : MInv (sourcesAfter s [op]) (m.step op).1 := by
  obtain ⟨rfl, hlk, hcache⟩ := h
  cases op with
  | collapse n =>
    simp only [Mgr.step]
    split
    · exact ⟨rfl, hlk, hcache⟩
    · split
      · next c hcol =>
        refine ⟨rfl, hlk, fun n' c' hl => ?_⟩
        rw [lookup_cons_ite] at hl
        split at hl
        · next hn => cases hl; exact hn ▸ hcol
        · exact hcache n' c' hl
      · exact ⟨rfl, hlk, hcache⟩
  | addSource src => exact minv_reload _
  | reload => exact minv_reload _
  | collapseAnon sec => exact ⟨rfl, hlk, hcache⟩

theorem minv_run (s : List Source) (ops : List MOp) (m : Mgr) (h : MInv s m) :
    MInv (sourcesAfter s ops) (Mgr.run m ops).1 := by
  induction ops generalizing s m with
  | nil => exact h
  | cons op ops ih =>
    rw [sourcesAfter_cons]
    exact ih _ _ (minv_step s m op h)

theorem run_getElem (m : Mgr) (pre : List MOp) (op : MOp) (post : List MOp) :
    (Mgr.run m (pre ++ op :: post)).2[pre.length]? = some ((Mgr.run m pre).1.step op).2 := by
  induction pre generalizing m with
  | nil => rfl
  | cons x pre ih => exact ih _

theorem step_collapse_of_inv (s : List Source) (m : Mgr) (h : MInv s m) (n : Name) :
    (m.step (.collapse n)).2 = some (collapse (buildLookup s) n) := by
  rw [← h.2.1]
  simp only [Mgr.step]
  cases hc : m.cache.lookup n with
  | some c => simp [h.2.2 n c hc]
  | none =>
    simp only
    cases collapse m.lookup n <;> rfl

/-- an anonymous collapse never looks at (or changes) the rendered sections -/
theorem step_collapseAnon_of_inv (s : List Source) (m : Mgr) (h : MInv s m) (sec : Sec) :
    (m.step (.collapseAnon sec)).2 = some (collapseAnon (buildLookup s) sec) := by
  rw [← h.2.1]
  rfl

end Pkgcore.C43
