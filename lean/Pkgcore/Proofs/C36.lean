import Pkgcore.Spec.C36
/-!
`Chained` and `lastLeft` speak of the list of executed steps alone.  Then what each `_verify` outcome means in the
specification's terms (`verify_spec`, and `verify_left_ok_iff`/`_chksum_iff` for the file a run leaves); then the loop:
`fetch_succ` is one iteration and both inductions on the attempt budget rewrite with it; `fetch_returned_iff`
characterises returning by the specification's `firstDecisive` (`firstDecisive_iff` is its ∃-form); `RunSpec` lists what
holds of every run (`fetch_spec`), and its consequences are drawn from it alone: what a returning run looks like, and
that a step leaving a file `_verify` accepts or gives up on decides the result.
-/
namespace Pkgcore.C36
open Pkgcore.C36.Spec

/-- every executed step starts from what the previous one left; the first from the initial file -/
def Chained : File → List Step → Prop
  | _, [] => True
  | f, s :: rest => s.seen = f ∧ Chained s.left rest

/-- the last state of a chained run -/
def lastLeft : File → List Step → File
  | f, [] => f
  | _, s :: rest => lastLeft s.left rest

theorem lastLeft_getLast (f : File) (steps : List Step) :
    (steps = [] ∧ lastLeft f steps = f) ∨ ∃ s, steps.getLast? = some s ∧ lastLeft f steps = s.left := by
  induction steps generalizing f with
  | nil => exact Or.inl ⟨rfl, rfl⟩
  | cons s rest ih =>
    right
    rcases ih s.left with ⟨h0, h⟩ | ⟨s', hs', h⟩
    · subst h0; exact ⟨s, rfl, rfl⟩
    · refine ⟨s', ?_, h⟩
      cases rest with
      | nil => cases hs'
      | cons a rest' => rwa [List.getLast?_cons_cons]

/-- every file a step leaves gets verified: a later step saw it at the top of its iteration, or it is the last state,
verified where the run ends -/
theorem chained_left (f : File) (steps : List Step) (hc : Chained f steps) (s : Step) (hs : s ∈ steps) :
    s.left = lastLeft f steps ∨ ∃ s' ∈ steps, s'.seen = s.left := by
  induction steps generalizing f with
  | nil => cases hs
  | cons a rest ih =>
    rcases List.mem_cons.1 hs with rfl | hs
    · cases rest with
      | nil => exact Or.inl rfl
      | cons b rest' => exact Or.inr ⟨b, List.mem_cons_of_mem _ List.mem_cons_self, hc.2.1⟩
    · exact (ih _ hc.2 hs).imp id fun ⟨s', h', e⟩ => ⟨s', List.mem_cons_of_mem _ h', e⟩

theorem verifySums_eq_ok (t : Target) (ok : Bool) : verifySums t ok = .ok ↔ (!t.other || ok) = true := by
  unfold verifySums; cases t.other <;> cases ok <;> decide

theorem verifySums_eq_chksum (t : Target) (ok : Bool) : verifySums t ok = .chksum ↔ (t.other && !ok) = true := by
  unfold verifySums; cases t.other <;> cases ok <;> decide

theorem verifySums_ne_tooSmall (t : Target) (ok : Bool) : verifySums t ok ≠ .tooSmall := by
  unfold verifySums; split <;> exact V.noConfusion

theorem verifySums_ne_empty (t : Target) (ok : Bool) : verifySums t ok ≠ .empty := by
  unfold verifySums; split <;> exact V.noConfusion

structure VerifySpec (t : Target) (f : File) : Prop where
  ok : verify t f = .ok ↔ (Verified t f = true ∧ (t.size.isSome = true ∨ File.nonEmpty f = true))
  chksum : verify t f = .chksum ↔ Wrong t f = true
  tooSmall : verify t f = .tooSmall ↔ Partial t f = true
  empty : verify t f = .empty ↔ (t.size = none ∧ ∃ ok, f = .present 0 ok)

theorem verify_spec (t : Target) (f : File) : VerifySpec t f := by
  cases f with
  | missing => constructor <;> simp [verify, Verified, Wrong, Partial]
  | present sz ok =>
    rcases t with ⟨_ | want, other⟩
    · by_cases h0 : sz = 0 <;> constructor <;>
        simp [verify, Verified, Wrong, Partial, File.nonEmpty, h0, verifySums_eq_ok, verifySums_eq_chksum,
          verifySums_ne_tooSmall, verifySums_ne_empty]
    · rcases Nat.lt_trichotomy sz want with h | rfl | h
      · constructor <;> simp [verify, Verified, Wrong, Partial, Nat.ne_of_lt h, Nat.ne_of_gt h, h, Nat.lt_asymm h]
      · constructor <;> simp [verify, Verified, Wrong, Partial, verifySums_eq_ok, verifySums_eq_chksum,
          verifySums_ne_tooSmall, verifySums_ne_empty]
      · constructor <;> simp [verify, Verified, Wrong, Partial, Nat.ne_of_gt h, Nat.ne_of_lt h, h, Nat.lt_asymm h]

theorem verify_left_ok_iff (t : Target) (o : Outcome) :
    verify t (leftOf t o) = .ok ↔ Acceptable t o = true := by
  unfold leftOf Acceptable
  by_cases h : (!o.exit0 && t.noChksums) = true
  · -- the file is unlinked (`verify`: `missing`), and `Acceptable`'s exit clause fails
    have h' := h
    simp only [Bool.and_eq_true, Bool.not_eq_true'] at h'
    simp [verify, h'.1, h'.2]
  · rw [if_neg h, (verify_spec _ _).ok]
    have : (!t.noChksums || o.exit0) = true := by
      cases he : o.exit0 <;> cases hn : t.noChksums <;> simp_all
    simp [this]

/-- the file already in place counts as left by a run that exited 0 (`leftOf t ⟨f, true⟩` computes to `f`) -/
theorem verify_ok_iff_acceptable (t : Target) (f : File) : verify t f = .ok ↔ Acceptable t ⟨f, true⟩ = true :=
  verify_left_ok_iff t ⟨f, true⟩

theorem verify_left_chksum_iff (t : Target) (o : Outcome) :
    verify t (leftOf t o) = .chksum ↔ Wrong t o.file = true := by
  unfold leftOf
  by_cases h : (!o.exit0 && t.noChksums) = true
  · rw [if_pos h]
    simp only [Bool.and_eq_true, Bool.not_eq_true'] at h
    have hn := h.2
    -- `noChksums` forces `t = ⟨none, false⟩`, for which no file is `Wrong`, and the unlinked file verifies as `missing`
    rcases t with ⟨_ | want, other⟩ <;> cases other <;> simp [Target.noChksums] at hn
    cases o.file <;> simp [verify, Wrong]
  · rw [if_neg h, (verify_spec _ _).chksum]

theorem leftOf_of_ok (t : Target) (o : Outcome) (h : verify t (leftOf t o) = .ok) : leftOf t o = o.file := by
  unfold leftOf at h ⊢
  split
  · rw [if_pos ‹_›] at h; cases h
  · rfl

theorem toResult_returned_iff (v : V) : v.toResult = .returned ↔ v = .ok := by cases v <;> simp [V.toResult]

theorem fetch_zero (t : Target) (f : File) (outs : List Outcome) :
    fetch t 0 f outs = ⟨(verify t f).toResult, f, []⟩ := rfl

theorem fetch_succ (t : Target) (n : Nat) (f : File) (outs : List Outcome) :
    fetch t (n + 1) f outs =
      if verify t f = .ok ∨ verify t f = .chksum then ⟨(verify t f).toResult, f, []⟩
      else match outs with
        | [] => ⟨.outOfUris, handedOf (verify t f) f, []⟩
        | o :: outs' =>
          ⟨(fetch t n (leftOf t o) outs').result, (fetch t n (leftOf t o) outs').final,
            ⟨f, handedOf (verify t f) f, cmdOf (verify t f), o, leftOf t o⟩ ::
              (fetch t n (leftOf t o) outs').steps⟩ := by
  rw [fetch]
  cases verify t f <;> rfl

theorem fetch_of_verify_ok (t : Target) (n : Nat) (f : File) (outs : List Outcome) (h : verify t f = .ok) :
    (fetch t n f outs).result = .returned := by
  cases n <;> simp [fetch, h, V.toResult]

theorem fetch_of_verify_chksum (t : Target) (n : Nat) (f : File) (outs : List Outcome) (h : verify t f = .chksum) :
    (fetch t n f outs).result = .chksum := by
  cases n <;> simp [fetch, h, V.toResult]

/-- `fetch` on the file some run left (the initial file counts as left by a run that exited 0) returns exactly
when the reference semantics says so: both recursions test the same two things of each outcome in turn -/
theorem fetch_returned_iff (t : Target) (n : Nat) (o : Outcome) (outs : List Outcome) :
    (fetch t n (leftOf t o) outs).result = .returned ↔ firstDecisive t (o :: outs.take n) = true := by
  rw [firstDecisive]
  by_cases ha : Acceptable t o = true
  · rw [if_pos ha]
    exact iff_of_true (fetch_of_verify_ok t n _ outs ((verify_left_ok_iff t o).2 ha)) rfl
  · have hv := mt (verify_left_ok_iff t o).1 ha
    rw [if_neg ha]
    by_cases hw : Wrong t o.file = true
    · rw [if_pos hw, fetch_of_verify_chksum t n _ outs ((verify_left_chksum_iff t o).2 hw)]
      decide
    · have hc := mt (verify_left_chksum_iff t o).1 hw
      rw [if_neg hw]
      cases n with
      | zero => simpa [fetch_zero, toResult_returned_iff, firstDecisive] using hv
      | succ n =>
        rw [fetch_succ, if_neg (not_or.2 ⟨hv, hc⟩)]
        cases outs with
        | nil => simp [firstDecisive]
        | cons o' outs' => exact fetch_returned_iff t n o' outs'

theorem firstDecisive_eq_find? (t : Target) (l : List Outcome) :
    firstDecisive t l = (l.find? fun o => Acceptable t o || Wrong t o.file).any (Acceptable t) := by
  induction l with
  | nil => rfl
  | cons o rest ih =>
    rw [firstDecisive, List.find?_cons, ih]
    cases ha : Acceptable t o <;> cases hw : Wrong t o.file <;> simp [ha]

theorem firstDecisive_iff (t : Target) (l : List Outcome) :
    firstDecisive t l = true ↔
      ∃ k, ∃ h : k < l.length, Acceptable t l[k] = true ∧
        ∀ j, ∀ hj : j < k, Wrong t (l[j]'(by omega)).file = false := by
  rw [firstDecisive_eq_find?, Option.any_eq_true]
  constructor
  · rintro ⟨o, hf, ha⟩
    obtain ⟨_, i, hi, rfl, hmin⟩ := List.find?_eq_some_iff_getElem.1 hf
    exact ⟨i, hi, ha, fun j hj => (Bool.or_eq_false_iff.1 ((Bool.not_eq_true' _).mp (hmin j hj))).2⟩
  · rintro ⟨k, hk, ha, hno⟩
    cases hf : l.find? fun o => Acceptable t o || Wrong t o.file with
    | none => have := List.find?_eq_none.1 hf l[k] (List.getElem_mem _); simp [ha] at this
    | some o =>
      obtain ⟨hp, i, hi, rfl, hmin⟩ := List.find?_eq_some_iff_getElem.1 hf
      refine ⟨_, rfl, ?_⟩
      -- the first decisive state `i`: before `k` it is not wrong, hence acceptable; after `k` it would not be the first
      rcases Nat.lt_trichotomy i k with hlt | rfl | hgt
      · have := hno i hlt; simpa [this] using hp
      · exact ha
      · have := hmin k hgt; simp [ha] at this

/-- an executed step: `handed` and `cmd` follow from verifying what it saw, `left` from the outcome; what it saw was
neither accepted nor given up on (`undecided`: the loop had stopped there) -/
structure StepSpec (t : Target) (s : Step) : Prop where
  handed : s.handed = handedOf (verify t s.seen) s.seen
  cmd : s.cmd = cmdOf (verify t s.seen)
  left : s.left = leftOf t s.out
  undecided : ¬(verify t s.seen = .ok ∨ verify t s.seen = .chksum)

/-- what a run of the loop looks like: the executed steps are chained, at most `n`, and consume the outcomes in order.
The result is decided by the verification of the last state, except that running out of URIs is reported as such; a
`missing`, `tooSmall` or `empty` result means that all `n` attempts ran -/
structure RunSpec (t : Target) (n : Nat) (f : File) (outs : List Outcome) (r : Run) : Prop where
  chained : Chained f r.steps
  le : r.steps.length ≤ n
  inOrder : r.steps.map (·.out) = outs.take r.steps.length
  step : ∀ s ∈ r.steps, StepSpec t s
  ended : r.result ≠ .outOfUris →
    r.result = (verify t (lastLeft f r.steps)).toResult ∧ r.final = lastLeft f r.steps
  dry : r.result = .outOfUris → r.steps.length = outs.length ∧ r.steps.length < n ∧
    r.final = handedOf (verify t (lastLeft f r.steps)) (lastLeft f r.steps) ∧
    ¬(verify t (lastLeft f r.steps) = .ok ∨ verify t (lastLeft f r.steps) = .chksum)
  spent : r.result = .missing ∨ r.result = .tooSmall ∨ r.result = .empty → r.steps.length = n

theorem fetch_spec (t : Target) (n : Nat) (f : File) (outs : List Outcome) : RunSpec t n f outs (fetch t n f outs) := by
  have stop : ∀ f, (verify t f).toResult ≠ .outOfUris := fun f => by cases verify t f <;> decide
  induction n generalizing f outs with
  | zero =>
    exact ⟨trivial, Nat.le_refl _, rfl, fun _ h => absurd h List.not_mem_nil, fun _ => ⟨rfl, rfl⟩,
      fun h => absurd h (stop f), fun _ => rfl⟩
  | succ n ih =>
    rw [fetch_succ]
    split
    · -- stopped at the top
      rename_i hv
      refine ⟨trivial, Nat.zero_le _, rfl, fun _ h => absurd h List.not_mem_nil, fun _ => ⟨rfl, rfl⟩,
        fun h => absurd h (stop f), fun h => ?_⟩
      rcases hv with hv | hv <;> simp [hv, V.toResult] at h
    · rename_i hv
      cases outs with
      | nil =>  -- out of URIs
        exact ⟨trivial, Nat.zero_le _, rfl, fun _ h => absurd h List.not_mem_nil, fun h => absurd rfl h,
          fun _ => ⟨rfl, Nat.succ_pos n, rfl, hv⟩, fun h => by simp at h⟩
      | cons o outs' =>  -- one run, then `ih`
        have h := ih (leftOf t o) outs'
        exact ⟨⟨rfl, h.chained⟩, Nat.succ_le_succ h.le, congrArg (o :: ·) h.inOrder,
          List.forall_mem_cons.2 ⟨⟨rfl, rfl, rfl, hv⟩, h.step⟩, h.ended,
          fun hr => ⟨congrArg (· + 1) (h.dry hr).1, Nat.succ_lt_succ (h.dry hr).2.1, (h.dry hr).2.2⟩,
          fun hr => congrArg (· + 1) (h.spent hr)⟩

variable {t : Target} {n : Nat} {f : File} {outs : List Outcome} {r : Run}

/-- a returning run: the final file passed the verification, and it is the initial file — then no fetch command was
run — or the file the last run wrote, one of the given outcomes, which the exit-status clean-up let stand -/
theorem RunSpec.returned (hr : RunSpec t n f outs r) (h : r.result = .returned) :
    verify t r.final = .ok ∧
    ((r.steps = [] ∧ r.final = f) ∨
      ∃ s, r.steps.getLast? = some s ∧ s.out ∈ outs ∧ r.final = leftOf t s.out ∧ leftOf t s.out = s.out.file) := by
  obtain ⟨h1, he⟩ := hr.ended (by rw [h]; exact Result.noConfusion)
  have hv := (toResult_returned_iff _).1 (h1.symm.trans h)
  rw [he]
  refine ⟨hv, (lastLeft_getLast f _).imp id fun ⟨s, hs, hl⟩ => ?_⟩
  have hm := List.mem_of_getLast? hs
  rw [hl, (hr.step s hm).left] at hv ⊢
  refine ⟨s, hs, ?_, rfl, leftOf_of_ok t s.out hv⟩
  exact List.mem_of_mem_take (hr.inOrder ▸ List.mem_map_of_mem hm)

theorem RunSpec.decisive (hr : RunSpec t n f outs r) (s : Step) (hs : s ∈ r.steps)
    (h : verify t s.left = .ok ∨ verify t s.left = .chksum) : r.result = (verify t s.left).toResult := by
  rcases chained_left f _ hr.chained s hs with hl | ⟨s', hs', e⟩
  · by_cases ho : r.result = .outOfUris
    · have := (hr.dry ho).2.2.2
      rw [← hl] at this
      exact (this h).elim
    · rw [(hr.ended ho).1, hl]
  · have := (hr.step s' hs').undecided
    rw [e] at this
    exact (this h).elim

end Pkgcore.C36
