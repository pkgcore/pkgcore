import Pkgcore.Spec.C07
import Pkgcore.Proofs.C02
import Pkgcore.Proofs.C04
import Pkgcore.Model.C03
/-!
Equal restrictions are interchangeable.  First what the decidable guards give (`…WF_of_ok`) and the class-specific
facts (a version restriction reads its revision only through its integer value, a containment only the set of its
members), each with the arguments of its rule of `eqv_induct`; then `eqv_induct`, which turns `a == b` into a
derivation, and the two theorems read off it (`eqv_match_all`; `eqv_hash_all`, after the reflexivity of `hkEq` that it
needs); then dict lookup, the invariant `CacheOk` of a boolean node assembled step by step, and the instance caches
(`cachedBuild_spec`, which rests on `eqv_match`); last, independently, from `vopRestr_of_canon` on, that C04's
`atom.match` reads an atom only through its canonical form.
-/
namespace Pkgcore.C07
open Pkgcore.C07.Spec
open Pkgcore.C01 (Ver Rev verCmp cmpRev natOfDigits versionMatch ordToInt)

theorem verWF_of_ok (v : Ver) (h : verOkB v = true) : Pkgcore.C01.Spec.WF v := by
  simp only [verOkB, Bool.and_eq_true, Bool.not_eq_true', List.all_eq_true, List.isEmpty_eq_false_iff] at h
  exact ⟨h.1, fun c hc => ⟨(h.2 c hc).1, (h.2 c hc).2⟩⟩

/-- The hypothesis is `atomOkB a` unfolded, with `vop` for `a.vop`; the conclusion is the validity of the atom's version
in C04's form (`vopWF`, for `atomMatch_of_canon`) and in C02's (`vrWF`, which is `C02.Spec.Atom.WF`). -/
theorem vopWF_of_ok : ∀ vop : Option (Pkgcore.C02.Op × Ver × Str),
    (match vop with | none => true | some (_, v, _) => verOkB v) = true →
    Pkgcore.C04.Spec.vopWF vop ∧ Pkgcore.C02.Spec.vrWF (vop.map (·.2))
  | none, _ => ⟨trivial, trivial⟩
  | some (_, v, _), h => ⟨verWF_of_ok v h, verWF_of_ok v h⟩

theorem atomWF_of_ok (a : Pkgcore.C02.Atom) (h : atomOkB a = true) : Pkgcore.C02.Spec.Atom.WF a :=
  (vopWF_of_ok a.vop h).2

theorem verCmp_rev_congr (v1 v2 : Ver) (p a b : List Char) (h : natOfDigits a = natOfDigits b) :
    verCmp v1 (some p) v2 (some a) = verCmp v1 (some p) v2 (some b) := by
  simp only [Pkgcore.C01.verCmp_eq_pmsCmp_some, Pkgcore.C01.Spec.pmsCmp, Pkgcore.C01.Spec.revNat, h]

theorem ordToInt_mem (o : Ordering) : ordToInt o ∈ ([-1, 0, 1] : List Int) := by cases o <;> decide

/-- `vals.contains c != n` is what `versionMatch` answers when the comparison comes out as `c`: operator sets that
`_convert_ops` makes equal answer alike.  (Finite: two table rows, two flags, three results.) -/
theorem verdict_of_convertOps_eq :
    ∀ vals ∈ opTable, ∀ vals' ∈ opTable, ∀ n n' : Bool, ∀ c ∈ ([-1, 0, 1] : List Int),
      convertOps n vals = convertOps n' vals' → (vals.contains c != n) = (vals'.contains c != n') := by
  decide +kernel

theorem version_congr (env : Env) (vals vals' : List Int) (d n n' : Bool) (ver : Ver) (rev rev' : Rev)
    (hv : vals ∈ opTable) (hv' : vals' ∈ opTable) (hr : revInt rev = revInt rev') (hn : rev.isNone = rev'.isNone)
    (hc : convertOps n vals = convertOps n' vals') (x : Value) :
    mtch env (.version vals d n ver rev) x = mtch env (.version vals' d n' ver rev') x := by
  simp only [mtch]
  split
  · rename_i pv pr
    have hcmp : verCmp pv (if d then none else some pr) ver (if d then none else rev) =
        verCmp pv (if d then none else some pr) ver (if d then none else rev') := by
      cases d with
      | true => rfl
      | false =>
        match rev, rev', hn, hr with
        | none, none, _, _ => rfl
        | some a, some b, _, hr => exact verCmp_rev_congr pv ver pr a b hr
    simp only [versionMatch, hcmp]
    exact verdict_of_convertOps_eq vals hv vals' hv' n n' _ (ordToInt_mem _) hc
  · rfl

theorem verGlob_congr (env : Env) (ver : Ver) (rev rev' : Rev) (h : revInt rev = revInt rev') (x : Value) :
    mtch env (.verGlob ver rev) x = mtch env (.verGlob ver rev') x := by
  have hk : Pkgcore.C01.key ver (some (rev.getD [])) = Pkgcore.C01.key ver (some (rev'.getD [])) := by
    have : natOfDigits (rev.getD []) = natOfDigits (rev'.getD []) := by cases rev <;> cases rev' <;> exact h
    simp only [Pkgcore.C01.key, Pkgcore.C01.Spec.revNat, this]
  simp only [mtch, Pkgcore.C04.verGlobMatch_congr_key hk rfl]

theorem any_congr_mem {α} {v v' : List α} (p : α → Bool) (h : ∀ s, s ∈ v ↔ s ∈ v') :
    v.any p = v'.any p := by
  rw [Bool.eq_iff_iff]
  simp only [List.any_eq_true, h]

theorem all_congr_mem {α} {v v' : List α} (p : α → Bool) (h : ∀ s, s ∈ v ↔ s ∈ v') :
    v.all p = v'.all p := by
  rw [Bool.eq_iff_iff]
  simp only [List.all_eq_true, h]

theorem containMatch_congr {v v' : List Str} (a n : Bool) (x : Value) (h : ∀ s, s ∈ v ↔ s ∈ v') :
    containMatch v a n x = containMatch v' a n x := by
  cases x <;> simp only [containMatch, any_congr_mem _ h, all_congr_mem _ h]

theorem useDefault_congr (env : Env) (m : Bool) (v v' : List Str) (n : Bool) (h : ∀ s, s ∈ v ↔ s ∈ v')
    (x : Value) : mtch env (.useDefault m v n) x = mtch env (.useDefault m v' n) x := by
  simp only [mtch]
  split
  · rename_i iuse use
    have hf : ∀ s, s ∈ v.filter (fun f => iuse.contains f) ↔ s ∈ v'.filter (fun f => iuse.contains f) := by
      intro s
      simp only [List.mem_filter, h s]
    have he : (v.filter fun f => iuse.contains f).isEmpty = (v'.filter fun f => iuse.contains f).isEmpty := by
      rw [Bool.eq_iff_iff]
      simp only [List.isEmpty_iff, List.filter_eq_nil_iff, h]
    rw [all_congr_mem _ h, containMatch_congr _ _ _ h, he, containMatch_congr _ _ _ hf]
  · rfl

theorem wfL_iff : ∀ cs : List Restr, wfL cs = true ↔ ∀ y ∈ cs, wf y = true
  | [] => by simp [wfL]
  | c :: cs => by simp [wfL, wfL_iff cs]

theorem allM_iff (env : Env) (x : Value) :
    ∀ cs : List Restr, allM env cs x = true ↔ ∀ y ∈ cs, mtch env y x = true
  | [] => by simp [allM]
  | c :: cs => by simp [allM, allM_iff env x cs]

/-- For well-formed restrictions, whenever `a == b` holds it can be derived by the rules below: one per class, with the
attributes that `__eq__` compares for equality already identified (the five classes all of whose attributes are compared
that way fall under `refl`), and the rules of the tuple and set comparisons of the children (`bool` also records that
the two operand tuples are empty together, which the exactly-one-of node without operands reads). -/
theorem eqv_induct {P : Restr → Restr → Prop} {PE : List Restr → Restr → Prop}
    {PS PL : List Restr → List Restr → Prop}
    (refl : ∀ r, P r r)
    (contain : ∀ v v' a n, (∀ s, s ∈ v ↔ s ∈ v') → P (.contain v a n) (.contain v' a n))
    (useDefault : ∀ m v v' n, (∀ s, s ∈ v ↔ s ∈ v') → P (.useDefault m v n) (.useDefault m v' n))
    (flatten : ∀ d c c' n, P c c' → P (.flatten d c n) (.flatten d c' n))
    (strConv : ∀ c c', P c c' → P (.strConv c) (.strConv c'))
    (version : ∀ vals vals' d n n' ver rev rev', vals ∈ opTable → vals' ∈ opTable →
      revInt rev = revInt rev' → rev.isNone = rev'.isNone → convertOps n vals = convertOps n' vals' →
      P (.version vals d n ver rev) (.version vals' d n' ver rev'))
    (verGlob : ∀ ver rev rev', revInt rev = revInt rev' → P (.verGlob ver rev) (.verGlob ver rev'))
    (pkgRestr : ∀ k m ats n c c', P c c' → P (.pkgRestr k m ats n c) (.pkgRestr k m ats n c'))
    (conditional : ∀ ats n c c' p p', P c c' → PL p p' → P (.conditional ats n c p) (.conditional ats n c' p'))
    (bool : ∀ k t n cs cs', cs.isEmpty = cs'.isEmpty → PL cs cs' → P (.bool k t n cs) (.bool k t n cs'))
    (atom : ∀ a b, Pkgcore.C02.Spec.atomCanon a = Pkgcore.C02.Spec.atomCanon b → P (.atom a) (.atom b))
    (depset : ∀ cs cs', PS cs cs' → (∀ y ∈ cs', PE cs y) → P (.depset cs) (.depset cs'))
    (exHead : ∀ a as y, P a y → PE (a :: as) y) (exTail : ∀ a as y, PE as y → PE (a :: as) y)
    (subNil : ∀ bs, PS [] bs) (subCons : ∀ a as bs y, y ∈ bs → P a y → PS as bs → PS (a :: as) bs)
    (nil : PL [] []) (cons : ∀ a as b bs, P a b → PL as bs → PL (a :: as) (b :: bs)) :
    (∀ a b, wf a = true → wf b = true → eqv a b = true → P a b) ∧
    (∀ as y, wfL as = true → wf y = true → existsL as y = true → PE as y) ∧
    (∀ as bs, wfL as = true → wfL bs = true → subsetL as bs = true → PS as bs) ∧
    (∀ as bs, wfL as = true → wfL bs = true → eqvList as bs = true → PL as bs) := by
  -- the cases of `eqv.mutual_induct`: the sixteen classes, two objects of different classes, then the list functions
  apply eqv.mutual_induct
  · intro e c n h e' c' n' h' _ _ he
    simp only [eqv, Bool.and_eq_true, beq_iff_eq] at he
    obtain ⟨⟨⟨rfl, rfl⟩, rfl⟩, rfl⟩ := he
    exact refl _
  · intro g p n i h g' p' n' i' h' _ _ he
    simp only [eqv, Bool.and_eq_true, beq_iff_eq] at he
    obtain ⟨⟨⟨⟨rfl, rfl⟩, rfl⟩, rfl⟩, rfl⟩ := he
    exact refl _
  · intro r n i m h r' n' i' m' h' _ _ he
    simp only [eqv, Bool.and_eq_true, beq_iff_eq] at he
    obtain ⟨⟨⟨⟨rfl, rfl⟩, rfl⟩, rfl⟩, rfl⟩ := he
    exact refl _
  · intro v a n v' a' n' _ _ he
    simp only [eqv, Bool.and_eq_true, beq_iff_eq, List.all_eq_true, List.contains_iff_mem] at he
    obtain ⟨⟨⟨h1, h2⟩, rfl⟩, rfl⟩ := he
    exact contain _ _ _ _ fun s => ⟨h1 s, h2 s⟩
  · intro m v a m' v' a' _ _ he
    simp only [eqv, Bool.and_eq_true, beq_iff_eq, List.all_eq_true, List.contains_iff_mem] at he
    obtain ⟨⟨⟨h1, h2⟩, rfl⟩, rfl⟩ := he
    exact useDefault _ _ _ _ fun s => ⟨h1 s, h2 s⟩
  · intro d c n d' c' n' ih ha hb he
    simp only [eqv, Bool.and_eq_true, beq_iff_eq] at he
    obtain ⟨⟨rfl, hc⟩, rfl⟩ := he
    exact flatten _ _ _ _ (ih ha hb hc)
  · intro f n f' n' _ _ he
    simp only [eqv, Bool.and_eq_true, beq_iff_eq] at he
    obtain ⟨rfl, rfl⟩ := he
    exact refl _
  · intro c c' ih ha hb he
    exact strConv _ _ (ih ha hb (by simpa only [eqv] using he))
  · intro vals d n ver rev vals' d' n' ver' rev' ha hb he
    simp only [eqv, Bool.and_eq_true, beq_iff_eq] at he
    obtain ⟨⟨⟨⟨rfl, rfl⟩, h3⟩, h4⟩, h5⟩ := he
    simp only [wf, List.contains_iff_mem] at ha hb
    exact version _ _ _ _ _ _ _ _ ha hb h3 h4 h5
  · intro ver rev ver' rev' _ _ he
    simp only [eqv, Bool.and_eq_true, beq_iff_eq] at he
    obtain ⟨rfl, h2⟩ := he
    exact verGlob _ _ _ h2
  · intro i j _ _ he
    simp only [eqv, beq_iff_eq] at he
    subst he
    exact refl _
  · intro k m ats n c k' m' ats' n' c' ih ha hb he
    simp only [eqv, Bool.and_eq_true, beq_iff_eq] at he
    obtain ⟨⟨⟨⟨rfl, rfl⟩, rfl⟩, rfl⟩, hc⟩ := he
    exact pkgRestr _ _ _ _ _ _ (ih ha hb hc)
  · intro ats n c p ats' n' c' p' ihc ihp ha hb he
    simp only [eqv, Bool.and_eq_true, beq_iff_eq] at he
    obtain ⟨⟨⟨rfl, rfl⟩, hc⟩, hp⟩ := he
    simp only [wf, Bool.and_eq_true] at ha hb
    exact conditional _ _ _ _ _ _ (ihc ha.1 hb.1 hc) (ihp ha.2 hb.2 hp)
  · intro k t n cs k' t' n' cs' ih ha hb he
    simp only [eqv, Bool.and_eq_true, beq_iff_eq] at he
    obtain ⟨⟨⟨rfl, rfl⟩, rfl⟩, hcs⟩ := he
    refine bool _ _ _ _ _ ?_ (ih ha hb hcs)
    cases cs <;> cases cs' <;> first | rfl | cases hcs
  · intro a b ha hb he
    simp only [eqv, beq_iff_eq] at he
    exact atom a b ((Pkgcore.C02.atom_eq_iff_canon a b (atomWF_of_ok a ha) (atomWF_of_ok b hb)).mp he)
  · intro cs cs' ihs ihe ha hb he
    simp only [eqv, Bool.and_eq_true, List.all_eq_true] at he
    exact depset _ _ (ihs ha hb he.1) fun y hy => ihe y ha ((wfL_iff cs').mp hb y hy) (he.2 y hy)
  · intros
    rename_i he
    simp only [eqv, Bool.false_eq_true] at he
  · intro y _ _ he
    cases he
  · intro a as y ih1 ih2 ha hy he
    simp only [existsL, Bool.or_eq_true] at he
    simp only [wfL, Bool.and_eq_true] at ha
    exact he.elim (fun h => exHead _ _ _ (ih1 ha.1 hy h)) (fun h => exTail _ _ _ (ih2 ha.2 hy h))
  · intro bs _ _ _
    exact subNil bs
  · intro a as bs ih1 ih2 ha hb he
    simp only [subsetL, Bool.and_eq_true, List.any_eq_true] at he
    simp only [wfL, Bool.and_eq_true] at ha
    obtain ⟨⟨y, hy, hay⟩, hrest⟩ := he
    exact subCons _ _ _ y hy (ih1 y ha.1 ((wfL_iff bs).mp hb y hy) hay) (ih2 ha.2 hb hrest)
  · intro _ _ _
    exact nil
  · intro a as b bs ih1 ih2 ha hb he
    simp only [eqvList, Bool.and_eq_true] at he
    simp only [wfL, Bool.and_eq_true] at ha hb
    exact cons _ _ _ _ (ih1 ha.1 hb.1 he.1) (ih2 ha.2 hb.2 he.2)
  · intro as bs _ _ _ _ he
    simp only [eqvList, Bool.false_eq_true] at he

/-- The set comparisons get only the implications on `allM` that `depset`, a conjunction, needs; the tuple comparison
the equality of all three folds, which `bool` reads. -/
theorem eqv_match_all (env : Env) :
    (∀ a b, wf a = true → wf b = true → eqv a b = true → ∀ x, mtch env a x = mtch env b x) ∧
    (∀ as y, wfL as = true → wf y = true → existsL as y = true →
      ∀ x, allM env as x = true → mtch env y x = true) ∧
    (∀ as bs, wfL as = true → wfL bs = true → subsetL as bs = true →
      ∀ x, allM env bs x = true → allM env as x = true) ∧
    (∀ as bs, wfL as = true → wfL bs = true → eqvList as bs = true →
      ∀ x, allM env as x = allM env bs x ∧ anyM env as x = anyM env bs x ∧
        countM env as x = countM env bs x) := by
  apply eqv_induct
  case refl => exact fun _ _ => rfl
  case contain => exact fun _ _ a n h x => containMatch_congr a n x h
  case useDefault => exact useDefault_congr env
  case flatten =>
    intro d c c' n ih x
    simp only [mtch, ih]
  case strConv =>
    intro c c' ih x
    simp only [mtch, ih]
  case version => exact version_congr env
  case verGlob => exact verGlob_congr env
  case pkgRestr =>
    intro k m ats n c c' ih x
    simp only [mtch, ih]
  case conditional =>
    intro ats n c c' p p' ih _ x
    simp only [mtch, ih]
  case bool =>
    intro k t n cs cs' he ih x
    simp only [mtch, (ih x).1, (ih x).2.1, (ih x).2.2, he]
  case atom =>
    intro a b hc x
    simp only [mtch, hc]
  case depset =>
    intro cs cs' hs he x
    simp only [mtch]
    rw [Bool.eq_iff_iff]
    exact ⟨fun h => (allM_iff env x cs').mpr fun y hy => he y hy x h, hs x⟩
  case exHead =>
    intro a as y h x hall
    rw [← h x]
    exact (allM_iff env x _).mp hall a (List.mem_cons_self ..)
  case exTail =>
    intro a as y ih x hall
    simp only [allM, Bool.and_eq_true] at hall
    exact ih x hall.2
  case subNil => exact fun _ _ _ => rfl
  case subCons =>
    intro a as bs y hy h ih x hall
    simp only [allM, Bool.and_eq_true]
    exact ⟨(h x).trans ((allM_iff env x bs).mp hall y hy), ih x hall⟩
  case nil => exact fun _ => ⟨rfl, rfl, rfl⟩
  case cons =>
    intro a as b bs h ih x
    simp only [allM, anyM, countM, h x, (ih x).1, (ih x).2.1, (ih x).2.2, and_self]

theorem eqv_match (env : Env) (a b : Restr) : wf a = true → wf b = true → eqv a b = true →
    ∀ x, mtch env a x = mtch env b x :=
  (eqv_match_all env).1 a b

theorem existsL_match (env : Env) : ∀ (as : List Restr) (y : Restr), wfL as = true → wf y = true →
    existsL as y = true → ∀ x, allM env as x = true → mtch env y x = true :=
  (eqv_match_all env).2.1

theorem eqvList_match (env : Env) : ∀ (as bs : List Restr), wfL as = true → wfL bs = true → eqvList as bs = true →
    ∀ x, allM env as x = allM env bs x ∧ anyM env as x = anyM env bs x ∧ countM env as x = countM env bs x :=
  (eqv_match_all env).2.2.2

theorem hkSub_iff : ∀ (as bs : List HK), hkSub as bs = true ↔ ∀ a ∈ as, ∃ y ∈ bs, hkEq a y = true
  | [], bs => by simp [hkSub]
  | a :: as, bs => by simp [hkSub, hkSub_iff as bs]

theorem hkEx_iff : ∀ (as : List HK) (y : HK), hkEx as y = true ↔ ∃ a ∈ as, hkEq a y = true
  | [], y => by simp [hkEx]
  | a :: as, y => by simp [hkEx, hkEx_iff as y]

theorem hkEqList_refl_of : ∀ ks : List HK, (∀ a ∈ ks, hkEq a a = true) → hkEqList ks ks = true
  | [], _ => rfl
  | k :: ks, h => by
    simp only [hkEqList, h k (List.mem_cons_self ..),
      hkEqList_refl_of ks fun a ha => h a (List.mem_cons_of_mem _ ha), Bool.and_self]

theorem hkEq_refl (k : HK) : hkEq k k = true := by
  induction k using HK.rec (motive_2 := fun ks => ∀ a ∈ ks, hkEq a a = true) with
  | s | b | n | id | v => simp only [hkEq, beq_self_eq_true]
  | tup xs h =>
    simp only [hkEq]
    exact hkEqList_refl_of xs h
  | fset xs h =>
    simp only [hkEq, Bool.and_eq_true, List.all_eq_true]
    exact ⟨(hkSub_iff xs xs).mpr fun a ha => ⟨a, ha, h a ha⟩,
      fun y hy => (hkEx_iff xs y).mpr ⟨y, hy, h y hy⟩⟩
  | nil => contradiction
  | cons k ks hk hks =>
    rename_i a ha
    exact (List.mem_cons.mp ha).elim (· ▸ hk) (hks a)

theorem hkEqAll_refl : ∀ ks : List HK, ∀ a ∈ ks, hkEq a a = true :=
  fun _ a _ => hkEq_refl a

theorem hkEqList_refl (ks : List HK) : hkEqList ks ks = true := hkEqList_refl_of ks fun a _ => hkEq_refl a

theorem hkEq_fset_strs (v v' : List Str) (h : ∀ s, s ∈ v ↔ s ∈ v') :
    hkEq (.fset (v.map .s)) (.fset (v'.map .s)) = true := by
  simp only [hkEq, Bool.and_eq_true, List.all_eq_true, hkSub_iff, hkEx_iff, List.mem_map]
  constructor
  · rintro _ ⟨x, hx, rfl⟩
    exact ⟨.s x, ⟨x, (h x).mp hx, rfl⟩, hkEq_refl _⟩
  · rintro _ ⟨x, hx, rfl⟩
    exact ⟨.s x, ⟨x, (h x).mpr hx, rfl⟩, hkEq_refl _⟩

theorem hashKeys_eq_map : ∀ cs : List Restr, hashKeys cs = cs.map hashKey
  | [] => rfl
  | c :: cs => by simp [hashKeys, hashKeys_eq_map cs]

theorem eqv_hash_all :
    (∀ a b, wf a = true → wf b = true → eqv a b = true → hkEq (hashKey a) (hashKey b) = true) ∧
    (∀ as y, wfL as = true → wf y = true → existsL as y = true → hkEx (hashKeys as) (hashKey y) = true) ∧
    (∀ as bs, wfL as = true → wfL bs = true → subsetL as bs = true →
      hkSub (hashKeys as) (hashKeys bs) = true) ∧
    (∀ as bs, wfL as = true → wfL bs = true → eqvList as bs = true →
      hkEqList (hashKeys as) (hashKeys bs) = true) := by
  apply eqv_induct
  case refl => exact fun r => hkEq_refl _
  case contain =>
    intro v v' a n h
    simp only [hashKey, hkEq, hkEqList, beq_self_eq_true, Bool.true_and, Bool.and_true]
    exact hkEq_fset_strs v v' h
  case useDefault =>
    intro m v v' n h
    simp only [hashKey, hkEq, hkEqList, beq_self_eq_true, Bool.true_and, Bool.and_true]
    exact hkEq_fset_strs v v' h
  case flatten =>
    intro d c c' n ih
    simp only [hashKey, hkEq, hkEqList, ih, beq_self_eq_true, Bool.and_self]
  case strConv =>
    intro c c' ih
    simp only [hashKey, hkEq, hkEqList, ih, Bool.and_self]
  case version =>
    intro vals vals' d n n' ver rev rev' _ _ hr _ hc
    simp only [hashKey, hr, hc]
    exact hkEq_refl _
  case verGlob =>
    intro ver rev rev' hr
    simp only [hashKey, hr]
    exact hkEq_refl _
  case pkgRestr =>
    intro k m ats n c c' ih
    simp only [hashKey, hkEq, hkEqList, ih, hkEqList_refl, beq_self_eq_true, Bool.and_self]
  case conditional =>
    intro ats n c c' p p' ih ihp
    simp only [hashKey, hkEq, hkEqList, ih, ihp, hkEqList_refl, beq_self_eq_true, Bool.and_self]
  case bool =>
    intro k t n cs cs' _ ih
    simp only [hashKey, hkEq, hkEqList, ih, beq_self_eq_true, Bool.and_self]
  case atom =>
    intro a b hc
    simp only [hashKey, Pkgcore.C02.atomHashKey_of_canon a b hc]
    exact hkEq_refl _
  case depset =>
    intro cs cs' hs he
    simp only [hashKey, hkEq, Bool.and_eq_true, List.all_eq_true, hashKeys_eq_map cs', List.mem_map]
    exact ⟨(hashKeys_eq_map cs') ▸ hs, by rintro _ ⟨y, hy, rfl⟩; exact he y hy⟩
  case exHead =>
    intro a as y h
    simp only [hashKeys, hkEx, h, Bool.true_or]
  case exTail =>
    intro a as y ih
    simp only [hashKeys, hkEx, ih, Bool.or_true]
  case subNil => exact fun _ => rfl
  case subCons =>
    intro a as bs y hy h ih
    simp only [hashKeys, hkSub, Bool.and_eq_true, List.any_eq_true, hashKeys_eq_map bs, List.mem_map]
    exact ⟨⟨_, ⟨y, hy, rfl⟩, h⟩, (hashKeys_eq_map bs) ▸ ih⟩
  case nil => rfl
  case cons =>
    intro a as b bs h ih
    simp only [hashKeys, hkEqList, h, ih, Bool.and_self]

theorem eqv_hash (a b : Restr) :
    wf a = true → wf b = true → eqv a b = true → hkEq (hashKey a) (hashKey b) = true :=
  eqv_hash_all.1 a b

theorem existsL_hash : ∀ (as : List Restr) (y : Restr), wfL as = true → wf y = true → existsL as y = true →
    hkEx (hashKeys as) (hashKey y) = true :=
  eqv_hash_all.2.1

theorem subsetL_hash : ∀ (as bs : List Restr), wfL as = true → wfL bs = true → subsetL as bs = true →
    hkSub (hashKeys as) (hashKeys bs) = true :=
  eqv_hash_all.2.2.1

theorem eqvList_hash : ∀ (as bs : List Restr), wfL as = true → wfL bs = true → eqvList as bs = true →
    hkEqList (hashKeys as) (hashKeys bs) = true :=
  eqv_hash_all.2.2.2

theorem lookup_eq_find? {V : Type} (H : HK → Int) (k : Restr) : ∀ cache : List (Restr × V),
    lookup H cache k = (cache.find? fun p => H (hashKey p.1) == H (hashKey k) && eqv p.1 k).map (·.2)
  | [] => rfl
  | (k', v) :: rest => by
    rw [lookup, List.find?_cons, lookup_eq_find? H k rest]
    split <;> simp [*]

theorem lookup_some {V : Type} (H : HK → Int) (cache : List (Restr × V)) (k : Restr) (v : V)
    (h : lookup H cache k = some v) :
    ∃ k', (k', v) ∈ cache ∧ eqv k' k = true ∧ H (hashKey k') = H (hashKey k) := by
  rw [lookup_eq_find?, Option.map_eq_some_iff] at h
  obtain ⟨⟨k', _⟩, hf, rfl⟩ := h
  have hc := List.find?_some hf
  simp only [Bool.and_eq_true, beq_iff_eq] at hc
  exact ⟨k', List.mem_of_find?_eq_some hf, hc.2, hc.1⟩

theorem lookup_hit {V : Type} (H : HK → Int) (cache : List (Restr × V)) (k k' : Restr) (v : V)
    (hm : (k', v) ∈ cache) (he : eqv k' k = true) (hh : H (hashKey k') = H (hashKey k)) :
    (lookup H cache k).isSome = true := by
  rw [lookup_eq_find?, Option.isSome_map, List.find?_isSome]
  exact ⟨(k', v), hm, by simp [he, hh]⟩

/-- What `cached_hash` relies on while a boolean node is assembled: a filled `_hash` slot means the node is finalized
and the slot holds the hash key of the node as it stands. -/
def CacheOk (k : Kind) (t : Nat) (n : Bool) (b : Builder) : Prop :=
  ∀ h, b.cached = some h → b.finalized = true ∧ h = hashKey (.bool k t n b.cs)

theorem bstep_cacheOk {k : Kind} {t : Nat} {n : Bool} :
    ∀ (b : Builder) (op : BOp), CacheOk k t n b → CacheOk k t n (bstep k t n b op).1
  | ⟨_, _, some _⟩, .hash, hb => hb
  | ⟨_, true, none⟩, .hash, _ => fun _ hh => ⟨rfl, (Option.some.inj hh).symm⟩
  | ⟨_, false, none⟩, .hash, hb => hb
  | b, .add rs, hb => by
    simp only [bstep]
    split
    · exact hb
    · split
      · exact hb
      · -- the children change only while the node is not finalized, and then the slot is empty
        rename_i hnf
        exact fun h hh => absurd (hb h hh).1 hnf
  | _, .finalize, hb => fun h hh => ⟨rfl, (hb h hh).2⟩

theorem brun_cacheOk {k : Kind} {t : Nat} {n : Bool} :
    ∀ (ops : List BOp) (b : Builder), CacheOk k t n b → CacheOk k t n (brun k t n b ops)
  | [], _, hb => hb
  | op :: ops, b, hb => brun_cacheOk ops _ (bstep_cacheOk b op hb)

theorem pick_spec {σ : Type} (step : σ → Restr → Option Restr × σ) (hstep : HitsEqual step) (env : Env) (s : σ)
    (fresh d : Restr) (hw : wf fresh = true) (hm : ∀ x, mtch env fresh x = mtch env d x) :
    wf (pick step s fresh).1 = true ∧ ∀ x, mtch env (pick step s fresh).1 x = mtch env d x := by
  simp only [pick]
  cases hh : (step s fresh).1 with
  | none => exact ⟨hw, hm⟩
  | some v =>
    obtain ⟨hv, he⟩ := hstep s fresh v hh
    exact ⟨hv, fun x => (eqv_match env v fresh hv hw he x).trans (hm x)⟩

mutual
theorem cachedBuild_spec {σ : Type} (step : σ → Restr → Option Restr × σ) (hstep : HitsEqual step) (env : Env) :
    ∀ (d : Restr) (s : σ), wf d = true →
      wf (cachedBuild step s d).1 = true ∧ ∀ x, mtch env (cachedBuild step s d).1 x = mtch env d x
  | .flatten _ c _, s, h | .pkgRestr _ _ _ _ c, s, h => by
    simp only [wf] at h
    have ih := cachedBuild_spec step hstep env c s h
    simp only [cachedBuild]
    exact pick_spec step hstep env _ _ _ (by simpa only [wf] using ih.1) (fun x => by simp only [mtch, ih.2])
  | .strConv c, s, h => by
    simp only [wf] at h
    have ih := cachedBuild_spec step hstep env c s h
    simp only [cachedBuild]
    exact ⟨by simpa only [wf] using ih.1, fun x => by simp only [mtch, ih.2]⟩
  | .conditional ats n c p, s, h => by
    simp only [wf, Bool.and_eq_true] at h
    have ih := cachedBuild_spec step hstep env c s h.1
    have ihp := cachedBuildL_spec step hstep env p (cachedBuild step s c).2 h.2
    simp only [cachedBuild]
    exact pick_spec step hstep env _ _ _ (by simp only [wf, ih.1, ihp.1, Bool.and_self])
      (fun x => by simp only [mtch, ih.2])
  | .bool k t n cs, s, h => by
    simp only [wf] at h
    have ih := cachedBuildL_spec step hstep env cs s h
    simp only [cachedBuild]
    exact pick_spec step hstep env _ _ _ (by simpa only [wf] using ih.1)
      (fun x => by simp only [mtch, (ih.2 x).1, (ih.2 x).2.1, (ih.2 x).2.2.1, (ih.2 x).2.2.2])
  | .depset cs, s, h => by
    simp only [wf] at h
    have ih := cachedBuildL_spec step hstep env cs s h
    simp only [cachedBuild]
    exact ⟨by simpa only [wf] using ih.1, fun x => by simp only [mtch, (ih.2 x).1]⟩
  | .useDefault m v n, s, h => by
    simp only [cachedBuild]
    exact ⟨h, fun _ => trivial⟩
  | .strExact .., s, h | .strGlob .., s, h | .strRegex .., s, h | .contain .., s, h | .func .., s, h
  | .version .., s, h | .verGlob .., s, h | .obj _, s, h | .atom _, s, h => by
    simp only [cachedBuild]
    exact pick_spec step hstep env _ _ _ h (fun _ => rfl)
theorem cachedBuildL_spec {σ : Type} (step : σ → Restr → Option Restr × σ) (hstep : HitsEqual step) (env : Env) :
    ∀ (cs : List Restr) (s : σ), wfL cs = true →
      wfL (cachedBuildL step s cs).1 = true ∧
      ∀ x, allM env (cachedBuildL step s cs).1 x = allM env cs x ∧
        anyM env (cachedBuildL step s cs).1 x = anyM env cs x ∧
        countM env (cachedBuildL step s cs).1 x = countM env cs x ∧ (cachedBuildL step s cs).1.isEmpty = cs.isEmpty
  | [], s, _ => by simp [cachedBuildL, wfL]
  | c :: cs, s, h => by
    simp only [wfL, Bool.and_eq_true] at h
    have ih := cachedBuild_spec step hstep env c s h.1
    have ihl := cachedBuildL_spec step hstep env cs (cachedBuild step s c).2 h.2
    simp only [cachedBuildL, wfL, ih.1, ihl.1, Bool.and_self, true_and]
    intro x
    simp only [allM, anyM, countM, ih.2, (ihl.2 x).1, (ihl.2 x).2.1, (ihl.2 x).2.2.1, List.isEmpty_cons, and_self]
end

theorem aliveStep_hitsEqual (H : HK → Int) : HitsEqual (aliveStep H) := by
  intro alive k v h
  simp only [aliveStep] at h
  split at h
  · rename_i v' hl
    simp only [Option.some.injEq] at h
    subst h
    obtain ⟨k', hm, he, _⟩ := lookup_some H _ k v' hl
    obtain ⟨r, hr, ⟨⟩⟩ := List.mem_map.mp hm
    exact ⟨alive.property _ hr, he⟩
  · cases h

/-- The version clause of `C04.atomMatch_clauses` is determined by two components of `atomCanon a`: the operator text
(`ho`) and the version's canonical form (`hk`), as `Atom.opStr` and `atomCanon` spell them for `vop = a.vop`. -/
theorem vopRestr_of_canon (vop vop' : Option (C02.Op × Ver × Str)) (neg : Bool) (p : C04.Pkg)
    (ho : (match vop with | none => ([] : Str) | some (o, _, _) => o.str) =
      (match vop' with | none => [] | some (o, _, _) => o.str))
    (hk : C02.Spec.verCanon (vop.map (·.2)) = C02.Spec.verCanon (vop'.map (·.2)))
    (hw : C04.Spec.vopWF vop) (hw' : C04.Spec.vopWF vop') (hp : C01.Spec.WF p.ver) :
    (vop.all fun c => C04.versionRestr c.1 c.2.1 c.2.2 neg p) =
      vop'.all fun c => C04.versionRestr c.1 c.2.1 c.2.2 neg p := by
  cases vop with
  | none =>
    cases vop' with
    | none => rfl
    | some q =>
      obtain ⟨o, v, r⟩ := q
      cases o <;> simp [C02.Op.str] at ho
  | some q =>
    obtain ⟨o, v, r⟩ := q
    cases vop' with
    | none => cases o <;> simp [C02.Op.str] at ho
    | some q' =>
      obtain ⟨o', v', r'⟩ := q'
      have heq : o = o' := C02.opStr_inj o o' ho
      subst heq
      simp only [Option.map_some, C02.Spec.verCanon, Option.some.injEq] at hk
      exact C04.versionRestr_congr_key o neg hw hw' hp hp hk rfl

theorem perm_of_sortUse (x y : List Str) (h : C02.sortUse x = C02.sortUse y) : x.Perm y := by
  unfold C02.sortUse at h
  exact (List.mergeSort_perm x _).symm.trans (h ▸ List.mergeSort_perm y _)

/-- The USE clause is determined by the sorted USE tuple of `atomCanon a`, for `u = a.use`. -/
theorem useRestr_of_canon (u u' : Option (List Str)) (p : C04.Pkg) (h : u.map C02.sortUse = u'.map C02.sortUse) :
    (u.map fun (x : List Str) => x.map C03.lexUseDep).all (C04.useRestrs · p) =
      (u'.map fun (x : List Str) => x.map C03.lexUseDep).all (C04.useRestrs · p) := by
  cases u with
  | none =>
    cases u' with
    | none => rfl
    | some y => simp at h
  | some x =>
    cases u' with
    | none => simp at h
    | some y =>
      simp only [Option.map_some, Option.some.injEq] at h
      simp only [Option.map_some, Option.all_some, C04.useRestrs_eq]
      exact ((perm_of_sortUse x y h).map _).all_eq

theorem orEmpty_inj (s t : Option Str) (hs : (s != some []) = true) (ht : (t != some []) = true)
    (h : C02.orEmpty s = C02.orEmpty t) : s = t := by
  cases s <;> cases t <;> simp_all [C02.orEmpty]

theorem atomMatch_of_canon (a b : C02.Atom) (ha : atomOkB a = true) (hb : atomOkB b = true)
    (hsa : slotPartsOkB a = true) (hsb : slotPartsOkB b = true) (h : C02.Spec.atomCanon a = C02.Spec.atomCanon b)
    (p : C04.Pkg) (hp : C04.Spec.Pkg.WF p) : C04.atomMatch (C03.toC04 a) p = C04.atomMatch (C03.toC04 b) p := by
  have hwa := (vopWF_of_ok a.vop ha).1
  have hwb := (vopWF_of_ok b.vop hb).1
  obtain ⟨cat, pkg, vop, blocks, strong, negate, slot, subslot, slotOp, use, repo⟩ := a
  obtain ⟨cat', pkg', vop', blocks', strong', negate', slot', subslot', slotOp', use', repo'⟩ := b
  simp only [C02.Spec.atomCanon, Prod.mk.injEq, C02.Atom.opStr, C02.Atom.vr, C02.Atom.useAttr] at h
  -- `atomMatch_clauses` reads no `blocks`, `strong`, `slotOp` (5, 6, 10); `orEmpty` (8, 9) identifies `none`, `some []`
  obtain ⟨h1, h2, h3, h4, _, _, h7, h8, h9, _, h11, h12⟩ := h
  simp only [slotPartsOkB, Bool.and_eq_true] at hsa hsb
  have hs : slot = slot' := orEmpty_inj slot slot' hsa.1 hsb.1 h8
  have hss : subslot = subslot' := orEmpty_inj subslot subslot' hsa.2 hsb.2 h9
  subst h1 h2 h7 hs hss h12
  simp only [C04.atomMatch_clauses, C03.toC04, vopRestr_of_canon vop vop' negate p h3 h4 hwa hwb hp,
    useRestr_of_canon use use' p h11]

end Pkgcore.C07
