import Pkgcore.Spec.C25
import Pkgcore.Proofs.C28
/-! # C25: the relocation passes of `convert_archive`

What the sets, `symLoop`, `Spec.stepLoc` and `Spec.resolveDir` do on the forms of input the proofs meet;
a relocation pass and the passes as permutations of the entries moved by `resolveDir` (`moveBy`, `relocate_perm`,
`pass_perm`, `relocatePasses_perm`). -/
namespace Pkgcore.C25
open Pkgcore.C24 Pkgcore.C25.Spec

/-- `contentsSet` is a dict keyed by location -/
theorem setAdd_eq_putBy : setAdd = Lib.putBy Obj.loc := rfl

theorem setUpdate_fresh (d l : List Obj) (h : ((d ++ l).map Obj.loc).Nodup) : setUpdate d l = d ++ l := by
  rw [setUpdate, setAdd_eq_putBy]; exact Lib.foldl_fresh Obj.loc (Lib.putBy_fresh Obj.loc) l d h

theorem setOf_fresh (l : List Obj) (h : (l.map Obj.loc).Nodup) : setOf l = l :=
  setUpdate_fresh [] l h

theorem symLoop_of_flat (fuel : Nat) (syms : List Obj)
    (h : ∀ a ∈ syms, ∀ b ∈ syms, isChild a.loc b.loc = false) : symLoop (fuel + 1) syms = some syms := by
  unfold symLoop
  have : (C28.sortBy Obj.loc syms).find? (fun x => !(childNodes syms x.loc).isEmpty) = none := by
    apply List.find?_eq_none.mpr
    intro x hx
    have : childNodes syms x.loc = [] := List.filter_eq_nil_iff.mpr fun y hy =>
      Bool.eq_false_iff.mp (h x ((C28.sortBy_perm Obj.loc syms).mem_iff.mp hx) y hy)
    simp [this]
  simp only [this]

theorem symLoop_result_flat (fuel : Nat) (syms F : List Obj) (h : symLoop fuel syms = some F) :
    ∀ x ∈ F, childNodes F x.loc = [] := by
  induction fuel generalizing syms with
  | zero => simp [symLoop] at h
  | succ fuel ih =>
    unfold symLoop at h
    simp only at h
    split at h
    · rename_i hnone
      cases h
      intro x hx
      rw [List.find?_eq_none] at hnone
      have := hnone x ((C28.sortBy_perm Obj.loc _).mem_iff.mpr hx)
      simpa using this
    · exact ih _ h

theorem withLoc_loc (e : Obj) (l : Str) : (withLoc e l).loc = l := by cases e <;> rfl
theorem withLoc_self (e : Obj) : withLoc e e.loc = e := by cases e <;> rfl
theorem withLoc_withLoc (e : Obj) (a b : Str) : withLoc (withLoc e a) b = withLoc e b := by cases e <;> rfl
theorem withLoc_isSym (e : Obj) (l : Str) : (withLoc e l).isSym = e.isSym := by cases e <;> rfl
theorem withLoc_isDir (e : Obj) (l : Str) : (withLoc e l).isDir = e.isDir := by cases e <;> rfl
theorem withLoc_isReg (e : Obj) (l : Str) : (withLoc e l).isReg = e.isReg := by cases e <;> rfl

theorem setRemove_filter (t : List Obj) (q : Obj → Bool)
    (hq : ∀ a ∈ t, ∀ x ∈ t, a.loc = x.loc → q a = q x) :
    setRemove t (t.filter q) = t.filter fun x => !q x := by
  unfold setRemove
  refine List.filter_congr fun x hx => congrArg not ?_
  cases hc : q x with
  | true => exact List.any_eq_true.mpr ⟨x, List.mem_filter.mpr ⟨hx, hc⟩, by simp⟩
  | false =>
    rw [List.any_eq_false]
    intro a ha hk
    have hqa := (List.mem_filter.mp ha).2
    rw [hq a (List.mem_filter.mp ha).1 x hx (by simpa using hk), hc] at hqa
    cases hqa

theorem setRemove_childNodes (t : List Obj) (s : Str) :
    setRemove t (childNodes t s) = t.filter fun e => !isChild s e.loc :=
  setRemove_filter t _ fun _ _ _ _ e => by rw [e]

theorem setRemove_syms (raw : List Obj) (hlocs : (raw.map Obj.loc).Nodup) :
    setRemove raw (raw.filter Obj.isSym) = raw.filter (fun o => !o.isSym) :=
  setRemove_filter raw _ fun _ ha _ hx e => by rw [Lib.inj_of_nodup_map hlocs ha hx e]

theorem stepLoc_cons (x : Obj) (xs : List Obj) (p : Str) :
    stepLoc (x :: xs) p = if isChild x.loc p then some (moveLoc x.loc (symTarget x) p) else stepLoc xs p := by
  unfold stepLoc
  rw [List.find?_cons]
  cases isChild x.loc p <;> rfl

theorem stepLoc_eq_none (xs : List Obj) (p : Str) : stepLoc xs p = none ↔ ∀ s ∈ xs, isChild s.loc p = false := by
  unfold stepLoc
  rw [Option.map_eq_none_iff, List.find?_eq_none]
  simp

/-- the `if` in `relocate` only saves work: with nothing below `x` the general branch removes and re-adds nothing -/
theorem relocate_cons (x : Obj) (xs t adds : List Obj) :
    relocate (x :: xs) t adds
      = relocate xs (t.filter fun e => !isChild x.loc e.loc)
          (adds ++ changeOffset (childNodes t x.loc) x.loc (symTarget x)) := by
  simp only [relocate]
  split
  · rename_i hemp
    have hnil : childNodes t x.loc = [] := by simpa using hemp
    have hself : (t.filter fun e => !isChild x.loc e.loc) = t :=
      List.filter_eq_self.mpr fun e he => by simpa using List.filter_eq_nil_iff.mp hnil e he
    rw [hself, hnil]
    simp [changeOffset, setOf]
  · rw [setRemove_childNodes]

theorem resolveDir_settled (n : Nat) (xs : List Obj) (p : Str) (h : stepLoc xs p = none) : resolveDir n xs p = p := by
  cases n <;> simp [resolveDir, h]

theorem resolveDir_add (a b : Nat) (xs : List Obj) (p : Str) :
    resolveDir (a + b) xs p = resolveDir b xs (resolveDir a xs p) := by
  induction a generalizing p with
  | zero => simp [resolveDir]
  | succ a ih =>
    rw [show a + 1 + b = (a + b) + 1 by omega]
    simp only [resolveDir]
    cases hs : stepLoc xs p with
    | none => simp only; rw [resolveDir_settled b xs p hs]
    | some p' => simp only; exact ih p'

theorem resolveDir_one_cons (x : Obj) (xs : List Obj) (p : Str) :
    resolveDir 1 (x :: xs) p = if isChild x.loc p then moveLoc x.loc (symTarget x) p else resolveDir 1 xs p := by
  have one : ∀ ys, resolveDir 1 ys p = (stepLoc ys p).getD p := fun ys => by
    rw [resolveDir]; cases stepLoc ys p <;> rfl
  rw [one, one, stepLoc_cons, apply_ite (Option.getD · p), Option.getD_some]

theorem resolveDir_congr (n : Nat) (a b : List Obj) (h : ∀ p, stepLoc a p = stepLoc b p) (p : Str) :
    resolveDir n a p = resolveDir n b p := by
  induction n generalizing p with
  | zero => rfl
  | succ n ih =>
    simp only [resolveDir, h p]
    cases stepLoc b p with
    | none => rfl
    | some p' => exact ih p'

/-- a list of entries "moved by `f`" is `t.map (moveBy f)`; the relocation lemmas say which `f` a pass, the passes and
`convert_archive` amount to, up to the order of the list -/
def moveBy (f : Str → Str) (e : Obj) : Obj := withLoc e (f e.loc)

theorem moveBy_moveBy (f g : Str → Str) (e : Obj) : moveBy g (moveBy f e) = moveBy (g ∘ f) e := by
  unfold moveBy; rw [withLoc_loc, withLoc_withLoc]; rfl

theorem map_moveBy_fix (f : Str → Str) (t : List Obj) (h : ∀ e ∈ t, f e.loc = e.loc) : t.map (moveBy f) = t := by
  rw [List.map_congr_left (g := id) fun e he => by unfold moveBy; rw [h e he, withLoc_self]; rfl, List.map_id]

theorem map_loc_moveBy (f : Str → Str) (t : List Obj) : (t.map (moveBy f)).map Obj.loc = (t.map Obj.loc).map f := by
  rw [List.map_map, List.map_map]; exact List.map_congr_left fun e _ => withLoc_loc _ _

/-- one `for x in syms` loop: `.1` the entries kept, `.2` those re-added.  The hypothesis — the moved entries have
distinct locations — passes to every sublist, so each `setOf` on the way is the identity -/
theorem relocate_perm (xs t adds : List Obj) (h : ((t.map (moveBy (resolveDir 1 xs))).map Obj.loc).Nodup) :
    (relocate xs t adds).1 = t.filter (fun e => (stepLoc xs e.loc).isNone) ∧
    ((relocate xs t adds).1 ++ (relocate xs t adds).2).Perm (t.map (moveBy (resolveDir 1 xs)) ++ adds) := by
  induction xs generalizing t adds with
  | nil =>
    exact ⟨(List.filter_eq_self.mpr fun _ _ => rfl).symm, by rw [map_moveBy_fix _ t fun _ _ => rfl]; exact .refl _⟩
  | cons x xs ih =>
    have hsub : ∀ q : Obj → Bool, (((t.filter q).map (moveBy (resolveDir 1 (x :: xs)))).map Obj.loc).Nodup :=
      fun q => ((List.filter_sublist.map _).map _).nodup h
    have hkeep : (t.filter fun e => !isChild x.loc e.loc).map (moveBy (resolveDir 1 xs))
        = (t.filter fun e => !isChild x.loc e.loc).map (moveBy (resolveDir 1 (x :: xs))) :=
      List.map_congr_left fun e he => by
        have := (List.mem_filter.mp he).2
        unfold moveBy; rw [resolveDir_one_cons, if_neg (by simpa using this)]
    have hmove : (childNodes t x.loc).map (fun e => withLoc e (moveLoc x.loc (symTarget x) e.loc))
        = (t.filter fun e => isChild x.loc e.loc).map (moveBy (resolveDir 1 (x :: xs))) :=
      List.map_congr_left fun e he => by unfold moveBy; rw [resolveDir_one_cons, if_pos (List.mem_filter.mp he).2]
    obtain ⟨h1, h2⟩ := ih (t.filter fun e => !isChild x.loc e.loc)
      (adds ++ changeOffset (childNodes t x.loc) x.loc (symTarget x)) (by rw [hkeep]; exact hsub _)
    rw [relocate_cons]
    refine ⟨?_, h2.trans ?_⟩
    · rw [h1, List.filter_filter]
      exact List.filter_congr fun e _ => by rw [stepLoc_cons]; cases isChild x.loc e.loc <;> simp
    · unfold changeOffset
      rw [hmove, setOf_fresh _ (hsub _), hkeep]
      refine (List.Perm.append_left _ List.perm_append_comm).trans ?_
      rw [← List.append_assoc, ← List.map_append]
      exact ((List.perm_append_comm.trans (List.filter_append_perm _ t)).map _).append_right adds

/-- the second part is for the early exit of `relocatePasses` -/
theorem pass_perm (xs t : List Obj) (h : ((t.map (moveBy (resolveDir 1 xs))).map Obj.loc).Nodup) :
    (setUpdate (relocate xs t []).1 (relocate xs t []).2).Perm (t.map (moveBy (resolveDir 1 xs))) ∧
    ((relocate xs t []).2 = [] → (relocate xs t []).1 = t ∧ ∀ e ∈ t, stepLoc xs e.loc = none) := by
  obtain ⟨h1, h2⟩ := relocate_perm xs t [] h
  rw [List.append_nil] at h2
  refine ⟨by rw [setUpdate_fresh _ _ ((h2.map Obj.loc).nodup_iff.mpr h)]; exact h2, fun hnil => ?_⟩
  -- nothing re-added: the kept entries are as many as all entries
  rw [hnil, List.append_nil, h1] at h2
  have hall := List.length_filter_eq_length_iff.mp (h2.length_eq.trans (List.length_map _))
  exact ⟨h1.trans (List.filter_eq_self.mpr hall), fun e he => Option.isNone_iff_eq_none.mp (hall e he)⟩

theorem relocatePasses_succ (m : Nat) (xs t : List Obj) :
    relocatePasses (m + 1) xs t = if (relocate xs t []).2.isEmpty then (relocate xs t []).1
      else relocatePasses m xs (setUpdate (relocate xs t []).1 (relocate xs t []).2) := by
  cases h : relocate xs t [] with
  | mk a b => simp [relocatePasses, h]

/-- `relocatePasses` stops early when a pass moves nothing: then every entry is settled, and further steps change
nothing -/
theorem relocatePasses_perm (xs : List Obj) : ∀ (m : Nat) (t : List Obj),
    ((t.map (moveBy (resolveDir m xs))).map Obj.loc).Nodup →
    (relocatePasses m xs t).Perm (t.map (moveBy (resolveDir m xs)))
  | 0, t, _ => by rw [map_moveBy_fix _ t fun _ _ => rfl]; rfl
  | m + 1, t, h => by
    have hsplit : moveBy (resolveDir (m + 1) xs) = moveBy (resolveDir m xs) ∘ moveBy (resolveDir 1 xs) :=
      funext fun e => by
        rw [Function.comp, moveBy_moveBy]; unfold moveBy; rw [Nat.add_comm, resolveDir_add]; rfl
    rw [hsplit, ← List.map_map] at h
    have h1 : ((t.map (moveBy (resolveDir 1 xs))).map Obj.loc).Nodup := by
      rw [map_loc_moveBy] at h; exact Lib.nodup_of_nodup_map h
    obtain ⟨hp, hnil⟩ := pass_perm xs t h1
    rw [relocatePasses_succ]
    split
    · rename_i hemp
      obtain ⟨ht, hs⟩ := hnil (by simpa using hemp)
      rw [ht, map_moveBy_fix _ t fun e he => resolveDir_settled _ _ _ (hs e he)]
    · rw [hsplit, ← List.map_map]
      exact (relocatePasses_perm xs m _ (((hp.map _).map _).nodup_iff.mpr h)).trans (hp.map _)

end Pkgcore.C25
