import Pkgcore.Spec.C09
/-!
# C09 — induction over trees and lists of trees; `collapseL` on lists

A fact about a mutual pair (`satAbs`/`membersAbs`, `evalNode`/`evalList`, `render`/`renderL`, …) is proved as one
theorem with a node half and a list half, by `Dep.induct₂`.  With it, the equations of the normal form `collapseL`.
-/
namespace Pkgcore.C09
open Pkgcore.C09.Spec

theorem Dep.induct₂ {P : Dep → Prop} {Q : List Dep → Prop} (leaf : ∀ k r, P (.leaf k r))
    (grp : ∀ kind cs, Q cs → P (.grp kind cs)) (cond : ∀ n f cs, Q cs → P (.cond n f cs))
    (nil : Q []) (cons : ∀ c cs, P c → Q cs → Q (c :: cs)) : (∀ t, P t) ∧ ∀ cs, Q cs :=
  ⟨fun t => Dep.rec (motive_1 := P) (motive_2 := Q) leaf grp cond nil cons t,
   fun cs => Dep.rec_1 (motive_1 := P) (motive_2 := Q) leaf grp cond nil cons cs⟩

@[simp] theorem collapseL_nil : collapseL [] = [] := by simp [collapseL]
@[simp] theorem collapseL_cons (c cs) : collapseL (c :: cs) = collapse c :: collapseL cs := by simp [collapseL]

end Pkgcore.C09
