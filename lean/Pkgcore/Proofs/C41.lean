import Pkgcore.Spec.C41
/-!
# C41 — the invariant of the transition system

What a single worker changing state does to the worker list (`set_split`), the five kinds of step (`apply_elim`),
conservation of the items over a step (`pool_step`), the protocol of producer and queue with what each queue operation
does to it (`Fifo`), then the invariant `Inv` of the reachable states (`inv_reachable`) and the termination `measure`;
for the system with the kill event its kinds of step (`xapply_elim`), the runs that never set it (`clean_is_base`) and
conservation (`xreachable_pool`); last, `session_is_call` and `flatMap_regenF` for the session and regen theorems.
-/
namespace Pkgcore.C41
open Spec

def busyItems {α : Type} (ws : List (WState α)) : List α :=
  ws.filterMap fun w => match w with | .busy x => some x | _ => none

def queueItems {α : Type} (q : List (QItem α)) : List α :=
  q.filterMap fun e => match e with | .item x => some x | .sentinel => none

def doneCount {α : Type} (ws : List (WState α)) : Nat :=
  ws.countP fun w => match w with | .done => true | _ => false

/-- everything the call still knows about -/
def pool {α β : Type} (s : State α β) : List α :=
  handledAll s ++ busyItems s.workers ++ queueItems s.queue ++ s.remaining

theorem set_split {α : Type} {l : List α} {w : Nat} {u : α} (h : l[w]? = some u) :
    ∃ l₁ l₂, l = l₁ ++ u :: l₂ ∧ ∀ v, l.set w v = l₁ ++ v :: l₂ := by
  obtain ⟨hw, rfl⟩ := List.getElem_of_getElem? h
  exact ⟨l.take w, l.drop (w + 1), by rw [List.getElem_cons_drop, List.take_append_drop],
    fun v => by rw [List.set_eq_take_append_cons_drop, if_pos hw]⟩

theorem busyItems_append {α : Type} (a b : List (WState α)) : busyItems (a ++ b) = busyItems a ++ busyItems b :=
  List.filterMap_append

theorem doneCount_append {α : Type} (a b : List (WState α)) : doneCount (a ++ b) = doneCount a + doneCount b :=
  List.countP_append

theorem doneCount_cons_ne {α : Type} {v : WState α} (hv : v ≠ .done) (l : List (WState α)) :
    doneCount (v :: l) = doneCount l := by
  cases v with
  | done => exact absurd rfl hv
  | _ => rfl

theorem busyItems_get {α : Type} (ws : List (WState α)) (w : Nat) (x : α) (h : ws[w]? = some .idle) :
    (busyItems (ws.set w (.busy x))).Perm (x :: busyItems ws) := by
  obtain ⟨l₁, l₂, rfl, hs⟩ := set_split h
  rw [hs, busyItems_append, busyItems_append]
  exact List.perm_middle

theorem busyItems_finish {α : Type} (ws : List (WState α)) (w : Nat) (x : α) (h : ws[w]? = some (.busy x)) :
    (x :: busyItems (ws.set w .idle)).Perm (busyItems ws) := by
  obtain ⟨l₁, l₂, rfl, hs⟩ := set_split h
  rw [hs, busyItems_append, busyItems_append]
  exact List.perm_middle.symm

theorem set_done {α : Type} (ws : List (WState α)) (w : Nat) (h : ws[w]? = some .idle) :
    busyItems (ws.set w .done) = busyItems ws ∧ doneCount (ws.set w .done) = doneCount ws + 1 := by
  obtain ⟨l₁, l₂, rfl, hs⟩ := set_split h
  rw [hs, busyItems_append, busyItems_append, doneCount_append, doneCount_append]
  exact ⟨rfl, congrArg (doneCount l₁ + ·) (List.countP_cons_of_pos rfl)⟩

theorem doneCount_set {α : Type} {ws : List (WState α)} {w : Nat} {u : WState α} (h : ws[w]? = some u) (v : WState α)
    (hu : u ≠ .done) (hv : v ≠ .done) : doneCount (ws.set w v) = doneCount ws := by
  obtain ⟨l₁, l₂, rfl, hs⟩ := set_split h
  rw [hs, doneCount_append, doneCount_append, doneCount_cons_ne hv, doneCount_cons_ne hu]

theorem flatten_set_append {α : Type} (hs : List (List α)) (w : Nat) (x : α) (hw : w < hs.length) :
    (hs.set w (hs.getD w [] ++ [x])).flatten.Perm (x :: hs.flatten) := by
  obtain ⟨l₁, l₂, e, hset⟩ := set_split (List.getElem?_eq_getElem hw)
  rw [hset, List.getD_eq_getElem?_getD, List.getElem?_eq_getElem hw]
  generalize hs[w] = u at e ⊢
  subst e
  simp only [Option.getD_some, List.flatten_append, List.flatten_cons, List.append_assoc, List.cons_append,
    List.nil_append]
  exact (List.perm_middle.append_left _).trans List.perm_middle

theorem all_done {α : Type} (ws : List (WState α)) (h : ∀ w ∈ ws, w = .done) :
    busyItems ws = [] ∧ doneCount ws = ws.length :=
  ⟨List.filterMap_eq_nil_iff.2 fun w hw => h w hw ▸ rfl, List.countP_eq_length.2 fun w hw => h w hw ▸ rfl⟩

theorem not_all_done {α : Type} (ws : List (WState α)) (h : ¬ ∀ w ∈ ws, w = WState.done) :
    ∃ (i : Nat) (u : WState α), ws[i]? = some u ∧ u ≠ WState.done ∧ doneCount ws < ws.length := by
  obtain ⟨u, hne⟩ := Classical.not_forall.1 h
  obtain ⟨hm, hu⟩ := Classical.not_imp.1 hne
  obtain ⟨i, hi⟩ := List.getElem?_of_mem hm
  refine ⟨i, u, hi, hu, Nat.lt_of_le_of_ne List.countP_le_length fun e => hu ?_⟩
  have := List.countP_eq_length.1 e u hm
  cases u <;> first | rfl | cases this

theorem queueItems_append_item {α : Type} (q : List (QItem α)) (x : α) :
    queueItems (q ++ [.item x]) = queueItems q ++ [x] :=
  List.filterMap_append

theorem queueItems_append_sentinel {α : Type} (q : List (QItem α)) :
    queueItems (q ++ [.sentinel]) = queueItems q :=
  List.filterMap_append.trans (List.append_nil _)

@[elab_as_elim]
theorem apply_elim {α β : Type} {f : α → List β} {fin : Nat → List α → Option β} {s s' : State α β} {e : Event α}
    {motive : State α β → Prop} (h : apply f fin s e = some s')
    (putItem : ∀ x rest, s.remaining = x :: rest →
      motive { s with remaining := rest, queue := s.queue ++ [.item x] })
    (putSentinel : ∀ k, s.remaining = [] → s.sentinelsLeft = k + 1 →
      motive { s with sentinelsLeft := k, queue := s.queue ++ [.sentinel] })
    (getItem : ∀ w x q, s.workers[w]? = some .idle → s.queue = .item x :: q →
      motive { s with queue := q, workers := s.workers.set w (.busy x) })
    (getSentinel : ∀ w q, s.workers[w]? = some .idle → s.queue = .sentinel :: q →
      motive { s with queue := q, workers := s.workers.set w .done,
                      results := s.results ++ (fin w (s.handled.getD w [])).toList })
    (finish : ∀ w x, s.workers[w]? = some (.busy x) →
      motive { s with workers := s.workers.set w .idle, handled := s.handled.set w (s.handled.getD w [] ++ [x]),
                      results := s.results ++ f x }) : motive s' := by
  cases e with
  | put =>
    simp only [apply] at h
    split at h
    · cases h; exact putItem _ _ ‹_›
    · split at h
      · cases h; exact putSentinel _ ‹_› ‹_›
      · cases h
  | get w =>
    simp only [apply] at h
    split at h
    · cases h; exact getItem _ _ _ ‹_› ‹_›
    · cases h; exact getSentinel _ _ ‹_› ‹_›
    · cases h
  | finish w =>
    simp only [apply] at h
    split at h
    · cases h; exact finish _ _ ‹_›
    · cases h

/-- conservation needs no FIFO shape, so it holds with the kill event too -/
theorem pool_step {α β : Type} (f : α → List β) (fin : Nat → List α → Option β) (s s' : State α β) (e : Event α)
    (hlen : s.handled.length = s.workers.length) (h : apply f fin s e = some s') :
    (pool s').Perm (pool s) ∧ s'.handled.length = s'.workers.length := by
  refine apply_elim h ?putItem ?putSentinel ?getItem ?getSentinel ?finish
  case putItem =>
    intro x rest hr
    refine ⟨.of_eq ?_, hlen⟩
    simp only [pool, handledAll, hr, queueItems_append_item, List.append_assoc, List.cons_append, List.nil_append]
  case putSentinel =>
    intro k hr _
    exact ⟨.of_eq (by simp only [pool, handledAll, hr, queueItems_append_sentinel]), hlen⟩
  case getItem =>
    intro w x q hw hq
    refine ⟨?_, by simpa only [List.length_set] using hlen⟩
    simp only [pool, handledAll, hq]
    refine List.Perm.append_right _ ?_
    refine ((busyItems_get s.workers w x hw).append_left _ |>.append_right _).trans ?_
    simp only [List.append_assoc, List.cons_append]
    exact List.perm_middle.symm.append_left _
  case getSentinel =>
    intro w q hw hq
    refine ⟨.of_eq ?_, by simpa only [List.length_set] using hlen⟩
    simp only [pool, handledAll, hq, (set_done s.workers w hw).1]
    rfl
  case finish =>
    intro w x hw
    have hwl : w < s.handled.length := hlen ▸ (List.getElem?_eq_some_iff.1 hw).1
    refine ⟨?_, by simpa only [List.length_set] using hlen⟩
    simp only [pool, handledAll]
    refine List.Perm.append_right _ (List.Perm.append_right _ ?_)
    refine ((flatten_set_append s.handled w x hwl).append_right _).trans ?_
    exact List.perm_middle.symm.trans ((busyItems_finish s.workers w x hw).append_left _)

/-- the producer's protocol, with `d` of the `n` workers done: the queue `q` is items followed by sentinels; sentinels
are put only after the last of the items `rem`; every worker still has its sentinel coming — queued, taken or among the
`sl` not yet put; once a worker has taken one no item is left in the queue -/
def Fifo {α : Type} (n : Nat) (rem : List α) (q : List (QItem α)) (d sl : Nat) : Prop :=
  ∃ qi k, q = qi.map .item ++ List.replicate k .sentinel ∧ k + d + sl = n ∧ (d > 0 → qi = []) ∧ (sl < n → rem = [])

section
variable {α : Type} {n d sl : Nat} {rem : List α} {q : List (QItem α)}

theorem Fifo.init (n : Nat) (rem : List α) : Fifo n rem [] 0 n :=
  ⟨[], 0, rfl, Nat.zero_add n, fun _ => rfl, fun h => absurd h (Nat.lt_irrefl n)⟩

theorem Fifo.put_item {x : α} (h : Fifo n (x :: rem) q d sl) : Fifo n rem (q ++ [.item x]) d sl := by
  obtain ⟨qi, k, rfl, hcount, _, hlate⟩ := h
  -- an item is still to be put, so no sentinel is queued and no worker is done
  have hsl : ¬ sl < n := fun hl => nomatch hlate hl
  obtain rfl : k = 0 := by omega
  exact ⟨qi ++ [x], 0, by simp, hcount, fun _ => by omega, fun hl => absurd hl hsl⟩

theorem Fifo.put_sentinel (h : Fifo n rem q d (sl + 1)) (hrem : rem = []) : Fifo n rem (q ++ [.sentinel]) d sl := by
  obtain ⟨qi, k, rfl, hcount, hdone, _⟩ := h
  exact ⟨qi, k + 1, by rw [List.replicate_succ', List.append_assoc], by omega, hdone, fun _ => hrem⟩

theorem Fifo.get_item {x : α} (h : Fifo n rem (.item x :: q) d sl) : Fifo n rem q d sl := by
  obtain ⟨qi, k, hq, hcount, hdone, hlate⟩ := h
  cases qi with
  | nil => cases k <;> cases hq
  | cons y qi => cases hq; exact ⟨qi, k, rfl, hcount, fun hd => (nomatch hdone hd), hlate⟩

theorem Fifo.get_sentinel (h : Fifo n rem (.sentinel :: q) d sl) : Fifo n rem q (d + 1) sl := by
  obtain ⟨qi, k, hq, hcount, _, hlate⟩ := h
  cases qi with
  | nil =>
    cases k with
    | zero => cases hq
    | succ k => cases hq; exact ⟨[], k, rfl, by omega, fun _ => rfl, hlate⟩
  | cons y qi => cases hq

theorem Fifo.queueItems_nil (h : Fifo n rem q d sl) (hd : d > 0) : queueItems q = [] := by
  obtain ⟨qi, k, rfl, _, hdone, _⟩ := h
  rw [hdone hd]
  exact List.filterMap_replicate_of_none rfl

/-- every worker that is not done is still owed a sentinel -/
theorem Fifo.ne_nil (h : Fifo n rem q d 0) (hd : d < n) : q ≠ [] := by
  obtain ⟨qi, k, rfl, hcount, _⟩ := h
  cases k with
  | zero => omega
  | succ k => cases qi <;> nofun

end

/-- what holds in every reachable state: no item is lost or duplicated (`conserve`); producer and queue keep to the
protocol `Fifo` (`fifo`); with worker functions that return nothing the results are those of the handled items
(`resultsOk`) -/
structure Inv {α β : Type} (f : α → List β) (fin : Nat → List α → Option β) (items : List α) (n : Nat)
    (s : State α β) : Prop where
  lenW : s.workers.length = n
  lenH : s.handled.length = n
  conserve : (pool s).Perm items
  fifo : Fifo n s.remaining s.queue (doneCount s.workers) s.sentinelsLeft
  resultsOk : (∀ w l, fin w l = none) → s.results.Perm ((handledAll s).flatMap f)

theorem doneCount_replicate_idle {α : Type} (n : Nat) : doneCount (List.replicate n (WState.idle : WState α)) = 0 :=
  List.countP_replicate

theorem busyItems_replicate_idle {α : Type} (n : Nat) : busyItems (List.replicate n (WState.idle : WState α)) = [] :=
  List.filterMap_replicate_of_none rfl

theorem flatten_replicate_nil {α : Type} (n : Nat) : (List.replicate n ([] : List α)).flatten = [] :=
  List.flatten_replicate_nil

theorem pool_init {α β : Type} (items : List α) (n : Nat) : pool (init items n : State α β) = items := by
  simp only [pool, init, handledAll, flatten_replicate_nil, busyItems_replicate_idle, queueItems, List.filterMap_nil,
    List.nil_append]

theorem inv_init {α β : Type} (f : α → List β) (fin : Nat → List α → Option β) (items : List α) (n : Nat) :
    Inv f fin items n (init items n) where
  lenW := List.length_replicate
  lenH := List.length_replicate
  conserve := .of_eq (pool_init items n)
  fifo := doneCount_replicate_idle (α := α) n ▸ Fifo.init n items
  resultsOk := fun _ => .of_eq (by simp only [init, handledAll, flatten_replicate_nil, List.flatMap_nil])

theorem inv_step {α β : Type} (f : α → List β) (fin : Nat → List α → Option β) (items : List α) (n : Nat)
    (s s' : State α β) (inv : Inv f fin items n s) (e : Event α) (h : apply f fin s e = some s') :
    Inv f fin items n s' := by
  have hc := (pool_step f fin s s' e (inv.lenH.trans inv.lenW.symm) h).1.trans inv.conserve
  revert hc
  refine apply_elim h ?putItem ?putSentinel ?getItem ?getSentinel ?finish
  case putItem =>
    intro x rest hr hc
    exact ⟨inv.lenW, inv.lenH, hc, (hr ▸ inv.fifo).put_item, inv.resultsOk⟩
  case putSentinel =>
    intro k hr hs hc
    exact ⟨inv.lenW, inv.lenH, hc, (hs ▸ inv.fifo).put_sentinel hr, inv.resultsOk⟩
  case getItem =>
    intro w x q hw hq hc
    exact ⟨List.length_set.trans inv.lenW, inv.lenH, hc,
      doneCount_set hw (.busy x) nofun nofun ▸ (hq ▸ inv.fifo).get_item, inv.resultsOk⟩
  case getSentinel =>
    intro w q hw hq hc
    refine ⟨List.length_set.trans inv.lenW, inv.lenH, hc, (set_done s.workers w hw).2 ▸ (hq ▸ inv.fifo).get_sentinel,
      fun hf => ?_⟩
    simp only [hf, Option.toList, List.append_nil]
    exact inv.resultsOk hf
  case finish =>
    intro w x hw hc
    have hwl : w < s.handled.length := (inv.lenH.trans inv.lenW.symm) ▸ (List.getElem?_eq_some_iff.1 hw).1
    refine ⟨List.length_set.trans inv.lenW, List.length_set.trans inv.lenH, hc,
      doneCount_set hw .idle nofun nofun ▸ inv.fifo, fun hf => ?_⟩
    simp only [handledAll]
    refine ((inv.resultsOk hf).append_right _).trans ?_
    refine .trans ?_ (List.Perm.flatMap_right f (flatten_set_append s.handled w x hwl).symm)
    simp only [handledAll, List.flatMap_cons]
    exact List.perm_append_comm

theorem inv_reachable {α β : Type} (f : α → List β) (fin : Nat → List α → Option β) (items : List α) (n : Nat)
    (s : State α β) (h : Reachable f fin items n s) : Inv f fin items n s := by
  induction h with
  | start => exact inv_init f fin items n
  | step _ hs ih =>
    obtain ⟨e, he⟩ := hs
    exact inv_step f fin items n _ _ ih e he

/-- an item or sentinel weighs 3 before it is put, 2 in the queue, 1 in a worker's hands (items only) and 0 afterwards -/
def measure {α β : Type} (s : State α β) : Nat :=
  3 * (s.remaining.length + s.sentinelsLeft) + 2 * s.queue.length + (busyItems s.workers).length

/-- the `raise` case forgets the half of its guard that says no sentinel has been posted -/
@[elab_as_elim]
theorem xapply_elim {α β : Type} {f : α → List β} {fin : Nat → List α → Option β} {xs xs' : XState α β}
    {e : XEvent α} {motive : XState α β → Prop} (h : xapply f fin xs e = some xs')
    (base : ∀ e b, apply f fin xs.base e = some b → motive { xs with base := b })
    (raise : xs.kill = false →
      motive { base := { xs.base with remaining := [] }, kill := true, dropped := xs.base.remaining })
    (quit : ∀ w, xs.kill = true → xs.base.workers[w]? = some .idle →
      motive { xs with base := { xs.base with
        workers := xs.base.workers.set w .done,
        results := xs.base.results ++ (fin w (xs.base.handled.getD w [])).toList } }) : motive xs' := by
  cases e with
  | base e =>
    obtain ⟨b, hb, rfl⟩ := Option.map_eq_some_iff.1 h
    exact base e b hb
  | raise =>
    simp only [xapply] at h
    split at h
    · cases h; exact raise (And.left ‹_›)
    · cases h
  | quit w =>
    simp only [xapply] at h
    split at h
    · cases h; exact quit _ ‹_› ‹_›
    · cases h

/-- a state with the event clear was reached by base steps alone: `raise` sets the event, `quit` needs it set -/
theorem clean_is_base {α β : Type} (f : α → List β) (fin : Nat → List α → Option β) (items : List α) (n : Nat)
    (xs : XState α β) (h : XReachable f fin items n xs) (hk : xs.kill = false) :
    Reachable f fin items n xs.base ∧ xs.dropped = [] := by
  induction h with
  | start => exact ⟨Reachable.start, rfl⟩
  | @step xs xs' _ hs ih =>
    obtain ⟨e, he⟩ := hs
    revert hk
    refine xapply_elim he ?base ?raise ?quit
    case base =>
      intro e b hb hk
      exact ⟨Reachable.step (ih hk).1 ⟨e, hb⟩, (ih hk).2⟩
    case raise => exact fun _ => nofun
    case quit =>
      intro w hk' _ hk
      exact absurd (hk'.symm.trans hk) nofun

theorem xreachable_pool {α β : Type} (f : α → List β) (fin : Nat → List α → Option β) (items : List α) (n : Nat)
    (xs : XState α β) (h : XReachable f fin items n xs) :
    (pool xs.base ++ xs.dropped).Perm items ∧ xs.base.handled.length = xs.base.workers.length := by
  induction h with
  | start =>
    refine ⟨.of_eq ?_, List.length_replicate.trans List.length_replicate.symm⟩
    simp only [xinit, pool_init, List.append_nil]
  | @step xs xs' hr hs ih =>
    obtain ⟨e, he⟩ := hs
    refine xapply_elim he ?base ?raise ?quit
    case base =>
      intro e b hb
      obtain ⟨hp, hl⟩ := pool_step f fin xs.base b e ih.2 hb
      exact ⟨(hp.append_right _).trans ih.1, hl⟩
    case raise =>
      -- nothing was dropped before the event is set
      intro hk
      refine ⟨.trans (.of_eq ?_) ih.1, ih.2⟩
      simp only [(clean_is_base f fin items n xs hr hk).2, pool, handledAll, List.append_nil]
    case quit =>
      intro w hk hw
      refine ⟨.trans (.of_eq ?_) ih.1, by simpa only [List.length_set] using ih.2⟩
      simp only [pool, handledAll, (set_done xs.base.workers w hw).1]

theorem session_is_call {α β : Type} (f : α → List β) (fin : Nat → List α → Option β) (hist : List (Call α))
    (c : Call α) (xs : XState α β) (h : SessionReach f fin hist c xs) : XReachable f fin c.items c.n xs := by
  induction h with
  | first c => exact XReachable.start
  | step _ hs ih => exact XReachable.step ih hs
  | next c' _ _ _ => exact XReachable.start

theorem flatMap_regenF {α ε : Type} (outcome : α → Option ε) (pkgs : List α) :
    pkgs.flatMap (regenF outcome) = pkgs.filterMap (fun p => (outcome p).map (fun e => (p, e))) := by
  induction pkgs with
  | nil => rfl
  | cons p ps ih =>
    simp only [List.flatMap_cons, List.filterMap_cons, ih, regenF]
    cases outcome p <;> simp

end Pkgcore.C41
