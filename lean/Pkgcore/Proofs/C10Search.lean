import Pkgcore.Proofs.C10Store
/-!
# C10 solver model — the frame of the search and its two induction principles

`round` is the checking half of one iteration of `__solve`; `solveRec_induct` is the recursion and `tryValues_induct`
the loop over the values of one variable, for a fact that depends on the store each round starts from.  A finished piece
of search leaves the store as it was up to the order of the visible values (`StEq`), so what is known of the store
before a round is known after it (`DInv`, a property of every visible domain); in particular the variables of the store
never change (`Keys`).
-/
-- the model's `[DecidableEq Var] [DecidableEq Val]` are in scope throughout, also where a statement needs only one
set_option linter.unusedSectionVars false
namespace Pkgcore.C10.Solver
variable {Var Val : Type} [DecidableEq Var] [DecidableEq Val]

theorem unassigned_cons (asg : Asg Var Val) (var : Var) (v : Val) (x : Var) :
    unassigned ((var, v) :: asg) x = (x != var && unassigned asg x) := by
  unfold unassigned
  rw [List.lookup_cons]
  cases h : x == var <;> simp [bne, h]

theorem unassigned_false_iff (asg : Asg Var Val) (x : Var) :
    unassigned asg x = false ↔ ∃ v, asg.lookup x = some v := by
  unfold unassigned
  cases asg.lookup x <;> simp

/-- the checks of one round of `__solve`: with `var := v` assigned, `push_state` on the domains of the variables still
unassigned, then `__check` on the constraints of `var` -/
def round (cons : List (Constraint Var Val)) (var : Var) (asg : Asg Var Val) (v : Val) (st : Store Var Val) :
    Bool × Store Var Val :=
  checkAll ((var, v) :: asg) (vcons cons var) (upd (fun x => x != var && unassigned asg x) Dom.pushState st)

section tryValues
variable (rec : Store Var Val → Asg Var Val → List (Asg Var Val) × Store Var Val) (cons : List (Constraint Var Val))
  (var : Var) (asg : Asg Var Val)

theorem tryOne_fst (v : Val) (st : Store Var Val) :
    (tryOne rec cons var asg v st).1 =
      if (round cons var asg v st).1 = true then (rec (round cons var asg v st).2 ((var, v) :: asg)).1 else [] := by
  unfold tryOne round
  dsimp only
  split <;> rfl

theorem mem_tryOne {v : Val} {st : Store Var Val} {s : Asg Var Val} (hs : s ∈ (tryOne rec cons var asg v st).1) :
    (round cons var asg v st).1 = true ∧ s ∈ (rec (round cons var asg v st).2 ((var, v) :: asg)).1 := by
  rw [tryOne_fst] at hs
  by_cases hok : (round cons var asg v st).1 = true
  · rw [if_pos hok] at hs; exact ⟨hok, hs⟩
  · rw [if_neg hok] at hs; exact nomatch hs

theorem tryValues_cons (v : Val) (vs : List Val) (st : Store Var Val) :
    tryValues rec cons var asg (v :: vs) st =
      ((tryOne rec cons var asg v st).1 ++ (tryValues rec cons var asg vs (tryOne rec cons var asg v st).2).1,
        (tryValues rec cons var asg vs (tryOne rec cons var asg v st).2).2) := rfl

end tryValues

/-- what a round does to one domain: where `b` (the variable is still unassigned) `push_state`, then values hidden;
elsewhere nothing -/
def Pushed (b : Bool) (d d' : Dom Val) : Prop := if b = true then Hid d.pushState d' else d' = d

theorem optionRel_of_map_left {R R' : Dom Val → Dom Val → Prop} {f : Dom Val → Dom Val}
    (hR : ∀ d d', R (f d) d' → R' d d') :
    ∀ {o o' : Option (Dom Val)}, Option.Rel R (o.map f) o' → Option.Rel R' o o'
  | some _, _, .some h => .some (hR _ _ h)
  | none, _, .none => .none

theorem round_frame (cons : List (Constraint Var Val)) (var : Var) (asg : Asg Var Val) (v : Val) (st : Store Var Val) :
    StRel (fun x => Pushed (x != var && unassigned asg x)) st (round cons var asg v st).2 := by
  intro x
  have h := checkAll_frame ((var, v) :: asg) (vcons cons var)
    (upd (fun x => x != var && unassigned asg x) Dom.pushState st) x
  rw [lookup_upd] at h
  unfold FcRel at h
  rw [unassigned_cons] at h
  refine optionRel_of_map_left (fun d d' => ?_) h
  show _ → Pushed _ d d'
  cases (x != var && unassigned asg x) <;> exact id

theorem Pushed.sub {b : Bool} {d d' : Dom Val} (h : Pushed b d d') : ∃ H, (d'.vis ++ H).Perm d.vis := by
  unfold Pushed at h
  split at h
  · obtain ⟨H, _, p, _⟩ := h
    exact ⟨H, p⟩
  · exact ⟨[], by simp [h]⟩

/-- a property of every visible domain; it crosses a step of the search according to what the step may do to one
domain (`DInv.of_StRel`) -/
def DInv (D : Var → List Val → Prop) (st : Store Var Val) : Prop := ∀ x d, st.lookup x = some d → D x d.vis

theorem DInv.of_StRel {D D' : Var → List Val → Prop} {R : Var → Dom Val → Dom Val → Prop} {st st' : Store Var Val}
    (h : DInv D st) (e : StRel R st st') (hR : ∀ x d d', R x d d' → D x d.vis → D' x d'.vis) : DInv D' st' := by
  intro x d' hl
  obtain ⟨d, hd, hr⟩ := e.of_lookup hl
  exact hR x d d' hr (h x d hd)

/-- `D` survives what forward checking and push/pop can do to a visible domain: reorder it, remove values -/
def Hered (D : Var → List Val → Prop) : Prop := ∀ x l l' H, (l' ++ H).Perm l → D x l → D x l'

theorem DInv.round {D : Var → List Val → Prop} {st : Store Var Val} (hD : Hered D) (h : DInv D st)
    (cons : List (Constraint Var Val)) (var : Var) (asg : Asg Var Val) (v : Val) :
    DInv D (round cons var asg v st).2 :=
  h.of_StRel (round_frame cons var asg v st) fun x _ _ hr => hr.sub.elim fun H p => hD x _ _ H p

theorem DInv.of_StEq {D : Var → List Val → Prop} {st st' : Store Var Val} (hD : Hered D) (h : DInv D st)
    (e : StEq st st') : DInv D st' :=
  h.of_StRel e fun x _ _ hr => hD x _ _ [] (by simpa using hr.1.symm)

theorem hered_sub (D0 : Var → List Val) : Hered fun x l => ∀ w ∈ l, w ∈ D0 x :=
  fun _ _ _ _ p h w hw => h w (p.subset (List.mem_append_left _ hw))

theorem hered_nodup : Hered fun (_ : Var) (l : List Val) => l.Nodup :=
  fun _ _ _ _ p h => (List.nodup_append.mp (p.nodup_iff.mpr h)).1

/-- `tryOne` at one variable: the domain as the round left it (`o2`), kept up to order by the deeper search (`o3`) and
popped where it was pushed, is the domain before the round -/
theorem pop_of_pushed (b : Bool) : ∀ {o o2 o3 : Option (Dom Val)}, Option.Rel (Pushed b) o o2 →
    Option.Rel DomEq o2 o3 → Option.Rel DomEq o (o3.map fun d => if b = true then d.popState else d)
  | _, _, _, .none, .none => .none
  | _, _, _, .some h1, .some h2 => by
      cases b
      · exact .some ((show _ = _ from h1) ▸ h2)
      · exact .some (pop_of_hid_push h1 h2)

section frame
variable (rec : Store Var Val → Asg Var Val → List (Asg Var Val) × Store Var Val) (cons : List (Constraint Var Val))
  (var : Var) (asg : Asg Var Val) (hrec : ∀ st asg, StEq st (rec st asg).2)
include hrec

theorem tryOne_frame (v : Val) (st : Store Var Val) : StEq st (tryOne rec cons var asg v st).2 := by
  intro x
  unfold tryOne
  dsimp only
  rw [lookup_upd]
  refine pop_of_pushed _ (round_frame cons var asg v st x) ?_
  split
  · exact hrec _ _ x
  · exact StEq.refl _ x

theorem tryValues_frame : ∀ (vals : List Val) (st : Store Var Val), StEq st (tryValues rec cons var asg vals st).2
  | [], st => StEq.refl st
  | v :: vs, st => (tryOne_frame rec cons var asg hrec v st).trans (tryValues_frame vs _)

/-- the loop over the values of one frame: every round starts from a store that is the first one (`st`) up to the order
of the visible values, so what is known of `st` and survives `StEq` is known in every round -/
theorem tryValues_induct (st : Store Var Val) {motive : List Val → List (Asg Var Val) → Prop} (nil : motive [] [])
    (step : ∀ v vs st', StEq st st' → motive vs (tryValues rec cons var asg vs (tryOne rec cons var asg v st').2).1 →
      motive (v :: vs)
        ((tryOne rec cons var asg v st').1 ++ (tryValues rec cons var asg vs (tryOne rec cons var asg v st').2).1)) :
    ∀ (vals : List Val) (st' : Store Var Val), StEq st st' → motive vals (tryValues rec cons var asg vals st').1
  | [], _, _ => nil
  | v :: vs, st', e =>
    step v vs st' e (tryValues_induct st nil step vs _ (e.trans (tryOne_frame rec cons var asg hrec v st')))

end frame

theorem foldl_best_mem {α : Type} (f : α → α → Bool) : ∀ (cs : List α) (c : α),
    cs.foldl (fun best x => if f x best = true then x else best) c ∈ c :: cs
  | [], c => by simp
  | x :: xs, c => by
      rcases List.mem_cons.mp (foldl_best_mem f xs (if f x c = true then x else c)) with h | h
      · rw [List.foldl_cons, h]; split <;> simp
      · exact List.mem_cons_of_mem _ (List.mem_cons_of_mem _ h)

theorem selectVar_some {lt : Var → Var → Bool} {cons : List (Constraint Var Val)} {asg : Asg Var Val}
    {st : Store Var Val} {var : Var} (h : selectVar lt cons asg st = some var) :
    unassigned asg var = true ∧ ∃ d, st.lookup var = some d := by
  unfold selectVar at h
  split at h
  · simp at h
  · next c cs hf =>
    have hm := foldl_best_mem (tupleLt lt) cs c
    rw [← hf, List.mem_filterMap] at hm
    obtain ⟨e, he, hsome⟩ := hm
    split at hsome
    · next hu =>
      rw [Option.some.injEq] at h hsome
      rw [← hsome] at h
      subst h
      exact ⟨hu, Option.isSome_iff_exists.mp ((lookup_isSome_iff_mem_keys e.1 st).mpr (List.mem_map.mpr ⟨e, he, rfl⟩))⟩
    · simp at hsome

theorem selectVar_none {lt : Var → Var → Bool} {cons : List (Constraint Var Val)} {asg : Asg Var Val}
    {st : Store Var Val} {x : Var} (h : selectVar lt cons asg st = none) (hx : (st.lookup x).isSome = true) :
    unassigned asg x = false := by
  unfold selectVar at h
  split at h
  · next hf =>
    obtain ⟨e, he, rfl⟩ := List.mem_map.mp ((lookup_isSome_iff_mem_keys x st).mp hx)
    have := List.filterMap_eq_nil_iff.mp hf e he
    split at this
    · simp at this
    · next hu => simpa using hu
  · simp at h

theorem solveRec_induct {lt : Var → Var → Bool} {cons : List (Constraint Var Val)}
    {motive : Nat → Store Var Val → Asg Var Val → List (Asg Var Val) × Store Var Val → Prop}
    (leaf : ∀ fuel st asg, selectVar lt cons asg st = none → motive fuel st asg ([asg], st))
    (zero : ∀ st asg var, selectVar lt cons asg st = some var → motive 0 st asg ([], st))
    (succ : ∀ n st asg var d, selectVar lt cons asg st = some var → st.lookup var = some d →
      (∀ st' asg', motive n st' asg' (solveRec lt cons n st' asg')) →
      motive (n + 1) st asg (tryValues (solveRec lt cons n) cons var asg d.vis.reverse st)) :
    ∀ fuel st asg, motive fuel st asg (solveRec lt cons fuel st asg)
  | 0, st, asg => by
      unfold solveRec
      split
      · next h => exact leaf 0 st asg h
      · next var h => exact zero st asg var h
  | n + 1, st, asg => by
      unfold solveRec
      split
      · next h => exact leaf _ st asg h
      · next var h =>
        obtain ⟨d, hd⟩ := (selectVar_some h).2
        rw [hd]
        exact succ n st asg var d h hd (solveRec_induct leaf zero succ n)

theorem solveRec_frame {lt : Var → Var → Bool} {cons : List (Constraint Var Val)} :
    ∀ (fuel : Nat) (st : Store Var Val) (asg : Asg Var Val), StEq st (solveRec lt cons fuel st asg).2 :=
  solveRec_induct (motive := fun _ st _ r => StEq st r.2)
    (fun _ st _ _ => StEq.refl st) (fun st _ _ _ => StEq.refl st)
    (fun _ st asg var _ _ _ ih => tryValues_frame _ cons var asg ih _ st)

def Keys (K : List Var) (st : Store Var Val) : Prop := ∀ x, x ∈ K ↔ (st.lookup x).isSome = true

theorem Keys.of_StRel {K : List Var} {st st' : Store Var Val} {R : Var → Dom Val → Dom Val → Prop} (h : Keys K st)
    (e : StRel R st st') : Keys K st' :=
  fun x => by rw [e.isSome]; exact h x

theorem Keys.lookup {K : List Var} {st : Store Var Val} {x : Var} {d : Dom Val} (h : Keys K st)
    (hd : st.lookup x = some d) : x ∈ K :=
  (h x).mpr (by rw [hd]; rfl)

theorem Keys.all_assigned {K : List Var} {st : Store Var Val} {lt : Var → Var → Bool} {cons : List (Constraint Var Val)}
    {asg : Asg Var Val} (hK : Keys K st) (hsel : selectVar lt cons asg st = none) : ∀ x ∈ K, unassigned asg x = false :=
  fun x hx => selectVar_none hsel ((hK x).mp hx)

/-- the depth the search still has to go -/
def unCount (asg : Asg Var Val) (ks : List Var) : Nat := (ks.filter (unassigned asg)).length

theorem unCount_step {K : List Var} {asg : Asg Var Val} {var : Var} (hu : unassigned asg var = true) (hK : var ∈ K)
    (v : Val) : unCount ((var, v) :: asg) K < unCount asg K := by
  have : K.filter (unassigned ((var, v) :: asg)) = (K.filter (unassigned asg)).filter (· != var) := by
    rw [List.filter_filter]
    exact List.filter_congr fun x _ => unassigned_cons asg var v x
  rw [unCount, this]
  exact List.length_filter_lt_length_iff_exists.mpr ⟨var, List.mem_filter.mpr ⟨hK, hu⟩, by simp⟩

end Pkgcore.C10.Solver
