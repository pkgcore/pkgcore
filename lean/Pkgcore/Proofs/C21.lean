import Pkgcore.Spec.C21
import Pkgcore.Proofs.C22Path
/-!
Globs and `Under`; `._cfgNNNN_` names as a bijection with (number, file) below 10000; the numbering loop and the pending
list of a well-formed live root; the abstract merge through one step `mergeStep` (`lookup` after it, `LiveWF` kept);
the install trigger's fold; unmerge; histories; directory symlinks.  Three definitions here are vocabulary of the
property statements: `LiveWF`, `LiveFile.through`, `IEntry.through`.
-/
namespace Pkgcore.C21
open Pkgcore.C21.Spec
open Pkgcore.C22 (Path)

theorem starAux_split (f : List Char → Bool) (s : List Char) (h : starAux f s = true) :
    ∃ a b, s = a ++ b ∧ f b = true := by
  induction s with
  | nil => exact ⟨[], [], rfl, h⟩
  | cons d ds ih =>
    simp only [starAux, Bool.or_eq_true] at h
    rcases h with h | h
    · exact ⟨[], d :: ds, rfl, h⟩
    · obtain ⟨a, b, hab, hb⟩ := ih h
      exact ⟨d :: a, b, by rw [hab]; rfl, hb⟩

theorem starAux_append (f : List Char → Bool) (a b : List Char) (h : f b = true) : starAux f (a ++ b) = true := by
  induction a with
  | nil =>
    cases b with
    | nil => exact h
    | cons d ds => simp [starAux, h]
  | cons x xs ih => simp [starAux, ih]

theorem globMatch_iff (ts : List Tok) (s : List Char) : globMatch ts s = true ↔ Matches ts s := by
  constructor
  · induction ts generalizing s with
    | nil =>
      intro h
      have : s = [] := by simpa [globMatch] using h
      subst this
      exact .nil
    | cons t ts ih =>
      intro h
      cases t with
      | lit c =>
        cases s with
        | nil => simp [globMatch] at h
        | cons d ds =>
          simp only [globMatch, Bool.and_eq_true, beq_iff_eq] at h
          obtain ⟨rfl, h2⟩ := h
          exact .lit (ih _ h2)
      | one =>
        cases s with
        | nil => simp [globMatch] at h
        | cons d ds => exact .one (ih _ (by simpa [globMatch] using h))
      | star =>
        obtain ⟨a, b, rfl, hb⟩ := starAux_split _ s (by simpa [globMatch] using h)
        exact Matches.star a (ih _ hb)
  · intro h
    induction h with
    | nil => simp [globMatch]
    | lit _ ih => simp [globMatch, ih]
    | one _ ih => simp [globMatch, ih]
    | star a _ ih => simpa [globMatch] using starAux_append _ a _ ih

theorem matches_lit_append (root : List Char) (ts : List Tok) (rel : List Char) :
    Matches (root.map Tok.lit ++ ts) (root ++ rel) ↔ Matches ts rel := by
  induction root with
  | nil => rfl
  | cons c cs ih => exact ⟨fun h => by cases h with | lit h' => exact ih.1 h', fun h => .lit (ih.2 h)⟩

theorem underOffset_prefix_iff (offset x loc : Path) :
    (underOffset offset x).isPrefixOf loc = true ↔ Under (dirOf offset x) loc := by
  rw [List.isPrefixOf_iff_prefix]
  constructor
  · rintro ⟨t, ht⟩
    exact ⟨t, by rw [← ht]; simp [underOffset, dirOf]⟩
  · rintro ⟨rest, rfl⟩
    exact ⟨rest, by simp [underOffset, dirOf]⟩

open Pkgcore.C22 in
/-- `hne`: the root strips to `[]` (`rstripSlash_render`), and every absolute path is `Under` that -/
theorem under_render_iff (k : Nat) (a b : List (List Char)) (ha : C22.Spec.Clean a) (hb : C22.Spec.Clean b)
    (hne : a ≠ []) :
    Under (rstripSlash (C22.Spec.render k a)) (C22.Spec.render k b) ↔ ∃ rest, rest ≠ [] ∧ b = a ++ rest := by
  rw [rstripSlash_render k a ha, if_neg hne]
  constructor
  · rintro ⟨r, hr⟩
    have hb' := compsOf_render k b hb
    rw [hr, compsOf_append_slash, compsOf_render k a ha] at hb'
    refine ⟨compsOf r, fun hnil => ?_, hb'.symm⟩
    -- no components after the slash: then `b = a`, and `hr` makes a string equal to itself plus a slash and more
    rw [hnil, List.append_nil] at hb'
    rw [← hb'] at hr
    have := congrArg List.length hr
    simp at this
  · rintro ⟨rest, hrest, rfl⟩
    exact ⟨joinSlash rest, render_append k a rest hne hrest⟩

theorem digitVal_digitChar : ∀ k, k < 10 → digitVal (digitChar k) = some k := by decide

theorem digitVal_eq_some {ch : Char} {v : Nat} : digitVal ch = some v ↔ v < 10 ∧ ch = digitChar v := by
  refine ⟨fun hv => ?_, fun ⟨hv, h⟩ => h ▸ digitVal_digitChar v hv⟩
  unfold digitVal at hv
  -- down the chain of ten tests: the character is this digit, or the rest of the chain decides
  repeat (rcases Lib.ite_eq_some hv with ⟨rfl, rfl⟩ | hv; · exact ⟨by decide, rfl⟩)
  cases hv

theorem prefix_of_parseCfg {x : List Char} {n : Nat} {fn : List Char} (h : parseCfg x = some (n, fn)) :
    cfgPrefix.isPrefixOf x = true := by
  unfold parseCfg at h
  split at h
  · assumption
  · cases h

/-- the body of `parseCfg` with the prefix test and the `drop 5` done -/
theorem parseCfg_cfgPrefix_append (t : List Char) :
    parseCfg (cfgPrefix ++ t) = match t with
      | a :: b :: c :: d :: u :: fn =>
        if u = '_' then
          match digitVal a, digitVal b, digitVal c, digitVal d with
          | some a, some b, some c, some d => some (1000 * a + 100 * b + 10 * c + d, fn)
          | _, _, _, _ => none
        else none
      | _ => none := by
  unfold parseCfg
  rw [if_pos (List.isPrefixOf_iff_prefix.2 (List.prefix_append _ _)), List.drop_left' (by decide)]
  rfl

theorem parseCfg_eq_some {x : List Char} {n : Nat} {fn : List Char} :
    parseCfg x = some (n, fn) ↔ ∃ a b c d, a < 10 ∧ b < 10 ∧ c < 10 ∧ d < 10 ∧
      n = 1000 * a + 100 * b + 10 * c + d ∧
      x = cfgPrefix ++ digitChar a :: digitChar b :: digitChar c :: digitChar d :: '_' :: fn := by
  constructor
  · intro h
    obtain ⟨t, rfl⟩ := List.isPrefixOf_iff_prefix.1 (prefix_of_parseCfg h)
    rw [parseCfg_cfgPrefix_append] at h
    split at h
    · split at h
      · split at h
        · rename_i ea eb ec ed
          obtain ⟨ha, rfl⟩ := digitVal_eq_some.1 ea
          obtain ⟨hb, rfl⟩ := digitVal_eq_some.1 eb
          obtain ⟨hc, rfl⟩ := digitVal_eq_some.1 ec
          obtain ⟨hd, rfl⟩ := digitVal_eq_some.1 ed
          obtain ⟨rfl, rfl⟩ := Prod.mk.inj (Option.some.inj h)
          subst_vars
          exact ⟨_, _, _, _, ha, hb, hc, hd, rfl, rfl⟩
        · cases h
      · cases h
    · cases h
  · rintro ⟨a, b, c, d, ha, hb, hc, hd, rfl, rfl⟩
    rw [parseCfg_cfgPrefix_append]
    simp only [if_true, digitVal_digitChar _ ha, digitVal_digitChar _ hb, digitVal_digitChar _ hc,
      digitVal_digitChar _ hd]

theorem div_mod_ten (q d : Nat) (h : d < 10) : (10 * q + d) / 10 = q ∧ (10 * q + d) % 10 = d :=
  ⟨by rw [Nat.mul_add_div (by decide), Nat.div_eq_of_lt h, Nat.add_zero], by rw [Nat.mul_add_mod, Nat.mod_eq_of_lt h]⟩

theorem digits_of_sum {a b c d : Nat} (ha : a < 10) (hb : b < 10) (hc : c < 10) (hd : d < 10) :
    let n := 1000 * a + 100 * b + 10 * c + d
    n < 10000 ∧ n / 1000 % 10 = a ∧ n / 100 % 10 = b ∧ n / 10 % 10 = c ∧ n % 10 = d := by
  intro n
  -- Horner form; each `div_mod_ten` then takes one digit off
  have e : n = 10 * (10 * (10 * a + b) + c) + d := by
    simp only [n, Nat.mul_add, ← Nat.mul_assoc, Nat.add_assoc]
  have h1 := div_mod_ten (10 * (10 * a + b) + c) d hd
  have h2 := div_mod_ten (10 * a + b) c hc
  have h3 := div_mod_ten a b hb
  rw [← e] at h1
  have e2 : n / 100 = 10 * a + b := by rw [← Nat.div_div_eq_div_mul n 10 10, h1.1, h2.1]
  have e3 : n / 1000 = a := by rw [← Nat.div_div_eq_div_mul n 100 10, e2, h3.1]
  refine ⟨?_, by rw [e3, Nat.mod_eq_of_lt ha], by rw [e2, h3.2], by rw [h1.1, h2.2], h1.2⟩
  omega

theorem sum_of_digits (n : Nat) (h : n < 10000) :
    n = 1000 * (n / 1000 % 10) + 100 * (n / 100 % 10) + 10 * (n / 10 % 10) + n % 10 := by
  -- three `div_add_mod`; with the quotients and remainders as variables the rest is linear
  have h1 := Nat.div_add_mod n 10
  have h2 := Nat.div_add_mod (n / 10) 10
  have h3 := Nat.div_add_mod (n / 100) 10
  rw [Nat.div_div_eq_div_mul] at h2 h3
  rw [Nat.mod_eq_of_lt (Nat.div_lt_of_lt_mul h : n / 1000 < 10)]
  generalize n / 1000 = q3 at *
  generalize n / 100 = q2 at *
  generalize n / 10 = q1 at *
  generalize n % 10 = r0 at *
  generalize q1 % 10 = r1 at *
  generalize q2 % 10 = r2 at *
  omega

theorem cfgName_of_lt (n : Nat) (hn : n < 10000) (fname : List Char) :
    cfgName n fname = cfgPrefix ++ digitChar (n / 1000 % 10) :: digitChar (n / 100 % 10) :: digitChar (n / 10 % 10) ::
      digitChar (n % 10) :: '_' :: fname := by
  simp only [cfgName, pad4, hn, if_true, List.append_assoc, List.cons_append, List.nil_append]

theorem parseCfg_cfgName (n : Nat) (hn : n < 10000) (fname : List Char) :
    parseCfg (cfgName n fname) = some (n, fname) :=
  parseCfg_eq_some.2 ⟨_, _, _, _, Nat.mod_lt _ (by decide), Nat.mod_lt _ (by decide), Nat.mod_lt _ (by decide),
    Nat.mod_lt _ (by decide), sum_of_digits n hn, cfgName_of_lt n hn fname⟩

theorem cfgName_of_parseCfg (x : List Char) (n : Nat) (fn : List Char) (h : parseCfg x = some (n, fn)) :
    x = cfgName n fn ∧ n < 10000 := by
  obtain ⟨a, b, c, d, ha, hb, hc, hd, rfl, rfl⟩ := parseCfg_eq_some.1 h
  have hdig := digits_of_sum ha hb hc hd
  generalize 1000 * a + 100 * b + 10 * c + d = n at hdig
  obtain ⟨hlt, rfl, rfl, rfl, rfl⟩ := hdig
  exact ⟨(cfgName_of_lt n hlt fn).symm, hlt⟩

theorem chooseCount_spec (count : Nat) (ps : List (Nat × Content)) (c : Content) :
    (∃ p ∈ ps, p.2 = c ∧ p.1 = chooseCount count ps c) ∨
    ((∀ p ∈ ps, p.2 ≠ c) ∧ count ≤ chooseCount count ps c ∧ ∀ p ∈ ps, p.1 < chooseCount count ps c) := by
  induction ps generalizing count with
  | nil => right; simp [chooseCount]
  | cons p ps ih =>
    obtain ⟨n, pc⟩ := p
    unfold chooseCount
    by_cases h : pc = c
    · left
      rw [if_pos h]
      exact ⟨(n, pc), by simp, h, rfl⟩
    · rw [if_neg h]
      rcases ih (max count (n + 1)) with ⟨q, hq, hqc, hqn⟩ | ⟨hall, hle, hlt⟩
      · left; exact ⟨q, by simp [hq], hqc, hqn⟩
      · right
        refine ⟨?_, by omega, ?_⟩
        · intro q hq
          rcases List.mem_cons.1 hq with rfl | hq
          · exact h
          · exact hall q hq
        · intro q hq
          rcases List.mem_cons.1 hq with rfl | hq
          · show n < _; omega
          · exact hlt q hq

theorem chooseCount_le (count : Nat) (ps : List (Nat × Content)) (c : Content) (N : Nat) (h : count ≤ N)
    (hlt : ∀ p ∈ ps, p.1 < N) : chooseCount count ps c ≤ N := by
  induction ps generalizing count with
  | nil => simpa [chooseCount] using h
  | cons q qs ih =>
    obtain ⟨k, pc⟩ := q
    unfold chooseCount
    have hk : k < N := hlt (k, pc) (by simp)
    split
    · omega
    · exact ih _ (by omega) (fun p hp => hlt p (by simp [hp]))

/-- at most one file at a location: what `lookup` finds there is the file itself (`lookup_of_mem`) -/
def LiveWF (live : Live) : Prop := (live.map fun f => (f.dir, f.base)).Nodup

theorem liveWF_inj {live : Live} (h : LiveWF live) {g f : LiveFile} (hg : g ∈ live) (hf : f ∈ live)
    (hd : g.dir = f.dir) (hb : g.base = f.base) : g = f :=
  Lib.inj_of_nodup_map (f := fun f : LiveFile => (f.dir, f.base)) h hg hf (by rw [hd, hb])

theorem lookup_of_mem {live : Live} (h : LiveWF live) {f : LiveFile} (hf : f ∈ live) :
    live.lookup f.dir f.base = some f.content := by
  unfold Live.lookup
  cases hg : live.find? (fun g => decide (g.dir = f.dir ∧ g.base = f.base)) with
  | none => exact absurd (decide_eq_true ⟨rfl, rfl⟩) (List.find?_eq_none.1 hg f hf)
  | some g =>
    have hp : g.dir = f.dir ∧ g.base = f.base := of_decide_eq_true (List.find?_some hg :)
    rw [liveWF_inj h (List.mem_of_find?_eq_some hg) hf hp.1 hp.2]
    rfl

theorem mem_of_lookup {live : Live} {d : Path} {b : List Char} {c : Content} (h : live.lookup d b = some c) :
    ∃ f ∈ live, f.dir = d ∧ f.base = b ∧ f.content = c := by
  obtain ⟨f, hf, rfl⟩ := Option.map_eq_some_iff.1 h
  have hp : f.dir = d ∧ f.base = b := of_decide_eq_true (List.find?_some hf :)
  exact ⟨f, List.mem_of_find?_eq_some hf, hp.1, hp.2, rfl⟩

/-- `hwf`: `pendingFor` reads the content by `lookup`; the converse needs none -/
theorem mem_pendingFor {live : Live} (hwf : LiveWF live) {f : LiveFile} (hf : f ∈ live) {n : Nat} {fname : List Char}
    (hp : parseCfg f.base = some (n, fname)) : (n, f.content) ∈ pendingFor live f.dir fname := by
  unfold pendingFor
  simp only
  rw [List.mem_filterMap]
  refine ⟨f.base, ?_, ?_⟩
  · rw [List.mem_mergeSort, List.mem_map]
    exact ⟨f, List.mem_filter.2 ⟨hf, by simp [prefix_of_parseCfg hp]⟩, rfl⟩
  · simp [hp, lookup_of_mem hwf hf]

theorem exists_of_mem_pendingFor {live : Live} {dir : Path} {fname : List Char} {n : Nat} {c : Content}
    (h : (n, c) ∈ pendingFor live dir fname) :
    ∃ f ∈ live, f.dir = dir ∧ parseCfg f.base = some (n, fname) ∧ f.content = c := by
  unfold pendingFor at h
  simp only at h
  obtain ⟨x, _, hx⟩ := List.mem_filterMap.1 h
  cases hpx : parseCfg x with
  | none => simp [hpx] at hx
  | some q =>
    obtain ⟨k, fn⟩ := q
    simp only [hpx] at hx
    split at hx
    · rename_i hfn
      obtain ⟨c', hl, hx⟩ := Option.map_eq_some_iff.1 hx
      cases hx
      obtain ⟨f, hf, hd, hb, hc⟩ := mem_of_lookup hl
      exact ⟨f, hf, hd, by rw [hb, hpx, hfn], hc⟩
    · cases hx

/-- the numbers of the pending updates on the live root leave room for one more four-digit number (`hsmall` of the
property theorems, which spell it out) -/
def SmallNumbers (live : Live) : Prop := ∀ g ∈ live, ∀ k fn, parseCfg g.base = some (k, fn) → k < 9999

theorem chooseCount_lt (live : Live) (hsmall : SmallNumbers live)
    (dir : Path) (fname : List Char) (c : Content) : chooseCount 0 (pendingFor live dir fname) c < 10000 := by
  have := chooseCount_le 0 (pendingFor live dir fname) c 9999 (by omega) (by
    intro p hp
    obtain ⟨k, pc⟩ := p
    obtain ⟨g', hg', _, hparse, _⟩ := exists_of_mem_pendingFor hp
    exact hsmall g' hg' k _ hparse)
  omega

theorem parseCfg_renamed (live : Live) (hsmall : SmallNumbers live) (e : IEntry) :
    parseCfg (renamed live e).base = some (chooseCount 0 (pendingFor live e.dir e.base) e.content, e.base) :=
  parseCfg_cfgName _ (chooseCount_lt live hsmall e.dir e.base e.content) e.base

/-- the step of `mergeFs`' fold, its regular-file branch read as the model's `writeFile` -/
def mergeStep (l : Live) (e : IEntry) : Live :=
  if e.isReg then writeFile l ⟨e.dir, e.base, e.content⟩ else l.filter fun f => ¬ (f.dir = e.dir ∧ f.base = e.base)

theorem mergeFs_cons (live : Live) (e : IEntry) (es : ICSet) :
    mergeFs live (e :: es) = mergeFs (mergeStep live e) es := rfl

theorem delete_lookup (l : Live) (d' : Path) (b' : List Char) (d : Path) (b : List Char) :
    Live.lookup (l.filter fun f => ¬ (f.dir = d' ∧ f.base = b')) d b =
      if d' = d ∧ b' = b then none else Live.lookup l d b := by
  rw [Live.lookup, Lib.find?_filter_of_imp (c := ¬ (d' = d ∧ b' = b)) (fun x hx => by
    obtain ⟨rfl, rfl⟩ := of_decide_eq_true hx
    rw [decide_eq_true_eq, eq_comm (a := d'), eq_comm (a := b')]) l, ite_not, apply_ite (Option.map _), Option.map_none]
  rfl

theorem writeFile_lookup (l : Live) (g : LiveFile) (d : Path) (b : List Char) :
    Live.lookup (writeFile l g) d b = if g.dir = d ∧ g.base = b then some g.content else Live.lookup l d b := by
  have happ : ∀ l' : Live, Live.lookup (l' ++ [g]) d b =
      (Live.lookup l' d b).or (if g.dir = d ∧ g.base = b then some g.content else none) := by
    intro l'
    unfold Live.lookup
    rw [List.find?_append, Option.map_or]
    congr 1
    by_cases hg : g.dir = d ∧ g.base = b <;> simp [hg]
  rw [writeFile, happ, delete_lookup]
  by_cases hk : g.dir = d ∧ g.base = b
  · simp only [if_pos hk]; rfl
  · simp only [if_neg hk]; exact Option.or_none

theorem mergeStep_lookup (l : Live) (e : IEntry) (d : Path) (b : List Char) :
    Live.lookup (mergeStep l e) d b =
      if e.dir = d ∧ e.base = b then (if e.isReg then some e.content else none) else Live.lookup l d b := by
  cases hr : e.isReg
  · rw [mergeStep, hr]
    exact delete_lookup l e.dir e.base d b
  · rw [mergeStep, hr]
    exact writeFile_lookup l ⟨e.dir, e.base, e.content⟩ d b

/-- `h` is the fold's invariant: `c` is there, or an entry still to come writes it -/
theorem mergeFs_lookup_of_writers {cset : ICSet} {live : Live} {d : Path} {b : List Char} {c : Content}
    (hall : ∀ e ∈ cset, e.dir = d → e.base = b → e.isReg = true ∧ e.content = c)
    (h : live.lookup d b = some c ∨ ∃ e ∈ cset, e.dir = d ∧ e.base = b) :
    Live.lookup (mergeFs live cset) d b = some c := by
  induction cset generalizing live with
  | nil =>
    rcases h with h | ⟨e, he, _⟩
    · exact h
    · cases he
  | cons e es ih =>
    rw [mergeFs_cons]
    apply ih (fun x hx => hall x (by simp [hx]))
    rw [mergeStep_lookup]
    by_cases hk : e.dir = d ∧ e.base = b
    · left
      obtain ⟨hr, hc⟩ := hall e (by simp) hk.1 hk.2
      simp [hk, hr, hc]
    · rw [if_neg hk]
      rcases h with h | ⟨x, hx, hxk⟩
      · exact Or.inl h
      · rcases List.mem_cons.1 hx with rfl | hx'
        · exact absurd hxk hk
        · exact Or.inr ⟨x, hx', hxk⟩

/-- a location nobody writes keeps what it had -/
theorem mergeFs_lookup_untouched (cset : ICSet) (live : Live) (d : Path) (b : List Char)
    (hno : ∀ e ∈ cset, ¬ (e.dir = d ∧ e.base = b)) : Live.lookup (mergeFs live cset) d b = Live.lookup live d b :=
  List.foldlRecOn (motive := fun l => Live.lookup l d b = Live.lookup live d b) cset mergeStep rfl
    fun l hl e he => by rw [mergeStep_lookup, if_neg (hno e he), hl]

theorem liveWF_filter {live : Live} (h : LiveWF live) (p : LiveFile → Bool) : LiveWF (live.filter p) :=
  List.Nodup.sublist (List.Sublist.map _ List.filter_sublist) h

theorem liveWF_writeFile {l : Live} (h : LiveWF l) (g : LiveFile) : LiveWF (writeFile l g) := by
  unfold writeFile LiveWF
  rw [List.map_append, List.nodup_append]
  refine ⟨liveWF_filter h _, by simp, ?_⟩
  intro a ha b hb
  obtain ⟨f, hf, rfl⟩ := List.mem_map.1 ha
  have hne := of_decide_eq_true (List.mem_filter.1 hf).2
  simp only [List.map_cons, List.map_nil, List.mem_cons, List.not_mem_nil, or_false] at hb
  subst hb
  intro heq
  exact hne ⟨congrArg Prod.fst heq, congrArg Prod.snd heq⟩

theorem liveWF_mergeStep {l : Live} (h : LiveWF l) (e : IEntry) : LiveWF (mergeStep l e) := by
  unfold mergeStep
  split
  · exact liveWF_writeFile h ⟨e.dir, e.base, e.content⟩
  · exact liveWF_filter h _

theorem liveWF_mergeFs (cset : ICSet) {live : Live} (h : LiveWF live) : LiveWF (mergeFs live cset) :=
  List.foldlRecOn cset mergeStep h fun _ hl e _ => liveWF_mergeStep hl e

theorem mem_idictSet {c : ICSet} {e g : IEntry} (h : g ∈ idictSet c e) : g ∈ c ∨ g = e :=
  Lib.mem_set (key := fun x => (x.dir, x.base)) idictSet (fun _ => rfl)
    (fun x xs e => by simp only [idictSet, Prod.mk.injEq]) h

theorem mem_idictSet_self (c : ICSet) (e : IEntry) : e ∈ idictSet c e := by
  induction c with
  | nil => simp [idictSet]
  | cons x xs ih =>
    unfold idictSet
    split
    · simp
    · simp [ih]

theorem mem_idictSet_of_mem {c : ICSet} {e g : IEntry} (hg : g ∈ c) (hne : ¬ (g.dir = e.dir ∧ g.base = e.base)) :
    g ∈ idictSet c e := by
  induction c with
  | nil => cases hg
  | cons x xs ih =>
    unfold idictSet
    rcases List.mem_cons.1 hg with rfl | hg'
    · rw [if_neg hne]; simp
    · split
      · simp [hg']
      · simp [ih hg']

theorem mem_idictDel {c : ICSet} {d : Path} {b : List Char} {g : IEntry} :
    g ∈ idictDel c d b ↔ g ∈ c ∧ ¬ (g.dir = d ∧ g.base = b) := by
  rw [idictDel, List.mem_filter, decide_eq_true_eq]

theorem needsProtection_eq_true {s : Settings} {live : Live} {e : IEntry} :
    needsProtection s live e = true ↔
      ∃ c0, live.lookup e.dir e.base = some c0 ∧ s.protectedLoc e.path = true ∧ e.isReg = true ∧ c0 ≠ e.content := by
  unfold needsProtection
  cases live.lookup e.dir e.base with
  | none => simp
  | some c0 => simp [and_assoc]

/-- the fold of `protectInstall` with its start value a parameter, so that the inductions can generalise it -/
def protectFold (live : Live) (l : List IEntry) (acc : ICSet × List (IEntry × IEntry)) :
    ICSet × List (IEntry × IEntry) :=
  l.foldl (fun (acc : ICSet × List (IEntry × IEntry)) e =>
      (idictSet (idictDel acc.1 e.dir e.base) (renamed live e), acc.2 ++ [(renamed live e, e)])) acc

theorem protectInstall_eq (s : Settings) (live : Live) (install : ICSet) :
    protectInstall s live install = protectFold live (install.filter (needsProtection s live)) (install, []) := rfl

theorem protectFold_sound (live : Live) (l : List IEntry) (acc : ICSet × List (IEntry × IEntry)) :
    ∀ g ∈ (protectFold live l acc).1,
      (g ∈ acc.1 ∧ ∀ e ∈ l, ¬ (g.dir = e.dir ∧ g.base = e.base)) ∨ ∃ e ∈ l, g = renamed live e := by
  induction l generalizing acc with
  | nil => intro g hg; exact Or.inl ⟨hg, by simp⟩
  | cons e es ih =>
    intro g hg
    have := ih (idictSet (idictDel acc.1 e.dir e.base) (renamed live e), acc.2 ++ [(renamed live e, e)]) g hg
    rcases this with ⟨hin, hno⟩ | ⟨e', he', rfl⟩
    · rcases mem_idictSet hin with hdel | rfl
      · obtain ⟨hacc, hne⟩ := mem_idictDel.1 hdel
        refine Or.inl ⟨hacc, ?_⟩
        intro x hx
        rcases List.mem_cons.1 hx with rfl | hx
        · exact hne
        · exact hno x hx
      · exact Or.inr ⟨e, by simp, rfl⟩
    · exact Or.inr ⟨e', by simp [he'], rfl⟩

theorem protectInstall_sound (s : Settings) (live : Live) (install : ICSet) :
    ∀ g ∈ (protectInstall s live install).1,
      (g ∈ install ∧ needsProtection s live g = false) ∨
      ∃ e ∈ install, needsProtection s live e = true ∧ g = renamed live e := by
  intro g hg
  rw [protectInstall_eq] at hg
  rcases protectFold_sound live _ _ g hg with ⟨hin, hno⟩ | ⟨e, he, rfl⟩
  · refine Or.inl ⟨hin, ?_⟩
    cases hn : needsProtection s live g
    · rfl
    · exact absurd ⟨rfl, rfl⟩ (hno g (List.mem_filter.2 ⟨hin, hn⟩))
  · obtain ⟨he1, he2⟩ := List.mem_filter.1 he
    exact Or.inr ⟨e, he1, he2, rfl⟩

theorem protectFold_persist (live : Live) (l : List IEntry) (acc : ICSet × List (IEntry × IEntry)) (x : IEntry)
    (hx : x ∈ acc.1)
    (hne : ∀ e ∈ l, ¬ (x.dir = e.dir ∧ x.base = e.base) ∧
      ¬ (x.dir = (renamed live e).dir ∧ x.base = (renamed live e).base)) :
    x ∈ (protectFold live l acc).1 := by
  induction l generalizing acc with
  | nil => exact hx
  | cons e es ih =>
    apply ih
    · exact mem_idictSet_of_mem (mem_idictDel.2 ⟨hx, (hne e (by simp)).1⟩) (hne e (by simp)).2
    · intro e' he'; exact hne e' (by simp [he'])

theorem renamed_key_inj (live : Live) (hsmall : SmallNumbers live)
    (e e' : IEntry) (hd : (renamed live e).dir = (renamed live e').dir)
    (hb : (renamed live e).base = (renamed live e').base) : e.dir = e'.dir ∧ e.base = e'.base := by
  refine ⟨hd, ?_⟩
  have h1 := parseCfg_renamed live hsmall e
  rw [hb, parseCfg_renamed live hsmall e'] at h1
  simp only [Option.some.injEq, Prod.mk.injEq] at h1
  exact h1.2.symm

theorem protectFold_renamed_mem (live : Live) (hsmall : SmallNumbers live)
    (l : List IEntry) (hnd : (l.map fun e => (e.dir, e.base)).Nodup) (hno : ∀ e ∈ l, parseCfg e.base = none)
    (acc : ICSet × List (IEntry × IEntry)) (e : IEntry) (he : e ∈ l) :
    renamed live e ∈ (protectFold live l acc).1 := by
  induction l generalizing acc with
  | nil => cases he
  | cons e0 es ih =>
    have hnd' := List.nodup_cons.1 (show ((e0.dir, e0.base) :: es.map fun e => (e.dir, e.base)).Nodup from hnd)
    rcases List.mem_cons.1 he with rfl | he'
    · -- added now, persists through the rest
      show renamed live e ∈ (protectFold live es _).1
      apply protectFold_persist
      · exact mem_idictSet_self _ _
      · intro e2 he2
        constructor
        · rintro ⟨_, hb⟩
          have h1 := parseCfg_renamed live hsmall e
          rw [hb, hno e2 (by simp [he2])] at h1
          cases h1
        · rintro ⟨hd, hb⟩
          obtain ⟨h1, h2⟩ := renamed_key_inj live hsmall e e2 hd hb
          exact hnd'.1 (List.mem_map.2 ⟨e2, he2, by rw [h1, h2]⟩)
    · exact ih hnd'.2 (fun x hx => hno x (by simp [hx])) _ he'

theorem mem_keptAtUnmerge {s : Settings} {live : Live} {recorded : Recorded} {f : LiveFile} :
    f ∈ keptAtUnmerge s live recorded ↔ f ∈ live ∧
      ∃ r, recorded.find? (fun r => r.dir = f.dir ∧ r.base = f.base) = some r ∧ s.protectedLoc f.path = true ∧
        (r.isReg = false ∨ r.content ≠ f.content) := by
  unfold keptAtUnmerge
  rw [List.mem_filter]
  cases recorded.find? (fun r => decide (r.dir = f.dir ∧ r.base = f.base)) with
  | none => simp
  | some r => simp

theorem liveWF_applyOp {live : Live} (h : LiveWF live) (op : Op) : LiveWF (applyOp live op) := by
  cases op with
  | edit files => exact List.foldlRecOn files writeFile h fun _ hl g _ => liveWF_writeFile hl g
  | install s pkg => exact liveWF_mergeFs _ h
  | uninstall s recorded => exact liveWF_filter h _

theorem liveWF_runOps (ops : List Op) {live : Live} (h : LiveWF live) : LiveWF (runOps live ops) :=
  List.foldlRecOn ops applyOp h fun _ hl op _ => liveWF_applyOp hl op

theorem runOps_snoc (live : Live) (ops : List Op) (op : Op) :
    runOps live (ops ++ [op]) = applyOp (runOps live ops) op := List.foldl_append

/-! A configuration directory may be a symlink on the live root (`/etc/app -> ../srv/appcfg`) while the package ships it
as a real directory.  `ρ d` is the real directory that the *name* `d` reaches; distinct names reach distinct
directories (`ρ` injective: no two names of one directory).  The package, CONFIG_PROTECT and the engine's `install` /
`install_existing` csets speak names (`livefs.intersect` stats `x.location` and keeps it); the kernel writes through
the links.  `through ρ` = what a names-level object is on the disk. -/

def LiveFile.through (ρ : Path → Path) (f : LiveFile) : LiveFile := { f with dir := ρ f.dir }
def IEntry.through (ρ : Path → Path) (e : IEntry) : IEntry := { e with dir := ρ e.dir }

theorem through_key_iff {ρ : Path → Path} (hinj : ∀ a b, ρ a = ρ b → a = b) (x d : Path) (y b : List Char) :
    (ρ x = ρ d ∧ y = b) ↔ (x = d ∧ y = b) :=
  ⟨fun h => ⟨hinj _ _ h.1, h.2⟩, fun h => ⟨by rw [h.1], h.2⟩⟩

theorem filter_through (ρ : Path → Path) (hinj : ∀ a b, ρ a = ρ b → a = b) (l : Live) (d : Path) (b : List Char) :
    (l.map (LiveFile.through ρ)).filter (fun f => ¬ (f.dir = ρ d ∧ f.base = b)) =
      (l.filter fun f => ¬ (f.dir = d ∧ f.base = b)).map (LiveFile.through ρ) := by
  rw [List.filter_map]
  simp only [Function.comp_def, LiveFile.through, through_key_iff hinj]

theorem mergeStep_through (ρ : Path → Path) (hinj : ∀ a b, ρ a = ρ b → a = b) (l : Live) (e : IEntry) :
    mergeStep (l.map (LiveFile.through ρ)) (e.through ρ) = (mergeStep l e).map (LiveFile.through ρ) := by
  have hf := filter_through ρ hinj l e.dir e.base
  cases hr : e.isReg
  · simp only [mergeStep, IEntry.through, hr, Bool.false_eq_true, if_false]
    exact hf
  · simp only [mergeStep, IEntry.through, hr, if_true, writeFile, List.map_append]
    rw [hf]
    rfl

theorem mergeFs_through (ρ : Path → Path) (hinj : ∀ a b, ρ a = ρ b → a = b) (live : Live) (install : ICSet) :
    mergeFs (live.map (LiveFile.through ρ)) (install.map (IEntry.through ρ)) =
      (mergeFs live install).map (LiveFile.through ρ) := by
  induction install generalizing live with
  | nil => rfl
  | cons e es ih => rw [List.map_cons, mergeFs_cons, mergeFs_cons, mergeStep_through ρ hinj, ih]

theorem lookup_through (ρ : Path → Path) (hinj : ∀ a b, ρ a = ρ b → a = b) (l : Live) (d : Path) (b : List Char) :
    Live.lookup (l.map (LiveFile.through ρ)) (ρ d) b = Live.lookup l d b := by
  unfold Live.lookup
  rw [List.find?_map, Option.map_map]
  simp only [Function.comp_def, LiveFile.through, through_key_iff hinj]

end Pkgcore.C21
