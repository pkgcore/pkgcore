import Pkgcore.Proofs.C11Verdict
/-!
# C11 — `_build_cp_atom_payload` keeps the last verdict about every flag

The right-to-left walk is followed step by step (`stepSimple` for a simple chunk: each component of the state a fold of
its own, `record` over `locked`, `sAdd` over `wild`; `stepSpecific` for a version specific one); its state stands for
a verdict per flag (`gV`, `Rep`), which `walk_spec` keeps equal to the last verdict of what has been processed;
`deltaChunk_spec` does one chunk of the second pass, and what `assemble` puts together has the same representation, so
`build`'s output `Stands` for its input (`build_stands`).
-/
namespace Pkgcore.C11
open Pkgcore.C11.Spec

/-- a version specific chunk (`simple = false`) of the kind `build` goes on with: no wildcard among its negatives
(otherwise `build` gives up) -/
def Specific (c : Chunk) : Prop := c.simple = false ∧ ∀ n ∈ c.neg, isWild n = false

theorem Specific.filter {c : Chunk} (h : Specific c) (p : Tok → Bool) :
    Specific { c with neg := c.neg.filter p, pos := c.pos.filter p } :=
  ⟨h.1, fun n hn => h.2 n (List.mem_filter.mp hn).1⟩

/-- What `build` needs of the final state: no name is recorded twice; a name recorded as off is no wildcard (so the
wildcards and the recorded negatives of the global chunk do not overlap); the retained chunks are version specific. -/
structure StOk (st : WalkSt) : Prop where
  nodup : (st.locked.map (·.1)).Nodup
  falseNotWild : ∀ x, st.locked.lookup x = some false → isWild x = false
  specific : ∀ c ∈ st.l, Specific c

theorem StOk.empty : StOk {} where
  nodup := List.nodup_nil
  falseNotWild _ h := nomatch h
  specific := nofun

/-- the `prefixes` part of `isLocked` -/
def prefLocked (ps : List Tok) (x : Tok) : Bool := ps.any (·.isPrefixOf x)

theorem isLocked_eq (st : WalkSt) (x : Tok) :
    isLocked st x = ((st.locked.lookup x).isSome || prefLocked st.prefixes x) := by
  unfold isLocked prefLocked
  congr 1
  induction st.locked with
  | nil => rfl
  | cons e es ih =>
    obtain ⟨k, v⟩ := e
    rw [List.any_cons, List.lookup_cons, ih, show ((k, v).1 == x) = (x == k) from Bool.beq_comm]
    cases x == k <;> rfl

/-- what `lockPos` and, for a name that is no wildcard, `lockNeg` do to the dict `locked` (`ps` are the `prefixes`,
which stay as they are while one chunk is processed) -/
def record (ps : List Tok) (v : Bool) (L : List (Tok × Bool)) (x : Tok) : List (Tok × Bool) :=
  if (L.lookup x).isSome || prefLocked ps x then L else L ++ [(x, v)]

theorem lock_eq (v : Bool) (st : WalkSt) (x : Tok) :
    (if isLocked st x then st else { st with locked := st.locked ++ [(x, v)] }) =
      { st with locked := record st.prefixes v st.locked x } := by
  unfold record
  rw [isLocked_eq]
  split <;> rfl

theorem lockNeg_eq (st : WalkSt) (n : Tok) : lockNeg st n =
    if isWild n then { st with wild := sAdd st.wild n }
    else { st with locked := record st.prefixes false st.locked n } := by
  unfold lockNeg
  split
  · unfold sAdd
    split <;> rfl
  · exact lock_eq false st n

theorem foldl_lockPos (xs : List Tok) (st : WalkSt) :
    xs.foldl lockPos st = { st with locked := xs.foldl (record st.prefixes true) st.locked } := by
  induction xs generalizing st with
  | nil => rfl
  | cons x xs ih => rw [List.foldl_cons, ih, lockPos, lock_eq]; rfl

theorem foldl_lockNeg (ns : List Tok) (st : WalkSt) : ns.foldl lockNeg st =
    { st with locked := (ns.filter fun n => !isWild n).foldl (record st.prefixes false) st.locked
              wild := (ns.filter isWild).foldl sAdd st.wild } := by
  induction ns generalizing st with
  | nil => rfl
  | cons n ns ih =>
    rw [List.foldl_cons, ih, lockNeg_eq, List.filter_cons, List.filter_cons]
    cases isWild n <;> rfl

/-- What the loop does with a simple chunk, component by component — inside one chunk they go their own ways: the
positives, then the negatives that are no wildcards are recorded in `locked` under the prefixes as they were; the
wildcards go to `wild`; only then do their prefixes go to `prefixes`. -/
def stepSimple (st : WalkSt) (c : Chunk) : WalkSt where
  locked := (c.neg.filter fun n => !isWild n).foldl (record st.prefixes false)
    (c.pos.foldl (record st.prefixes true) st.locked)
  wild := (c.neg.filter isWild).foldl sAdd st.wild
  prefixes := st.prefixes ++ (c.neg.filter endsUS).map List.dropLast
  l := st.l

theorem lookup_record (ps : List Tok) (v : Bool) (L : List (Tok × Bool)) (p x : Tok) : (record ps v L p).lookup x =
    (L.lookup x).orElse fun _ => if x = p ∧ prefLocked ps x = false then some v else none := by
  unfold record
  by_cases hx : x = p
  · subst hx
    cases hl : L.lookup x with
    | some b => simp [hl]
    | none => cases hp : prefLocked ps x <;> simp [hl, List.lookup_append]
  · have : (L ++ [(p, v)]).lookup x = L.lookup x := by
      simp [List.lookup_append, List.lookup_cons, beq_eq_false_iff_ne.mpr hx]
    split <;> simp [hx, this]

theorem lookup_foldl_record (ps : List Tok) (v : Bool) (ns : List Tok) (L : List (Tok × Bool)) (x : Tok) :
    (ns.foldl (record ps v) L).lookup x =
      (L.lookup x).orElse fun _ => if x ∈ ns ∧ prefLocked ps x = false then some v else none := by
  induction ns generalizing L with
  | nil => simp
  | cons n ns ih =>
    rw [List.foldl_cons, ih, lookup_record, orElse_assoc]
    congr 1; funext _
    by_cases hx : x = n
    · subst hx
      by_cases hr : prefLocked ps x = false <;> simp [hr]
    · simp [hx]

theorem foldl_record_nodup (ps : List Tok) (v : Bool) (ns : List Tok) {L : List (Tok × Bool)}
    (h : (L.map (·.1)).Nodup) : ((ns.foldl (record ps v) L).map (·.1)).Nodup := by
  refine List.foldlRecOn (motive := fun L : List (Tok × Bool) => (L.map (·.1)).Nodup) ns _ h fun L h n _ => ?_
  unfold record
  split
  · exact h
  · rename_i hk
    rw [Bool.or_eq_true, not_or, Bool.not_eq_true, Option.isSome_eq_false_iff, Option.isNone_iff_eq_none,
      Lib.lookup_eq_none_iff_not_mem] at hk
    rw [List.map_append]
    exact Lib.nodup_concat h hk.1

theorem covers_stepSimple_wild (st : WalkSt) (c : Chunk) (x : Tok) :
    covers (stepSimple st c).wild x = (covers st.wild x || covers (c.neg.filter isWild) x) := by
  rw [← covers_append]
  exact covers_congr (fun n => (mem_foldl_sAdd _ _ n).trans List.mem_append.symm) x

theorem lookup_stepSimple (st : WalkSt) (c : Chunk) (x : Tok) : (stepSimple st c).locked.lookup x =
    (st.locked.lookup x).orElse fun _ => if prefLocked st.prefixes x then none
      else if x ∈ c.pos then some true else if x ∈ c.neg ∧ isWild x = false then some false else none := by
  show (List.foldl (record st.prefixes false) _ _).lookup x = _
  rw [lookup_foldl_record, lookup_foldl_record, orElse_assoc]
  congr 1; funext _
  cases prefLocked st.prefixes x
  · by_cases hp : x ∈ c.pos <;> simp [hp]
  · simp

/-- The verdict of the global chunk that will be built from the state.  The part of the walk's state built from simple
chunks (`locked`, `wild`, `prefixes`) stands for this one verdict per flag. -/
def gV (st : WalkSt) (x : Tok) : Option Bool :=
  (st.locked.lookup x).orElse fun _ => if covers st.wild x then some false else none

/-- `prefixes` says what `wild` covers: true between two chunks until a `-*` has been seen (while one chunk is processed
`prefixes` lags behind `wild`) -/
def Synced (st : WalkSt) : Prop := ∀ x, covers st.wild x = prefLocked st.prefixes x

theorem Synced.isLocked_eq_gV {st : WalkSt} (hsy : Synced st) (x : Tok) : isLocked st x = (gV st x).isSome := by
  rw [isLocked_eq, gV, hsy]
  cases st.locked.lookup x <;> cases prefLocked st.prefixes x <;> rfl

theorem StOk.stepSimple {st : WalkSt} (hok : StOk st) (c : Chunk) : StOk (stepSimple st c) where
  nodup := foldl_record_nodup _ false _ (foldl_record_nodup _ true _ hok.nodup)
  falseNotWild x hx := by
    rw [lookup_stepSimple] at hx
    cases hl : st.locked.lookup x with
    | some b => rw [hl] at hx; exact hok.falseNotWild x (hl.trans hx)
    | none =>
      rw [hl, Option.orElse_none] at hx
      split at hx
      · cases hx
      split at hx
      · cases hx
      split at hx
      · rename_i h3; exact h3.2
      · cases hx
  specific := hok.specific

/-- what is recorded wins over the chunk's verdict: it comes from later chunks -/
theorem gV_stepSimple {st : WalkSt} (hsy : Synced st) (c : Chunk) (x : Tok) :
    gV (stepSimple st c) x = (gV st x).orElse fun _ => verdict c x := by
  rw [gV, gV, lookup_stepSimple, covers_stepSimple_wild, verdict, covers_split_wild c.neg, hsy]
  cases st.locked.lookup x with
  | some b => rfl
  | none =>
    cases prefLocked st.prefixes x with
    | true => rfl
    | false =>
      -- both sides are functions of `x ∈ c.pos`, `x ∈ c.neg`, `isWild x` and whether a wildcard of `c.neg` covers `x`
      by_cases hp : x ∈ c.pos
      · simp [hp]
      · by_cases hn : x ∈ c.neg <;> cases isWild x <;> cases covers (c.neg.filter isWild) x <;> simp [hp, hn]

/-- what `stepSimple` adds to `wild` and to `prefixes` agrees, `*` aside -/
theorem covers_wilds_eq_prefLocked {negs : List Tok} (hs : star ∉ negs) (x : Tok) :
    covers (negs.filter isWild) x = prefLocked ((negs.filter endsUS).map List.dropLast) x := by
  have hp : prefCovers (negs.filter isWild) x = prefLocked ((negs.filter endsUS).map List.dropLast) x := by
    rw [prefCovers_filter_isWild, prefCovers, prefLocked, List.any_map, List.any_filter]
    rfl
  have hst : (negs.filter isWild).contains star = false := by
    rw [List.contains_eq_mem, decide_eq_false fun h => hs (List.mem_filter.mp h).1]
  rw [covers_eq, hp, hst, Bool.false_or]
  cases hx : (negs.filter isWild).contains x
  · rw [Bool.or_false]
  · have hm := List.mem_filter.mp (List.contains_iff_mem.mp hx)
    have he := endsUS_of_wild_ne_star hm.2 fun h0 => hs (h0 ▸ hm.1)
    rw [Bool.or_true, eq_comm]
    exact List.any_eq_true.mpr ⟨x.dropLast, List.mem_map_of_mem (List.mem_filter.mpr ⟨hm.1, he⟩),
      List.isPrefixOf_iff_prefix.mpr (List.dropLast_prefix x)⟩

theorem Synced.stepSimple {st : WalkSt} (hsy : Synced st) {c : Chunk} (hs : star ∉ c.neg) :
    Synced (stepSimple st c) := fun x => by
  rw [covers_stepSimple_wild, hsy, covers_wilds_eq_prefLocked hs]
  exact List.any_append.symm

/-- what the loop does with a version specific chunk: what later simple chunks decide is dropped, the rest (if any) is
kept; only `l` changes, so `gV` and `Synced` of the state are as before by definition -/
def stepSpecific (st : WalkSt) (c : Chunk) : WalkSt :=
  { st with l :=
      if (c.neg.filter fun x => !isLocked st x).isEmpty && (c.pos.filter fun x => !isLocked st x).isEmpty then st.l
      else st.l ++ [{ c with neg := c.neg.filter fun x => !isLocked st x,
                             pos := c.pos.filter fun x => !isLocked st x }] }

theorem walk_cons_simple {c : Chunk} (hs : c.simple = true) (rest : List Chunk) (st : WalkSt) :
    walk (c :: rest) st = if c.neg.contains star then stepSimple st c else walk rest (stepSimple st c) := by
  rw [walk, if_pos hs]
  simp only [foldl_lockNeg, foldl_lockPos]
  rfl

theorem walk_cons_specific {c : Chunk} (hs : c.simple = false) (rest : List Chunk) (st : WalkSt) :
    walk (c :: rest) st = walk rest (stepSpecific st c) := by
  rw [walk, if_neg (by simp [hs])]
  exact congrArg (walk rest) (apply_ite (fun l => { st with l := l }) _ _ _).symm

theorem StOk.stepSpecific {st c} (hok : StOk st) (hc : Specific c) : StOk (stepSpecific st c) := by
  refine ⟨hok.nodup, hok.falseNotWild, fun c' hc' => ?_⟩
  unfold C11.stepSpecific at hc'
  split at hc'
  · exact hok.specific c' hc'
  · rcases List.mem_append.mp hc' with h | h
    · exact hok.specific c' h
    · rw [List.mem_singleton.mp h]
      exact hc.filter _

theorem verdict_filter (c : Chunk) (hc : Specific c) (p : Tok → Bool) (x : Tok) :
    verdict { c with neg := c.neg.filter p, pos := c.pos.filter p } x = if p x then verdict c x else none := by
  rw [verdict_noWild _ (hc.filter p).2, verdict_noWild _ hc.2, Lib.contains_filter, Lib.contains_filter]
  cases p x <;> simp

theorem lastV_stepSpecific (m : Nat → Bool) (st : WalkSt) {c : Chunk} (hc : Specific c) (x : Tok) :
    lastV m (stepSpecific st c).l.reverse x = (lastV m st.l.reverse x).orElse fun _ =>
      if isLocked st x then none else said m c x := by
  have hv : said m { c with
        neg := c.neg.filter fun y => !isLocked st y
        pos := c.pos.filter fun y => !isLocked st y } x
      = if isLocked st x then none else said m c x := by
    rw [said, said, verdict_filter c hc]
    cases isLocked st x <;> cases m c.kid <;> rfl
  show lastV m (List.reverse (ite _ _ _)) x = _
  split
  · rename_i he
    rw [← hv, said, verdict_none_of_empty he, ite_self]
    cases lastV m st.l.reverse x <;> rfl
  · rw [List.reverse_append, List.reverse_singleton, List.singleton_append]
    exact congrArg _ (funext fun _ => hv)

/-- the state stands for the list `P` — in the walk the chunks processed so far (the tail of the sequence), in
`assemble_spec` the output: the last applicable verdict of `P` is "latest retained specific, else the global chunk" -/
def Rep (m : Nat → Bool) (st : WalkSt) (P : List Chunk) : Prop :=
  ∀ x, lastV m P x = (lastV m st.l.reverse x).orElse fun _ => gV st x

/-- a version specific chunk is kept where the global chunk to be is undecided, and only there does it matter -/
theorem Rep.stepSpecific {m st P c} (hrep : Rep m st P) (hsy : Synced st) (hc : Specific c) :
    Rep m (stepSpecific st c) (c :: P) := fun x => by
  rw [lastV, lastV_stepSpecific m st hc, hrep x, hsy.isLocked_eq_gV]
  exact orElse_guard _ _ _

theorem Rep.stepSimple {m st P c} (hrep : Rep m st P) (hsy : Synced st) (hmc : m c.kid = true) :
    Rep m (stepSimple st c) (c :: P) := fun x => by
  rw [lastV, gV_stepSimple hsy, hrep x, orElse_assoc, hmc]
  rfl

/-- The walk over `r` (the sequence reversed) takes a state that stands for the chunks `P` behind to one that stands
for `r.reverse ++ P`, whether it runs to the end or stops at a `-*`; `Synced` is only needed on the way (a `-*` breaks
it). -/
theorem walk_spec (m : Nat → Bool) (r : List Chunk) : ∀ (st : WalkSt) (P : List Chunk),
    MatchOk m r → (∀ c ∈ r, c.simple = false → Specific c) →
    StOk st → Synced st → Rep m st P → StOk (walk r st) ∧ Rep m (walk r st) (r.reverse ++ P) := by
  induction r with
  | nil =>
      intro st P _ _ hok _ hrep
      rw [walk]
      exact ⟨hok, hrep⟩
  | cons c rest ih =>
      intro st P hm hr hok hsy hrep
      obtain ⟨hmc, hm'⟩ := List.forall_mem_cons.mp hm
      obtain ⟨hc, hr'⟩ := List.forall_mem_cons.mp hr
      rw [List.reverse_cons, List.append_assoc, List.singleton_append]
      cases hs : c.simple
      · rw [walk_cons_specific hs]
        exact ih _ _ hm' hr' (hok.stepSpecific (hc hs)) hsy (hrep.stepSpecific hsy (hc hs))
      · have hrep' := hrep.stepSimple hsy (hmc hs)
        rw [walk_cons_simple hs]
        split
        · -- `-*`: every flag is decided, the walk ends here
          rename_i hst
          exact ⟨hok.stepSimple c, fun x => (lastV_append_clear (hmc hs) hst _ P x).trans (hrep' x)⟩
        · rename_i hst
          exact ih _ _ hm' hr' (hok.stepSimple c) (hsy.stepSimple (by simpa using hst)) hrep'

/-- the global chunk `build` puts in front: the record literal in `build`, of a state given as a variable -/
def gChunk (rk : Nat) (st : WalkSt) : Chunk :=
  { kid := rk, simple := true,
    neg := st.wild ++ (st.locked.filter fun e => !e.2).map (·.1),
    pos := (st.locked.filter (·.2)).map (·.1) }

theorem mem_keys_filter {α β} [BEq α] [LawfulBEq α] (p : β → Bool) (l : List (α × β)) (x : α)
    (h : (l.map (·.1)).Nodup) : x ∈ (l.filter fun e => p e.2).map (·.1) ↔ ∃ b, l.lookup x = some b ∧ p b = true := by
  rw [List.mem_map]
  constructor
  · rintro ⟨⟨k, v⟩, hm, rfl⟩
    have hm := List.mem_filter.mp hm
    exact ⟨v, Lib.lookup_eq_some_of_mem h hm.1, hm.2⟩
  · rintro ⟨b, hl, hp⟩
    exact ⟨(x, b), List.mem_filter.mpr ⟨Lib.mem_of_lookup_eq_some hl, hp⟩, rfl⟩

theorem verdict_gChunk (rk : Nat) {st : WalkSt} (hok : StOk st) (x : Tok) : verdict (gChunk rk st) x = gV st x := by
  have hT : (gChunk rk st).pos.contains x = (st.locked.lookup x == some true) := by
    rw [Bool.eq_iff_iff, List.contains_iff_mem,
      show (gChunk rk st).pos = (st.locked.filter fun e => id e.2).map (·.1) from rfl,
      mem_keys_filter id _ _ hok.nodup]
    simp
  have hF : ∀ y, y ∈ (st.locked.filter fun e => !e.2).map (·.1) ↔ st.locked.lookup y = some false := fun y => by
    rw [mem_keys_filter (!·) _ _ hok.nodup]; simp
  have hc : covers (gChunk rk st).neg x = (covers st.wild x || st.locked.lookup x == some false) := by
    rw [show (gChunk rk st).neg = st.wild ++ _ from rfl, covers_append,
      covers_noWild _ x fun n hn => hok.falseNotWild n ((hF n).mp hn)]
    congr 1
    rw [Bool.eq_iff_iff, List.contains_iff_mem, hF, beq_iff_eq]
  rw [verdict, hc, hT, gV]
  cases st.locked.lookup x with
  | none => simp
  | some b => cases b <;> simp

/-- what the delta pass keeps of a specific chunk -/
def deltaChunk (locked : List (Tok × Bool)) (changed : List Tok) (c : Chunk) : Chunk :=
  { c with
    neg := c.neg.filter fun x => changed.contains x || (locked.lookup x).getD true
    pos := c.pos.filter fun x => changed.contains x ||
      (c.neg.filter fun x => changed.contains x || (locked.lookup x).getD true).contains x ||
      !(locked.lookup x).getD false }

theorem delta_cons (locked : List (Tok × Bool)) (changed : List Tok) (c : Chunk) (cs : List Chunk) :
    delta locked changed (c :: cs) =
      if (deltaChunk locked changed c).neg.isEmpty && (deltaChunk locked changed c).pos.isEmpty then
        delta locked changed cs
      else deltaChunk locked changed c ::
        delta locked (changed ++ (deltaChunk locked changed c).neg ++ (deltaChunk locked changed c).pos) cs := rfl

/-- One chunk of the delta pass: a negative is dropped if the global chunk in front says "off" anyway, a positive if it
says "on" (and the chunk does not also remove it) — unless a retained chunk in between has touched the flag
(`changed`).  `b0` is the verdict per flag of what stands in front; it agrees with `locked` outside `changed`.  So the
kept chunk overrides `b0` as the whole chunk would, and what it does not touch still agrees with `locked` afterwards. -/
theorem deltaChunk_spec (m : Nat → Bool) (locked : List (Tok × Bool)) (changed : List Tok) (b0 : Tok → Option Bool)
    (hinv : ∀ x, changed.contains x = false → ∀ v, locked.lookup x = some v → b0 x = some v)
    {c : Chunk} (hc : Specific c) (y : Tok) :
    ((said m (deltaChunk locked changed c) y).orElse fun _ => b0 y) = ((said m c y).orElse fun _ => b0 y) ∧
    ((changed ++ (deltaChunk locked changed c).neg ++ (deltaChunk locked changed c).pos).contains y = false →
      ∀ v, locked.lookup y = some v → ((said m c y).orElse fun _ => b0 y) = some v) := by
  have hk : (deltaChunk locked changed c).kid = c.kid := rfl
  have hn' : (deltaChunk locked changed c).neg.contains y =
      (c.neg.contains y && (changed.contains y || (locked.lookup y).getD true)) :=
    Lib.contains_filter _ _ y
  have hp' : (deltaChunk locked changed c).pos.contains y = (c.pos.contains y &&
      (changed.contains y || (deltaChunk locked changed c).neg.contains y || !(locked.lookup y).getD false)) :=
    Lib.contains_filter _ _ y
  have hnw : ∀ n ∈ (deltaChunk locked changed c).neg, isWild n = false := fun n h => hc.2 n (List.mem_filter.mp h).1
  generalize deltaChunk locked changed c = c' at hk hn' hp' hnw ⊢
  rw [said, said, hk, verdict_noWild c hc.2, verdict_noWild c' hnw, List.contains_append, List.contains_append, hp',
    hn']
  cases m c.kid with
  | false => exact ⟨rfl, fun h v hl => hinv y (Bool.or_eq_false_iff.mp (Bool.or_eq_false_iff.mp h).1).1 v hl⟩
  | true =>
    rw [if_pos rfl, if_pos rfl]
    cases hch : changed.contains y with
    | true => simp only [Bool.true_or, Bool.and_true, Bool.true_eq_false, false_implies, and_self]
    | false =>
      cases hl : locked.lookup y with
      | none => simp [reduceCtorEq]
      | some v =>
        -- with the verdict in front known, both sides are functions of `y ∈ c.pos`, `y ∈ c.neg`
        rw [hinv y hch v hl]
        cases v <;> cases c.pos.contains y <;> cases c.neg.contains y <;> decide

/-- `b0`, `changed` as in `deltaChunk_spec` -/
theorem delta_spec (m : Nat → Bool) (locked : List (Tok × Bool)) (D : List Chunk) :
    ∀ (changed : List Tok) (b0 : Tok → Option Bool), (∀ c ∈ D, Specific c) →
    (∀ x, changed.contains x = false → ∀ v, locked.lookup x = some v → b0 x = some v) →
    (∀ c ∈ delta locked changed D, c.simple = false) ∧
    ∀ x, (lastV m (delta locked changed D) x).orElse (fun _ => b0 x) = (lastV m D x).orElse (fun _ => b0 x) := by
  induction D with
  | nil =>
    intro _ _ _ _
    rw [delta]
    exact ⟨nofun, fun _ => rfl⟩
  | cons c cs ih =>
      intro changed b0 hD hinv
      obtain ⟨hc, hD'⟩ := List.forall_mem_cons.mp hD
      have step := deltaChunk_spec m locked changed b0 hinv hc
      rw [delta_cons]
      split
      · -- nothing is kept: the chunk says nothing new
        rename_i he
        obtain ⟨h1, h2⟩ := ih changed b0 hD' hinv
        refine ⟨h1, fun x => ?_⟩
        rw [lastV, orElse_assoc, ← (step x).1, said, verdict_none_of_empty he, ite_self]
        exact h2 x
      · obtain ⟨h1, h2⟩ := ih _ (fun y => (said m c y).orElse fun _ => b0 y) hD' fun y => (step y).2
        refine ⟨List.forall_mem_cons.mpr ⟨hc.1, h1⟩, fun x => ?_⟩
        rw [lastV, lastV, orElse_assoc, orElse_assoc, (step x).1]
        exact h2 x

/-- what `build` makes of the final state of the walk -/
def assemble (rk : Nat) (st : WalkSt) : List Chunk :=
  if st.locked.isEmpty && st.wild.isEmpty then st.l.reverse else gChunk rk st :: delta st.locked [] st.l.reverse

theorem build_eq (rk : Nat) (seq : List Chunk) : build rk seq =
    if seq.length ≤ 1 then seq
    else if seq.any (fun c => !c.simple && c.neg.any isWild) then seq
    else assemble rk (walk seq.reverse {}) := rfl

theorem assemble_spec (m : Nat → Bool) {rk : Nat} (hrk : m rk = true) {st : WalkSt} (hok : StOk st) :
    MatchOk m (assemble rk st) ∧ Rep m st (assemble rk st) := by
  have hsp : ∀ c ∈ st.l.reverse, Specific c := fun c hc => hok.specific c (List.mem_reverse.mp hc)
  unfold assemble
  split
  · rename_i h
    rw [Bool.and_eq_true, List.isEmpty_iff, List.isEmpty_iff] at h
    refine ⟨fun c hc hs => ?_, fun x => ?_⟩
    · rw [(hsp c hc).1] at hs; cases hs
    · rw [gV, h.1, h.2]
      cases lastV m st.l.reverse x <;> rfl
  · have hd := delta_spec m st.locked st.l.reverse [] (gV st) hsp fun y _ v hv => by rw [gV, hv]; rfl
    refine ⟨fun c hc hs => ?_, fun x => ?_⟩
    · rcases List.mem_cons.mp hc with h0 | h0
      · rw [h0]; exact hrk
      · rw [hd.1 c h0] at hs; cases hs
    · rw [lastV, show (gChunk rk st).kid = rk from rfl, hrk, if_pos rfl, verdict_gChunk rk hok]
      exact hd.2 x

/-- `l` stands for `h`: for a match function `h` is consistent with, `l` is consistent too and has the same last
verdicts.  `build` makes such a list of its input; the lists kept by the dict are such for their part of the history. -/
def Stands (m : Nat → Bool) (l h : List Chunk) : Prop :=
  MatchOk m h → MatchOk m l ∧ ∀ x, lastV m l x = lastV m h x

/-- **`_build_cp_atom_payload` keeps the last verdict about every flag**, for every package whose match function is
consistent with the sequence and matches `restrict` -/
theorem build_stands (m : Nat → Bool) {rk : Nat} (hrk : m rk = true) (seq : List Chunk) :
    Stands m (build rk seq) seq := fun hm => by
  rw [build_eq]
  split
  · exact ⟨hm, fun _ => rfl⟩
  split
  · exact ⟨hm, fun _ => rfl⟩
  rename_i _ h2
  have hsp : ∀ c ∈ seq.reverse, c.simple = false → Specific c := by
    intro c hc hs
    refine ⟨hs, fun n hn => Bool.eq_false_iff.mpr fun hw =>
      h2 (List.any_eq_true.mpr ⟨c, List.mem_reverse.mp hc, ?_⟩)⟩
    rw [hs, Bool.not_false, Bool.true_and]
    exact List.any_eq_true.mpr ⟨n, hn, hw⟩
  obtain ⟨hok, hrep⟩ := walk_spec m seq.reverse {} [] (fun c hc => hm c (List.mem_reverse.mp hc))
    hsp StOk.empty (fun _ => rfl) (fun _ => rfl)
  obtain ⟨hmo, hasm⟩ := assemble_spec m hrk hok
  exact ⟨hmo, fun x => by rw [hasm x, ← hrep x, List.reverse_reverse, List.append_nil]⟩

end Pkgcore.C11
