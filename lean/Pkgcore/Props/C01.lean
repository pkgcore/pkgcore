import Pkgcore.Proofs.C01
import Pkgcore.Proofs.C01Lex
/-!
# C01 — version comparison follows the PMS algorithm and is a total preorder

`verCmp` mirrors `pkgcore.ebuild.cpv.ver_cmp`; `pmsCmp` is the PMS algorithm.
-/
namespace Pkgcore.C01
open Pkgcore.C01.Spec Std

/-- **ver_cmp is the PMS algorithm**, for all lexed versions of any length and all revisions
(`RevsOk`: both revisions `None`, as `~` passes them, or both `Revision` objects, as everything else does). -/
theorem verCmp_eq_pms (v1 v2 : Ver) (r1 r2 : Rev) (h : RevsOk r1 r2) :
    verCmp v1 r1 v2 r2 = pmsCmp v1 r1 v2 r2 :=
  verCmp_eq_pmsCmp v1 v2 r1 r2 h

example : RevsOk (some ['7']) (some []) ∧ RevsOk none none := by simp [RevsOk]

attribute [local instance] lexOrd

/-- the PMS order is the pull-back of a lexicographic order along `key` … -/
theorem pms_is_key_order (v1 v2 : Ver) (r1 r2 : Rev) (h1 : WF v1) (h2 : WF v2) :
    pmsCmp v1 r1 v2 r2 = compare (key v1 r1) (key v2 r2) :=
  pmsCmp_eq_key v1 v2 r1 r2 h1 h2

/-- … hence reflexive, -/
theorem pmsCmp_refl (v : Ver) (r : Rev) (h : WF v) : pmsCmp v r v r = .eq := by
  rw [pmsCmp_eq_key v v r r h h]; exact ReflCmp.compare_self

/-- antisymmetric (swapping the arguments swaps the result), -/
theorem pmsCmp_antisymm (v1 v2 : Ver) (r1 r2 : Rev) (h1 : WF v1) (h2 : WF v2) :
    pmsCmp v1 r1 v2 r2 = (pmsCmp v2 r2 v1 r1).swap := by
  rw [pmsCmp_eq_key v1 v2 r1 r2 h1 h2, pmsCmp_eq_key v2 v1 r2 r1 h2 h1]; exact OrientedCmp.eq_swap

/-- and transitive. -/
theorem pmsCmp_trans (v1 v2 v3 : Ver) (r1 r2 r3 : Rev) (h1 : WF v1) (h2 : WF v2) (h3 : WF v3)
    (h12 : (pmsCmp v1 r1 v2 r2).isLE) (h23 : (pmsCmp v2 r2 v3 r3).isLE) : (pmsCmp v1 r1 v3 r3).isLE := by
  rw [pmsCmp_eq_key _ _ _ _ h1 h2] at h12
  rw [pmsCmp_eq_key _ _ _ _ h2 h3] at h23
  rw [pmsCmp_eq_key _ _ _ _ h1 h3]
  exact TransCmp.isLE_trans h12 h23

/-- equality under the order is transitive too (so `==` on versions is an equivalence) -/
theorem pmsCmp_eq_trans (v1 v2 v3 : Ver) (r1 r2 r3 : Rev) (h1 : WF v1) (h2 : WF v2) (h3 : WF v3)
    (h12 : pmsCmp v1 r1 v2 r2 = .eq) (h23 : pmsCmp v2 r2 v3 r3 = .eq) : pmsCmp v1 r1 v3 r3 = .eq := by
  rw [pmsCmp_eq_key _ _ _ _ h1 h2] at h12
  rw [pmsCmp_eq_key _ _ _ _ h2 h3] at h23
  rw [pmsCmp_eq_key _ _ _ _ h1 h3]
  exact TransCmp.eq_trans h12 h23

/-- the same three laws for the code's own comparison (revisions given as `Revision` objects) -/
theorem verCmp_total_preorder (v1 v2 v3 : Ver) (a b c : List Char) (h1 : WF v1) (h2 : WF v2) (h3 : WF v3) :
    verCmp v1 (some a) v1 (some a) = .eq ∧
    verCmp v1 (some a) v2 (some b) = (verCmp v2 (some b) v1 (some a)).swap ∧
    ((verCmp v1 (some a) v2 (some b)).isLE → (verCmp v2 (some b) v3 (some c)).isLE →
      (verCmp v1 (some a) v3 (some c)).isLE) := by
  have ok : ∀ x y : List Char, RevsOk (some x) (some y) := fun _ _ => Or.inr ⟨rfl, rfl⟩
  simp only [verCmp_eq_pms _ _ _ _ (ok _ _)]
  exact ⟨pmsCmp_refl _ _ h1, pmsCmp_antisymm _ _ _ _ h1 h2, pmsCmp_trans _ _ _ _ _ _ h1 h2 h3⟩

example : WF ⟨[['1'], ['0', '2']], some 'b', [(.rc, ['1']), (.p, [])]⟩ := by
  refine ⟨by simp, ?_⟩
  intro c hc
  simp at hc
  rcases hc with rfl | rfl <;> exact ⟨by simp, by decide⟩

/-- the generated `suffix_value` table realises `_alpha < _beta < _pre < _rc < (none = 0) < _p`
and knows every suffix name -/
theorem suffix_order :
    sufVal .alpha < sufVal .beta ∧ sufVal .beta < sufVal .pre ∧ sufVal .pre < sufVal .rc ∧
    sufVal .rc < 0 ∧ 0 < sufVal .p := by decide +kernel

theorem suffix_table_complete (s : Suf) : (Generated.C01.suffixValue.lookup s.name).isSome := by
  cases s <;> decide +kernel

/-- what each operator means on the PMS order -/
def opHolds : String → Ordering → Bool
  | "<", o => o == .lt
  | "<=", o => o != .gt
  | "=", o => o == .eq
  | ">=", o => o != .lt
  | ">", o => o == .gt
  | _, _ => false

/-- the PMS table of operators: which comparison results satisfy each operator -/
def pmsVals : String → List Int
  | "<" => [-1] | "<=" => [-1, 0] | "=" => [0] | ">=" => [0, 1] | ">" => [1] | _ => []

/-- **every version-operator restriction agrees with the order**: with the generated
`_convert_str2op` table, `_VersionMatch(op, ver, rev).match(pkg)` holds iff `pkg op ver` in PMS order;
`negate` flips it. -/
theorem versionMatch_agrees (op : String) (hop : op ∈ ["<", "<=", "=", ">=", ">"]) (negate : Bool)
    (ver pv : Ver) (rev prev : List Char) :
    opVals op = some (pmsVals op, false) ∧
      versionMatch (pmsVals op) false negate ver (some rev) pv (some prev)
        = (opHolds op (pmsCmp pv (some prev) ver (some rev)) != negate) := by
  simp only [List.mem_cons, List.not_mem_nil, or_false] at hop
  rcases hop with rfl | rfl | rfl | rfl | rfl
  all_goals
    refine ⟨by decide, ?_⟩
    rw [versionMatch_pms _ _ _ _ _ _ _ (Or.inr (Or.inr ⟨rfl, rfl⟩))]
    cases pmsCmp pv (some prev) ver (some rev) <;> rfl

/-- `~ver` matches exactly the packages whose version equals `ver` ignoring both revisions -/
theorem versionMatch_tilde (negate : Bool) (ver pv : Ver) (rev prev : Rev) :
    opVals "~" = some ([0], true) ∧
      versionMatch [0] true negate ver rev pv prev = ((pmsCmp pv none ver none == .eq) != negate) := by
  refine ⟨by decide, ?_⟩
  rw [versionMatch_pms _ _ _ _ _ _ _ (Or.inl rfl)]
  cases pmsCmp pv none ver none <;> rfl

/-- **lexing**: every valid version string (a rendering of a well-formed lexed version: non-empty digit
components, optional ASCII letter, suffixes with digit strings — the language of `isvalid_version_re`)
is split by the model of `split("_")`/`split(".")`/letter extraction/`suffix_regexp` into exactly its parts -/
theorem lex_render (v : Ver) (h : WFfull v) : lexVer (render v) = some v :=
  lexVer_render v h

/-- hence the string-level comparison is the PMS algorithm on the parts -/
theorem verCmpStr_eq_pms (v1 v2 : Ver) (r1 r2 : Rev) (h1 : WFfull v1) (h2 : WFfull v2) (h : RevsOk r1 r2) :
    verCmpStr (render v1) r1 (render v2) r2 = some (pmsCmp v1 r1 v2 r2) := by
  simp only [verCmpStr, lex_render v1 h1, lex_render v2 h2, verCmp_eq_pms _ _ _ _ h]

example : WFfull ⟨[['1'], ['0', '2']], some 'b', [(.rc, ['1']), (.p, [])]⟩ ∧
    render ⟨[['1'], ['0', '2']], some 'b', [(.rc, ['1']), (.p, [])]⟩ = "1.02b_rc1_p".toList := by
  refine ⟨⟨⟨by simp, ?_⟩, ?_, ?_⟩, by decide⟩
  · intro c hc
    simp at hc
    rcases hc with rfl | rfl <;> exact ⟨by simp, by decide⟩
  · intro c hc; simp at hc; subst hc; decide
  · intro x hx; simp at hx; rcases hx with rfl | rfl <;> decide

end Pkgcore.C01
