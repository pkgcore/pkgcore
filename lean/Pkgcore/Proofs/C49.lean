import Pkgcore.Spec.C49
import Pkgcore.Proofs.Lib
/-!
`Facts` says what sourcing a piece of code does to the shell state in terms of the statement tree; it is reflexive,
composes (`Facts.trans`), extends by one statement in front (`Facts.cons`) and holds for one round of the `inherit` loop
(`Facts.eclass`), hence for `run` on any tree (`run_facts`).  The property theorems read off its fields.
-/
namespace Pkgcore.C49
open Pkgcore.C49.Spec

/-- one eclass value appended to an accumulator, `[[ -n $V ]] && E_V+=${E_V:+ }$V`: the anonymous step of
`Spec.eclassValue` -/
def accStep (a x : Str) : Str := if x = [] then a else joinSp a x

/-- the functions one statement defines: the anonymous function of `Spec.definedFuncs`, named for `Facts.fns` -/
def defsOf (ms : Str × Stmt) : List Str :=
  match ms.2 with
  | .func n => [n]
  | .export ps => ps
  | _ => []

theorem own_append (v : Str) (l1 l2 : List Stmt) : ∀ cur, own v (l1 ++ l2) cur = own v l2 (own v l1 cur) := by
  induction l1 with
  | nil => intro cur; rfl
  | cons s rest ih =>
    intro cur
    cases s <;> simp [own, ih]

/-- a statement that does `f` to the variable `w` and nothing to the others (`hown`, by `rfl` for `set`, `append`,
`unset`) is the `setVar` the model performs for it -/
theorem setVar_own (vars : Str → Option Str) (s : Stmt) (w : Str) (f : Option Str → Option Str)
    (hown : ∀ v c, own v [s] c = if w = v then f c else c) (v : Str) :
    setVar vars w (f (vars w)) v = own v [s] (vars v) := by
  rw [hown, setVar]
  by_cases h : v = w
  · subst h; rw [if_pos rfl]
  · rw [if_neg h, if_neg (Ne.symm h)]

/-- What sourcing a piece of code does to the state `st`, giving `st'`, in terms of the tree only: `src` are the eclass
instances it sources (in the order their sourcing completes), `fl` its statements in execution order, `dir` what it
adds to INHERIT, and `ownf v` what its own statements do to an accumulated variable `v`. -/
structure Facts (A : List Str) (st st' : St) (src : List (Str × List Stmt)) (fl : List (Str × Stmt))
    (dir : List Str) (ownf : Str → Option Str → Option Str) : Prop where
  accVar : ∀ v, v ∈ A → st'.vars v = ownf v (st.vars v)
  plainVar : ∀ v, v ∉ A → st'.vars v = own v (fl.map (·.2)) (st.vars v)
  accE : ∀ v, v ∈ A → st'.acc v = (src.map fun e => (own v e.2 none).getD []).foldl accStep (st.acc v)
  accOther : ∀ v, v ∉ A → st'.acc v = st.acc v
  inh : st'.inherited = st.inherited ++ src.map (·.1)
  fns : st'.funcs = st.funcs ++ fl.flatMap defsOf
  dirs : st'.direct = st.direct ++ dir

theorem Facts.refl (A : List Str) (st : St) : Facts A st st [] [] [] (fun _ c => c) :=
  ⟨fun _ _ => rfl, fun _ _ => rfl, fun _ _ => rfl, fun _ _ => rfl, by simp, by simp, by simp⟩

theorem Facts.trans {A : List Str} {st st1 st2 : St} {src1 src2 fl1 fl2 dir1 dir2 f1 f2}
    (h1 : Facts A st st1 src1 fl1 dir1 f1) (h2 : Facts A st1 st2 src2 fl2 dir2 f2) :
    Facts A st st2 (src1 ++ src2) (fl1 ++ fl2) (dir1 ++ dir2) (fun v c => f2 v (f1 v c)) := by
  refine ⟨?_, ?_, ?_, ?_, ?_, ?_, ?_⟩
  · intro v hv; rw [h2.accVar v hv, h1.accVar v hv]
  · intro v hv; rw [h2.plainVar v hv, h1.plainVar v hv, List.map_append, own_append]
  · intro v hv; rw [h2.accE v hv, h1.accE v hv, List.map_append, List.foldl_append]
  · intro v hv; rw [h2.accOther v hv, h1.accOther v hv]
  · rw [h2.inh, h1.inh]; simp
  · rw [h2.fns, h1.fns]; simp
  · rw [h2.dirs, h1.dirs]; simp

/-- `V`, `F`: a statement other than `inherit` changes `vars` and `funcs` only -/
theorem Facts.cons {A : List Str} {st st'' : St} {V : Str → Option Str} {F : List Str} {me : Str} {s : Stmt}
    {src fl dir f} (hrest : Facts A { st with vars := V, funcs := F } st'' src fl dir f)
    (hv : ∀ v, V v = own v [s] (st.vars v)) (hf : F = st.funcs ++ defsOf (me, s)) :
    Facts A st st'' src ((me, s) :: fl) dir (fun v c => f v (own v [s] c)) := by
  refine Facts.trans (src1 := []) (fl1 := [(me, s)]) (dir1 := []) ?_ hrest
  exact ⟨fun v _ => hv v, fun v _ => hv v, fun _ _ => rfl, fun _ _ => rfl, (List.append_nil _).symm,
    hf.trans (by rw [List.flatMap_singleton]), (List.append_nil _).symm⟩

/-- one round of the `inherit` loop: the caller's accumulated variables are put aside, the eclass is sourced, what it
set goes to the `E_` accumulators and the caller's values come back -/
theorem Facts.eclass {A : List Str} {st st2 : St} {name : Str} {body : List Stmt}
    (hb : Facts A { st with vars := fun k => if k ∈ A then none else st.vars k } st2 (sourced body)
      (flat name body) [] (fun v c => own v body c)) :
    Facts A st
      { st2 with
        acc := fun k =>
          if k ∈ A ∧ (st2.vars k).getD [] ≠ [] then joinSp (st2.acc k) ((st2.vars k).getD []) else st2.acc k,
        vars := fun k => if k ∈ A then st.vars k else st2.vars k,
        inherited := st2.inherited ++ [name] }
      (sourced body ++ [(name, body)]) (flat name body) [] (fun _ c => c) := by
  refine ⟨?_, ?_, ?_, ?_, ?_, hb.fns, hb.dirs⟩
  · intro v hv; exact if_pos hv
  · intro v hv; exact (if_neg hv).trans ((hb.plainVar v hv).trans (congrArg (own v _) (if_neg hv)))
  · intro v hv
    have h1 : st2.vars v = own v body none := (hb.accVar v hv).trans (congrArg (own v body) (if_pos hv))
    show (if v ∈ A ∧ (st2.vars v).getD [] ≠ [] then _ else _) = _
    rw [List.map_append, List.foldl_append, ← hb.accE v hv, h1]
    by_cases hx : (own v body none).getD [] = []
    · rw [if_neg (fun h => h.2 hx)]; exact (if_pos hx).symm
    · rw [if_pos ⟨hv, hx⟩]; exact (if_neg hx).symm
  · intro v hv; exact (if_neg (fun h => hv h.1)).trans (hb.accOther v hv)
  · show st2.inherited ++ [name] = _
    rw [hb.inh, List.map_append, List.append_assoc]
    rfl

/-- `hrun` is asked for the members of `ecls` only, so that `run_facts` can supply it by recursion: the membership is
what its termination proof needs -/
theorem inheritAll_facts_of (A : List Str) (depth : Nat) (ecls : List (Str × List Stmt))
    (hrun : ∀ e ∈ ecls, ∀ st, Facts A st (run A (depth + 1) e.1 e.2 st) (sourced e.2) (flat e.1 e.2) []
      (fun v c => own v e.2 c)) (st : St) :
    Facts A st (inheritAll A depth ecls st) (sourcedEcls ecls) (flatEcls ecls) [] (fun _ c => c) := by
  induction ecls generalizing st with
  | nil => rw [inheritAll, sourcedEcls, flatEcls]; exact Facts.refl A st
  | cons e rest ih =>
    obtain ⟨name, body⟩ := e
    rw [inheritAll]
    have := (Facts.eclass (st := st) (hrun (name, body) List.mem_cons_self _)).trans
      (ih (fun e he => hrun e (List.mem_cons_of_mem _ he)) _)
    rw [List.append_assoc] at this
    simp only [sourcedEcls, flatEcls]
    exact this

theorem run_facts (A : List Str) (depth : Nat) (me : Str) (body : List Stmt) (st : St) :
    Facts A st (run A depth me body st) (sourced body) (flat me body)
      (if depth = 0 then directInherits body else []) (fun v c => own v body c) := by
  match body with
  | [] =>
    rw [run, sourced, flat, directInherits, ite_self]
    exact Facts.refl A st
  | s :: rest =>
    have hrest := run_facts A depth me rest
    match s with
    | .set w val =>
      simp only [sourced, flat]
      exact (hrest _).cons (setVar_own _ _ w (fun _ => some val) (fun _ _ => rfl)) (List.append_nil _).symm
    | .append w val =>
      simp only [sourced, flat]
      exact (hrest _).cons (setVar_own _ _ w (fun c => some (c.getD [] ++ ' ' :: val)) (fun _ _ => rfl))
        (List.append_nil _).symm
    | .unset w =>
      simp only [sourced, flat]
      exact (hrest _).cons (setVar_own _ _ w (fun _ => none) (fun _ _ => rfl)) (List.append_nil _).symm
    | .func n =>
      simp only [sourced, flat]
      exact (hrest _).cons (fun _ => rfl) rfl
    | .export p =>
      simp only [sourced, flat]
      exact (hrest _).cons (fun _ => rfl) rfl
    | .inherit ecls =>
      simp only [sourced, flat]
      have hecls := inheritAll_facts_of A depth ecls fun e he st => run_facts A (depth + 1) e.1 e.2 st
      match depth with
      | 0 =>
        have hd : Facts A st { st with direct := st.direct ++ ecls.map (·.1) } [] [] (ecls.map (·.1))
            (fun _ c => c) :=
          ⟨fun _ _ => rfl, fun _ _ => rfl, fun _ _ => rfl, fun _ _ => rfl, (List.append_nil _).symm,
            (List.append_nil _).symm, rfl⟩
        have := (hd.trans (hecls _)).trans (hrest _)
        rw [List.append_nil] at this
        exact this
      | _ + 1 => exact (hecls st).trans (hrest _)
termination_by sizeOf body
decreasing_by
  all_goals simp_wf
  · omega
  · have := List.sizeOf_lt_of_mem he
    cases e
    simp only [Prod.mk.sizeOf_spec] at this
    dsimp only
    omega

theorem inheritAll_facts (A : List Str) (depth : Nat) (ecls : List (Str × List Stmt)) (st : St) :
    Facts A st (inheritAll A depth ecls st) (sourcedEcls ecls) (flatEcls ecls) [] (fun v c => c) :=
  inheritAll_facts_of A depth ecls (fun e _ st => run_facts A (depth + 1) e.1 e.2 st) st

/-- the RDEPEND default of EAPI 0–3 in `__load_ebuild`, seen from one key -/
theorem rdependDefault_apply (V : Str → Option Str) (rd : Bool) (k : Str) :
    (if rd = true ∧ V kRDEPEND = none then setVar V kRDEPEND (some ((V kDEPEND).getD [])) else V) k =
      if k = kRDEPEND ∧ rd = true ∧ V k = none then some ((V kDEPEND).getD []) else V k := by
  by_cases hk : k = kRDEPEND
  · subst hk
    by_cases h : rd = true ∧ V kRDEPEND = none
    · rw [if_pos h, if_pos ⟨rfl, h⟩]; exact if_pos rfl
    · rw [if_neg h, if_neg (fun h' => h h'.2)]
  · rw [if_neg (fun h : k = kRDEPEND ∧ _ => hk h.1)]
    by_cases h : rd = true ∧ V kRDEPEND = none
    · rw [if_pos h]; exact if_neg hk
    · rw [if_neg h]

theorem dumpKey_pair (V : Str → Option Str) (k : Str) :
    (dumpKey V k).map (fun x => (k, x)) =
      match V k with
      | some v => if v = [] then none else some (k, normalise v)
      | none => none := by
  unfold dumpKey
  cases V k with
  | none => rfl
  | some v => by_cases hv : v = [] <;> simp [hv]

theorem definedFuncs_eq (tree : List Stmt) : definedFuncs tree = (flat [] tree).flatMap defsOf := rfl

theorem mem_sortStrs (x : Str) (l : List Str) : x ∈ sortStrs l ↔ x ∈ l :=
  (Lib.foldr_insert_perm insertSorted (stop := fun x y => ¬ compare (String.ofList x) (String.ofList y) = .gt)
    (fun _ => rfl) (fun _ _ _ => by rw [insertSorted, ite_not]) l).mem_iff

end Pkgcore.C49
