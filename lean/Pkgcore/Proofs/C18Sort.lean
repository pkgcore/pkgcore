import Pkgcore.Spec.C18
import Pkgcore.Proofs.Lib
/-! # C18 — `sortDirs`, the order of the directory loop (C20's takes the reverse): an insertion sort by `pathKey`,
under which a proper ancestor comes first -/
namespace Pkgcore.C18
open Pkgcore.C18.Spec

theorem sortDirs_eq_foldr (l : List Entry) : sortDirs l = l.foldr insertByKey [] := by
  induction l <;> simp_all [sortDirs]

theorem sortDirs_perm (l : List Entry) : (sortDirs l).Perm l :=
  sortDirs_eq_foldr l ▸ Lib.foldr_insert_perm insertByKey (stop := fun x y => ¬ pathKey y.loc ≤ pathKey x.loc)
    (fun _ => rfl) (fun _ _ _ => by rw [insertByKey, ite_not]) l

theorem sortDirs_sorted (l : List Entry) : (sortDirs l).Pairwise (fun a b => pathKey a.loc ≤ pathKey b.loc) :=
  sortDirs_eq_foldr l ▸ Lib.foldr_insert_pairwise insertByKey (stop := fun x y => ¬ pathKey y.loc ≤ pathKey x.loc)
    (r := fun a b => pathKey a.loc ≤ pathKey b.loc) (fun _ => rfl) (fun _ _ _ => by rw [insertByKey, ite_not])
    List.le_trans (fun h => (List.le_total _ _).resolve_right h) Classical.not_not.1 l

theorem pathKey_lt_of_properAnc {q p : Path} (h : ProperAnc q p) : pathKey q < pathKey p := by
  obtain ⟨hne, t, ht⟩ := h
  subst ht
  induction t with
  | nil => exact absurd rfl hne
  | cons n t ih =>
    have step : pathKey (t ++ q) < pathKey (t ++ q) ++ '/' :: n.toList := by
      simpa using List.append_left_lt (l₁ := pathKey (t ++ q)) (List.nil_lt_cons '/' n.toList)
    by_cases ht : t = []
    · subst ht; exact step
    · exact List.lt_trans (ih (by intro e0; apply ht; simpa using congrArg List.length e0)) step

end Pkgcore.C18
