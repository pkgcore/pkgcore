import Pkgcore.Spec.C32
import Pkgcore.Proofs.C31Bytes
/-!
# C32 — the reply to a helper request

In order: the notions the property statements are written with (`MsgClosed`, `linesOf`, `repliesOf`, `Known`); the
encoded reply as status field plus payload (`status`, `payload`) and what `read` without `-r` makes of it; `serve` as
the encoding of one value (`retOf`); one step of the dispatch loop and the reading of a list of replies; the two
`install` loops (`installDirsPy` through what a list of steps in front does, `installDirsPy_prefix`).
-/
namespace Pkgcore.C32
open Pkgcore.C32.Spec
open Pkgcore.C31 (Str digits digits_spec digits_zero_iff)

/-- the message part of the reply leaves no backslash dangling -/
def MsgClosed : Outcome → Prop
  | .ok (.str s) => escOpen (flat s) = false
  | .ok (.tuple _ m) => escOpen (flat m) = false
  | .cmdError _ m => escOpen (flat m) = false
  | _ => True

/-- the lines the daemon writes for a list of requests -/
def linesOf (reqs : List (Str × Request)) : List Str := reqs.flatMap requestLines

/-- the replies Python writes for them, in order -/
def repliesOf (W : World) (reqs : List (Str × Request)) : List Str :=
  reqs.flatMap fun nr => (serve W nr.1 nr.2).1

/-- the command line of a request is a known helper name written as one word -/
def Known (helpers : List Str) (nr : Str × Request) : Prop :=
  cmdWord nr.1 = nr.1 ∧ helpers.contains nr.1 = true

theorem digit_not_special {c : Char} (h : c.isDigit = true) : c ≠ '\n' ∧ c ≠ '\\' ∧ c ≠ '\x07' :=
  ⟨Lib.ne_of_class h (by decide), Lib.ne_of_class h (by decide), Lib.ne_of_class h (by decide)⟩

theorem intStr_chars (n : Int) : ∀ c ∈ intStr n, c ≠ '\n' ∧ c ≠ '\\' ∧ c ≠ '\x07' := by
  intro c hc
  unfold intStr at hc
  split at hc
  · rcases List.mem_cons.1 hc with rfl | h
    · decide
    · exact digit_not_special ((digits_spec _).1 c h)
  · exact digit_not_special ((digits_spec _).1 c hc)

theorem intStr_one : intStr 1 = ['1'] := by
  rw [intStr, if_neg (by decide), show (1 : Int).toNat = 1 from rfl, digits]
  rfl

theorem intStr_zero_iff (n : Int) : intStr n = ['0'] ↔ n = 0 := by
  unfold intStr
  split
  · exact ⟨fun e => absurd (List.cons.inj e).1 (by decide), fun e => by omega⟩
  · rw [digits_zero_iff]; omega

theorem flat_chars {c : Char} {s : Str} (h : c ∈ flat s) : c ≠ '\n' ∧ (c = ' ' ∨ c ∈ s) := by
  obtain ⟨x, hx, hc⟩ := List.mem_flatMap.1 h
  split at hc
  · rw [List.mem_singleton.1 hc]; exact ⟨by decide, Or.inl rfl⟩
  · next hne => rw [List.mem_singleton.1 hc]; exact ⟨hne, Or.inr hx⟩

/-- the two parts of an encoded reply: the status field, and `\a` with the folded message if there is one -/
def status : Ret → Str
  | .tuple c _ => intStr c
  | _ => ['0']

def payload : Ret → Str
  | .none => []
  | .int n => '\x07' :: flat (intStr n)
  | .str s => '\x07' :: flat s
  | .tuple _ m => '\x07' :: flat m

theorem encodeRet_eq (r : Ret) : encodeRet r = status r ++ payload r := by cases r <;> rfl

theorem status_chars (r : Ret) : ∀ c ∈ status r, c ≠ '\n' ∧ c ≠ '\\' ∧ c ≠ '\x07' := by
  cases r with
  | tuple c m => exact intStr_chars c
  | _ =>
    intro c hc
    rw [List.mem_singleton.1 hc]
    decide

theorem payload_head (r : Ret) : payload r = [] ∨ ∃ t, payload r = '\x07' :: t := by
  cases r <;> simp [payload]

theorem status_zero (r : Ret) : (status r == ['0']) = succeeded (.ok r) := by
  cases r with
  | tuple c m =>
    show (intStr c == ['0']) = (c == 0)
    rw [Bool.eq_iff_iff, beq_iff_eq, beq_iff_eq, intStr_zero_iff]
  | _ => rfl

theorem encodeRet_no_newline (r : Ret) : '\n' ∉ encodeRet r := by
  rw [encodeRet_eq, List.mem_append, not_or]
  refine ⟨fun h => (status_chars r _ h).1 rfl, ?_⟩
  cases r with
  | none => exact List.not_mem_nil
  | _ => exact fun h => (List.mem_cons.1 h).elim (by decide) fun h => (flat_chars h).1 rfl

theorem statusField_append {s tail : Str} (hs : ∀ c ∈ s, c ≠ '\x07')
    (ht : tail = [] ∨ ∃ t, tail = '\x07' :: t) :
    statusField (s ++ tail) = s := by
  rw [statusField, List.takeWhile_append_of_pos fun c hc => bne_iff_ne.2 (hs c hc)]
  rcases ht with rfl | ⟨t, rfl⟩ <;> simp

theorem bashSuccess_encodeRet (r : Ret) : bashSuccess (encodeRet r) = succeeded (.ok r) := by
  rw [bashSuccess, encodeRet_eq, statusField_append (fun c hc => (status_chars r c hc).2.2) (payload_head r)]
  exact status_zero r

theorem escOpen_prefix (p s : Str) (hp : '\\' ∉ p) : escOpen (p ++ s) = escOpen s := by
  induction p with
  | nil => rfl
  | cons c p ih =>
    rw [List.cons_append, escOpen, escState, beq_false_of_ne fun e => hp (by simp [e])]
    exact ih fun h => hp (by simp [h])

theorem no_backslash_closed (s : Str) (h : '\\' ∉ s) : escOpen s = false := by
  simpa [escOpen, escState] using escOpen_prefix s [] h

theorem unesc_prefix (p s : Str) (hp : '\\' ∉ p) : unesc (p ++ s) = p ++ unesc s := by
  induction p with
  | nil => rfl
  | cons c p ih =>
    have hc : c ≠ '\\' := fun e => hp (by simp [e])
    rw [List.cons_append, unesc, unescAux]
    simp only [hc, if_false]
    exact congrArg (c :: ·) (ih fun h => hp (by simp [h]))

theorem bashReadAux_clean (p : Bool) (l : Str) (hn : '\n' ∉ l) (he : escState p l = false) (rest : Str) :
    bashReadAux p (l ++ '\n' :: rest) = some (unescAux p l, rest) := by
  induction l generalizing p with
  | nil => subst he; rfl
  | cons c cs ih =>
    have hc : c ≠ '\n' := fun e => hn (by simp [e])
    have hn' : '\n' ∉ cs := fun m => hn (by simp [m])
    cases p with
    | true => simp only [List.cons_append, bashReadAux, hc, if_false, ih false hn' he, unescAux]
    | false =>
      by_cases hb : c = '\\'
      · subst hb; exact ih true hn' he
      · rw [escState, beq_false_of_ne hb] at he
        simp only [List.cons_append, bashReadAux, hb, hc, if_false, ih false hn' he, unescAux]

theorem bashRead_clean (l : Str) (h : Clean l) (rest : Str) :
    bashRead (l ++ '\n' :: rest) = some (unesc l, rest) :=
  bashReadAux_clean false l h.1 h.2 rest

theorem clean_encodeRet (r : Ret) (hm : MsgClosed (.ok r)) : Clean (encodeRet r) := by
  refine ⟨encodeRet_no_newline r, ?_⟩
  rw [encodeRet_eq, escOpen_prefix _ _ fun h => (status_chars r _ h).2.1 rfl]
  cases r with
  | none => rfl
  | int n =>
    refine no_backslash_closed _ fun h => ?_
    rcases List.mem_cons.1 h with e | h
    · cases e
    · exact (flat_chars h).2.elim (by decide) fun h => (intStr_chars n _ h).2.1 rfl
  | str s => exact hm
  | tuple c m => exact hm

theorem bashSuccess_unesc_encodeRet (r : Ret) : bashSuccess (unesc (encodeRet r)) = succeeded (.ok r) := by
  rw [bashSuccess, encodeRet_eq, unesc_prefix _ _ fun h => (status_chars r _ h).2.1 rfl,
    statusField_append (fun c hc => (status_chars r c hc).2.2), status_zero]
  -- left by `statusField_append`: unescaped, the payload still is empty or starts with `\a`
  rcases payload_head r with h | ⟨t, h⟩ <;> rw [h]
  · exact Or.inl rfl
  · exact Or.inr ⟨unescAux false t, by rw [unesc, unescAux, if_neg (by decide)]⟩

/-- the value whose encoding is the single reply of a request, whether it is written by `__call__` (return value,
nonfatal failure) or by `run_generic_phase` (escaping `IpcError`) -/
def retOf : Outcome → Ret
  | .ok ret => ret
  | .cmdError c m => .tuple c m
  | .otherError => .tuple 1 "internal failure".toList

theorem serve_eq (W : World) (name : Str) (r : Request) :
    serve W name r =
      ([encodeRet (retOf (outcomeOf W name r))],
       match outcomeOf W name r with
       | .ok _ => true
       | .cmdError _ _ => strip r.nonfatal == "true".toList
       | .otherError => false) := by
  unfold serve call
  cases h : outcomeOf W name r with
  | ok ret => simp [retOf]
  | cmdError c m =>
    cases hn : (strip r.nonfatal == "true".toList) <;> simp [retOf, raisedReply]
  | otherError => simp [retOf, raisedReply]

theorem clean_retOf (o : Outcome) (h : MsgClosed o) : Clean (encodeRet (retOf o)) := by
  refine clean_encodeRet _ ?_
  cases o with
  | ok ret => exact h
  | cmdError c m => exact h
  | otherError => show escOpen (flat "internal failure".toList) = false; decide +kernel

theorem succeeded_retOf {o : Outcome} (hc : CodeOk o) : succeeded (.ok (retOf o)) = succeeded o := by
  cases o with
  | ok ret => rfl
  | cmdError c m => exact beq_false_of_ne hc
  | otherError => rfl

theorem bashSuccess_retOf (o : Outcome) (hc : CodeOk o) :
    bashSuccess (unesc (encodeRet (retOf o))) = succeeded o ∧ bashSuccess (encodeRet (retOf o)) = succeeded o := by
  rw [← succeeded_retOf hc]
  exact ⟨bashSuccess_unesc_encodeRet _, bashSuccess_encodeRet _⟩

theorem repliesOf_eq (W : World) (reqs : List (Str × Request)) :
    repliesOf W reqs = reqs.map fun nr => encodeRet (retOf (outcomeOf W nr.1 nr.2)) := by
  simp only [repliesOf, serve_eq, List.map_eq_flatMap]

theorem session_step (W : World) (helpers : List Str) (nr : Str × Request) (hk : Known helpers nr)
    (fuel : Nat) (rest : List Str) :
    session W helpers (fuel + 1) (requestLines nr ++ rest) =
      if (serve W nr.1 nr.2).2 then
        ((serve W nr.1 nr.2).1 ++ (session W helpers fuel rest).1, (session W helpers fuel rest).2.1,
          (session W helpers fuel rest).2.2)
      else ((serve W nr.1 nr.2).1, rest, .buildFailed) := by
  obtain ⟨n, r⟩ := nr
  obtain ⟨h1, h2⟩ := hk
  simp only at h1 h2
  simp only [requestLines, List.cons_append, List.nil_append, session, h1, h2, if_true]

theorem daemonReadsReply_wire (l : Str) (h : Clean l) (ls : List Str) (rest : Str) :
    daemonReadsReply (wire (l :: ls) ++ rest) = some (bashSuccess (unesc l), wire ls ++ rest) := by
  have : wire (l :: ls) ++ rest = l ++ '\n' :: (wire ls ++ rest) := by simp [wire]
  rw [this, daemonReadsReply, bashRead_clean l h]

theorem readReplies_clean (ls : List Str) (h : ∀ l ∈ ls, Clean l) (rest : Str) :
    readReplies ls.length (wire ls ++ rest) = some (ls.map fun l => bashSuccess (unesc l), rest) := by
  induction ls with
  | nil => rfl
  | cons l ls ih =>
    rw [List.length_cons, readReplies, daemonReadsReply_wire l (h l (by simp))]
    simp only []  -- the `match` on `some _` reduces
    rw [ih (fun x hx => h x (by simp [hx]))]
    rfl

theorem installGroups_spec (gs : List (Int × List Str)) :
    (installGroups gs = .ok .none ∧ ∀ g ∈ gs, g.1 = 0) ∨
      ∃ c m, c ≠ 0 ∧ installGroups gs = .cmdError c m ∧ ¬∀ g ∈ gs, g.1 = 0 := by
  induction gs with
  | nil => exact Or.inl ⟨rfl, fun _ h => nomatch h⟩
  | cons g gs ih =>
    obtain ⟨ret, out⟩ := g
    rw [installGroups]
    by_cases h : ret = 0
    · rw [if_neg fun hn => hn h]
      rcases ih with ⟨e, ha⟩ | ⟨c, m, hc, e, hn⟩
      · exact Or.inl ⟨e, List.forall_mem_cons.2 ⟨h, ha⟩⟩
      · exact Or.inr ⟨c, m, hc, e, fun ha => hn (List.forall_mem_cons.1 ha).2⟩
    · rw [if_pos h]
      exact Or.inr ⟨ret, _, h, rfl, fun ha => h (List.forall_mem_cons.1 ha).1⟩

theorem installDirsPy_step (w : Bool) (s : DirStep) :
    (dirsDone w [s] = true ∧ ∀ rest, installDirsPy w (s :: rest) = installDirsPy w rest) ∨
    (dirsDone w [s] = false ∧ ∃ m, ∀ rest, installDirsPy w (s :: rest) = .cmdError 1 m) := by
  obtain ⟨p, mk, att⟩ := s
  cases mk with
  | some e => exact Or.inr ⟨rfl, _, fun _ => rfl⟩
  | none =>
    cases w with
    | false => exact Or.inl ⟨rfl, fun _ => rfl⟩
    | true =>
      cases att with
      | some e => exact Or.inr ⟨rfl, _, fun _ => rfl⟩
      | none => exact Or.inl ⟨rfl, fun _ => rfl⟩

theorem dirsDone_append (w : Bool) (a b : List DirStep) : dirsDone w (a ++ b) = (dirsDone w a && dirsDone w b) := by
  simp [dirsDone]

theorem installDirsPy_prefix (w : Bool) (pre : List DirStep) :
    (dirsDone w pre = true ∧ ∀ rest, installDirsPy w (pre ++ rest) = installDirsPy w rest) ∨
    (dirsDone w pre = false ∧ ∃ m, ∀ rest, installDirsPy w (pre ++ rest) = .cmdError 1 m) := by
  induction pre with
  | nil => exact Or.inl ⟨rfl, fun _ => rfl⟩
  | cons s pre ih =>
    rw [show dirsDone w (s :: pre) = _ from dirsDone_append w [s] pre]
    rcases installDirsPy_step w s with ⟨hd, h⟩ | ⟨hd, m, h⟩
    · simpa only [hd, Bool.true_and, List.cons_append, h] using ih
    · exact Or.inr ⟨by rw [hd]; rfl, m, fun rest => h _⟩

end Pkgcore.C32
