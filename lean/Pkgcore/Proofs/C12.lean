import Pkgcore.Spec.C12
import Pkgcore.Proofs.Lib
/-!
# C12 — the loops by the shape of a token

Every loop of the model branches on the shape of a token: empty, a bare `-`, a negation `-i`, or anything else.
Each step function gets its equations on these shapes once (`expandStep_nil/dash/neg/pos`, `optLoop_*`,
`splitLoop_*`, `licStep_*`, with `effect_*` / `licEffect_*` for the specification), `tok_shape` splits a well-formed
token, and the proofs about the loops rewrite with the equations.  "Last writer wins" is composed with `after` from
what one step does per flag (`expandStep_spec`, `licStep_spec`).
For `optimize_incrementals` the invariant of the right-to-left walk is `Condenses`: what is yielded says about every
flag not yet decided what the rest of the stream says (`verdict`).  Last, `collapsed_restrict_to_data`
(`pullData_sameFlags`): an expansion depends on its initial set only through the flags in it (`expand_congr`), and
finalized defaults are flags (`collapse_defaults_flags`).
-/
namespace Pkgcore.C12
open Pkgcore.C12.Spec

theorem mem_sAdd (s : TSet) (x y : Tok) : y ∈ sAdd s x ↔ y ∈ s ∨ y = x :=
  Lib.mem_add_if_absent List.contains_iff_mem.mp y

theorem mem_sDiscard (s : TSet) (x y : Tok) : y ∈ sDiscard s x ↔ y ∈ s ∧ y ≠ x := by
  simp only [sDiscard, List.mem_filter, bne_iff_ne]

theorem mem_sUpdate (s : TSet) (xs : List Tok) (y : Tok) : y ∈ sUpdate s xs ↔ y ∈ s ∨ y ∈ xs :=
  Lib.mem_foldl_add mem_sAdd xs s y

theorem mem_sDiff (s : TSet) (xs : List Tok) (y : Tok) : y ∈ sDiff s xs ↔ y ∈ s ∧ y ∉ xs := by
  simp only [sDiff, List.mem_filter, Bool.not_eq_true', List.contains_eq_mem, decide_eq_false_iff_not]

/-- the state after a token whose verdict is `v` -/
def after (v : Option Bool) (before : Prop) : Prop := v = some true ∨ (v = none ∧ before)

theorem after_none (p : Prop) : after none p ↔ p := by simp [after]

theorem after_orElse (l e : Option Bool) (p : Prop) : after (l.orElse fun _ => e) p ↔ after l (after e p) := by
  cases l <;> simp [after]

theorem after_on (q : Prop) [Decidable q] (p : Prop) : after (if q then some true else none) p ↔ p ∨ q := by
  by_cases h : q <;> simp [after, h]

theorem after_off (q : Prop) [Decidable q] (p : Prop) : after (if q then some false else none) p ↔ p ∧ ¬ q := by
  by_cases h : q <;> simp [after, h]

theorem after_on_off (q r : Prop) [Decidable q] [Decidable r] (p : Prop) :
    after (if q then some true else if r then some false else none) p ↔ q ∨ (p ∧ ¬ r) := by
  by_cases hq : q
  · simp [after, hq]
  · rw [if_neg hq, after_off, or_iff_right hq]

theorem holds_iff (f : Tok) (toks : List Tok) (orig : TSet) :
    holds f toks orig = true ↔ after (lastEffect f toks) (f ∈ orig) := by
  unfold holds after
  cases lastEffect f toks with
  | none => simp
  | some b => cases b <;> simp

theorem isFlag_head {f : Tok} (h : isFlag f = true) : f.head? ≠ some '-' := by
  rw [isFlag, Bool.and_eq_true, bne_iff_ne] at h
  exact h.2

theorem flag_ne_dash {f x : Tok} (h : isFlag f = true) : f ≠ '-' :: x :=
  fun h0 => isFlag_head h (by rw [h0]; rfl)

theorem head?_ne_dash {a : Char} (ha : a ≠ '-') (as : List Char) : (a :: as).head? ≠ some '-' :=
  fun h => ha (Option.some.inj h)

theorem tok_shape {t : Tok} (hne : t ≠ []) (hd : t ≠ ['-']) :
    (∃ i, i ≠ [] ∧ t = '-' :: i) ∨ ∃ a as, a ≠ '-' ∧ t = a :: as := by
  match t with
  | [] => exact absurd rfl hne
  | a :: as =>
    by_cases ha : a = '-'
    · exact Or.inl ⟨as, fun h => hd (by rw [ha, h]), by rw [ha]⟩
    · exact Or.inr ⟨a, as, ha, rfl⟩

theorem effect_neg {f : Tok} (hf : isFlag f = true) (i : Tok) :
    effect f ('-' :: i) = if i = star ∨ i = f then some false else none := by
  rw [effect, if_neg (flag_ne_dash hf).symm]
  simp only [clearTok, star, List.cons.injEq, true_and]
  by_cases h : i = f <;> simp only [h, if_true, if_false, or_true, or_false]

theorem effect_pos {t : Tok} (ht : t.head? ≠ some '-') (f : Tok) :
    effect f t = if t = f then some true else none := by
  have h2 : t ≠ '-' :: f := fun h => ht (by rw [h]; rfl)
  have h3 : t ≠ clearTok := fun h => ht (by rw [h]; rfl)
  rw [effect, if_neg h2, if_neg h3]

theorem wellFormed_tok (t : Tok) : (!t.isEmpty && t != ['-']) = true ↔ t ≠ [] ∧ t ≠ ['-'] := by
  rw [Bool.and_eq_true, Bool.not_eq_true', List.isEmpty_eq_false_iff, bne_iff_ne]

theorem wellFormed_cons {t : Tok} {ts : List Tok} :
    wellFormed (t :: ts) = true ↔ (t ≠ [] ∧ t ≠ ['-']) ∧ wellFormed ts = true := by
  rw [wellFormed, List.all_cons, Bool.and_eq_true, wellFormed_tok]
  rfl

theorem wellFormed_mem {l : List Tok} (h : wellFormed l = true) {t : Tok} (ht : t ∈ l) : t ≠ [] ∧ t ≠ ['-'] :=
  (wellFormed_tok t).mp (List.all_eq_true.mp h t ht)

theorem expandStep_nil (fin : Bool) (s : TSet) : expandStep fin s [] = .error .index := rfl

theorem expandStep_dash (fin : Bool) (s : TSet) : expandStep fin s ['-'] = .error .incomplete := rfl

theorem expandStep_neg (fin : Bool) (s : TSet) {i : Tok} (hi : i ≠ []) :
    expandStep fin s ('-' :: i) =
      .ok (if fin then (if i = star then [] else sDiscard s i)
           else sAdd (if i = star then [] else sDiscard s i) ('-' :: i)) := by
  cases i with
  | nil => exact absurd rfl hi
  | cons b j => rfl

theorem expandStep_pos (fin : Bool) (s : TSet) {a : Char} (ha : a ≠ '-') (as : List Char) :
    expandStep fin s (a :: as) = .ok (sAdd (sDiscard s ('-' :: a :: as)) (a :: as)) := by
  simp [expandStep, ha]

theorem expandStep_ok (fin : Bool) (s : TSet) {t : Tok} (hne : t ≠ []) (hd : t ≠ ['-']) :
    ∃ s', expandStep fin s t = .ok s' := by
  rcases tok_shape hne hd with ⟨i, hi, rfl⟩ | ⟨a, as, ha, rfl⟩
  · exact ⟨_, expandStep_neg fin s hi⟩
  · exact ⟨_, expandStep_pos fin s ha as⟩

theorem wellFormed_of_expandStep_ok {fin : Bool} {s s1 : TSet} {t : Tok} (h : expandStep fin s t = .ok s1) :
    t ≠ [] ∧ t ≠ ['-'] := by
  constructor
  · intro h1
    rw [h1, expandStep_nil] at h
    cases h
  · intro h2
    rw [h2, expandStep_dash] at h
    cases h

theorem expandStep_spec (s : TSet) {t : Tok} (hne : t ≠ []) (hd : t ≠ ['-']) :
    ∃ s', expandStep true s t = .ok s' ∧
      ∀ f, isFlag f = true → (f ∈ s' ↔ after (effect f t) (f ∈ s)) := by
  rcases tok_shape hne hd with ⟨i, hi, rfl⟩ | ⟨a, as, ha, rfl⟩
  · refine ⟨_, expandStep_neg true s hi, fun f hf => ?_⟩
    rw [effect_neg hf, after_off, if_pos rfl]
    by_cases hs : i = star
    · rw [if_pos hs]
      exact ⟨fun h => absurd h List.not_mem_nil, fun h => absurd (Or.inl hs) h.2⟩
    · rw [if_neg hs, mem_sDiscard, or_iff_right hs, ne_eq, eq_comm]
  · refine ⟨_, expandStep_pos true s ha as, fun f hf => ?_⟩
    rw [effect_pos (head?_ne_dash ha as), after_on, mem_sAdd, mem_sDiscard, and_iff_left (flag_ne_dash hf), eq_comm]

theorem expand_cons (fin t ts s) : expand fin (t :: ts) s =
    (match expandStep fin s t with | .error e => .error e | .ok s' => expand fin ts s') := rfl

theorem expand_append (fin : Bool) (a b : List Tok) (s : TSet) :
    expand fin (a ++ b) s = (match expand fin a s with | .error e => .error e | .ok s' => expand fin b s') := by
  induction a generalizing s with
  | nil => rfl
  | cons t ts ih =>
    rw [List.cons_append, expand_cons, expand_cons]
    cases expandStep fin s t with
    | error e => rfl
    | ok s' => exact ih s'

theorem expand_holds (toks : List Tok) (orig : TSet) (h : wellFormed toks = true) :
    ∃ s, expand true toks orig = .ok s ∧ ∀ f, isFlag f = true → (f ∈ s ↔ holds f toks orig = true) := by
  induction toks generalizing orig with
  | nil => exact ⟨orig, rfl, fun f _ => by rw [holds_iff, lastEffect, after_none]⟩
  | cons t ts ih =>
    obtain ⟨⟨hne, hd⟩, hts⟩ := wellFormed_cons.mp h
    obtain ⟨s1, h1, hs1⟩ := expandStep_spec orig hne hd
    obtain ⟨s, h2, hs⟩ := ih s1 hts
    refine ⟨s, by rw [expand_cons, h1]; exact h2, fun f hf => ?_⟩
    rw [hs f hf, holds_iff, holds_iff, lastEffect, after_orElse, hs1 f hf]

theorem lastEffect_append (f : Tok) (a b : List Tok) :
    lastEffect f (a ++ b) = (lastEffect f b).orElse fun _ => lastEffect f a := by
  induction a with
  | nil => cases h : lastEffect f b <;> simp [lastEffect, h]
  | cons x xs ih =>
    simp only [List.cons_append, lastEffect, ih]
    cases lastEffect f b <;> simp

theorem lastEffect_reverse_cons (f t : Tok) (ts : List Tok) :
    lastEffect f (t :: ts).reverse = (effect f t).orElse fun _ => lastEffect f ts.reverse := by
  rw [List.reverse_cons, lastEffect_append]
  rfl

theorem optLoop_dash (rest : List Tok) (fin : TSet) : optLoop (['-'] :: rest) fin = .error .incomplete := by
  rw [optLoop]; rfl

theorem optLoop_clear (rest : List Tok) (fin : TSet) :
    optLoop (clearTok :: rest) fin = if rest.contains ['-'] then .error .incomplete else .ok [clearTok] := by
  rw [clearTok, optLoop]; rfl

theorem optLoop_neg {i : Tok} (hi : i ≠ []) (hs : i ≠ star) (rest : List Tok) (fin : TSet) :
    optLoop (('-' :: i) :: rest) fin =
      if fin.contains i then optLoop rest fin else (optLoop rest (sAdd fin i)).map (('-' :: i) :: ·) := by
  rw [optLoop]
  simp [hi, hs]

theorem optLoop_pos {a : Char} (ha : a ≠ '-') (as : List Char) (rest : List Tok) (fin : TSet) :
    optLoop ((a :: as) :: rest) fin =
      if fin.contains (a :: as) then optLoop rest fin
      else (optLoop rest (sAdd fin (a :: as))).map ((a :: as) :: ·) := by
  rw [optLoop]
  simp [ha]

/-- what a condensed set `c` says about flag `f`, however it is iterated -/
def verdict (f : Tok) (c : List Tok) : Option Bool :=
  if f ∈ c then some true else if clearTok ∈ c ∨ ('-' :: f) ∈ c then some false else none

theorem verdict_eq_some_true (f : Tok) (c : List Tok) : verdict f c = some true ↔ f ∈ c := by
  unfold verdict
  by_cases h : f ∈ c
  · simp [h]
  · rw [if_neg h]; split <;> simp [h]

theorem verdict_cons_of_not_mem {f : Tok} {c : List Tok} (t : Tok) (h : f ∉ c) :
    verdict f (t :: c) = (effect f t).orElse fun _ => verdict f c := by
  unfold verdict effect
  simp only [List.mem_cons, h, or_false, if_false]
  by_cases h1 : t = f
  · simp [h1]
  · by_cases h2 : t = '-' :: f
    · simp [h2]
    · by_cases h3 : t = clearTok
      · subst h3; simp [h1, Ne.symm h1]
      · simp [h1, h2, h3, Ne.symm h1, Ne.symm h2, Ne.symm h3]

theorem verdict_cons_of_silent {f t : Tok} (c : List Tok) (h : effect f t = none) :
    verdict f (t :: c) = verdict f c := by
  by_cases hc : f ∈ c
  · rw [(verdict_eq_some_true f c).mpr hc, (verdict_eq_some_true f _).mpr (List.mem_cons_of_mem t hc)]
  · rw [verdict_cons_of_not_mem t hc, h]; rfl

/-- the invariant of `optimize_incrementals`, walking `rest` (the stream reversed) with the names in `fin` already
decided, of what it yields from here (`c`) -/
structure Condenses (rest : List Tok) (fin : TSet) (c : List Tok) : Prop where
  wf : wellFormed c = true
  decided : ∀ f, isFlag f = true → f ∈ fin → f ∉ c
  says : ∀ f, isFlag f = true → f ∉ fin → verdict f c = lastEffect f rest.reverse

/-- an item other than `-*` speaks about one name `k`: it is dropped if `k` is decided, else yielded and `k` decided -/
theorem condenses_step {item k : Tok} {p : Bool} {rest : List Tok} {fin : TSet} (hwf : item ≠ [] ∧ item ≠ ['-'])
    (hk : ∀ f, isFlag f = true → effect f item = if k = f then some p else none)
    (ih : ∀ fin', ∃ c, optLoop rest fin' = .ok c ∧ Condenses rest fin' c) :
    ∃ c, (if fin.contains k then optLoop rest fin else (optLoop rest (sAdd fin k)).map (item :: ·)) = .ok c ∧
      Condenses (item :: rest) fin c := by
  by_cases hfin : k ∈ fin
  · obtain ⟨c, hc, hch⟩ := ih fin
    refine ⟨c, by rw [if_pos (List.contains_iff_mem.mpr hfin), hc], hch.wf, hch.decided, fun f hf hn => ?_⟩
    have hkf : k ≠ f := fun h => hn (h ▸ hfin)
    rw [lastEffect_reverse_cons, hk f hf, if_neg hkf]
    exact hch.says f hf hn
  · obtain ⟨c, hc, hch⟩ := ih (sAdd fin k)
    refine ⟨item :: c, by rw [if_neg (mt List.contains_iff_mem.mp hfin), hc]; rfl,
      wellFormed_cons.mpr ⟨hwf, hch.wf⟩, fun f hf hm => ?_, fun f hf hn => ?_⟩
    · have hkf : k ≠ f := fun h => hfin (h ▸ hm)
      have he : effect f item = none := by rw [hk f hf, if_neg hkf]
      intro hmem
      rcases List.mem_cons.mp hmem with rfl | h
      · rw [effect, if_pos rfl] at he
        cases he
      · exact hch.decided f hf ((mem_sAdd ..).mpr (Or.inl hm)) h
    · rw [lastEffect_reverse_cons]
      by_cases hkf : k = f
      · rw [verdict_cons_of_not_mem item (hch.decided f hf ((mem_sAdd ..).mpr (Or.inr hkf.symm))), hk f hf, if_pos hkf]
        rfl
      · have he : effect f item = none := by rw [hk f hf, if_neg hkf]
        rw [verdict_cons_of_silent c he, he]
        exact hch.says f hf fun h => ((mem_sAdd ..).mp h).elim hn (Ne.symm hkf)

theorem optLoop_condenses (rest : List Tok) (fin : TSet) (h : wellFormed rest = true) :
    ∃ c, optLoop rest fin = .ok c ∧ Condenses rest fin c := by
  induction rest generalizing fin with
  | nil => exact ⟨[], rfl, rfl, fun _ _ _ => List.not_mem_nil, fun _ _ _ => rfl⟩
  | cons item rest ih =>
    obtain ⟨hwf, hr⟩ := wellFormed_cons.mp h
    by_cases hc : item = clearTok
    · -- `-*`: nothing before it matters
      subst hc
      have hd : ¬ rest.contains ['-'] = true := fun hm => (wellFormed_mem hr (List.contains_iff_mem.mp hm)).2 rfl
      refine ⟨[clearTok], by rw [optLoop_clear, if_neg hd], rfl,
        fun f hf _ hm => flag_ne_dash hf (List.mem_singleton.mp hm), fun f hf _ => ?_⟩
      have he : effect f clearTok = some false := (effect_neg hf star).trans (if_pos (Or.inl rfl))
      rw [lastEffect_reverse_cons, verdict_cons_of_not_mem _ List.not_mem_nil, he]
      rfl
    · rcases tok_shape hwf.1 hwf.2 with ⟨i, hi, rfl⟩ | ⟨a, as, ha, rfl⟩
      · have hs : i ≠ star := fun hs => hc (by rw [hs]; rfl)
        rw [optLoop_neg hi hs]
        exact condenses_step (p := false) hwf (fun f hf => by simp only [effect_neg hf, hs, false_or]) (ih · hr)
      · rw [optLoop_pos ha]
        exact condenses_step hwf (fun f _ => effect_pos (head?_ne_dash ha as) f) (ih · hr)

theorem wellFormed_reverse (a : List Tok) : wellFormed a.reverse = wellFormed a := List.all_reverse

/-- **what `optimize_incrementals` yields says about every flag what the stream says** -/
theorem optimize_verdict (toks : List Tok) (h : wellFormed toks = true) :
    ∃ c, optimize toks = .ok c ∧ wellFormed c = true ∧
      ∀ f, isFlag f = true → verdict f c = lastEffect f toks := by
  obtain ⟨c, hc, hch⟩ := optLoop_condenses toks.reverse [] ((wellFormed_reverse toks).trans h)
  exact ⟨c, hc, hch.wf, fun f hf => by rw [hch.says f hf List.not_mem_nil, List.reverse_reverse]⟩

theorem orElse_ite (p q : Prop) [Decidable p] [Decidable q] (b : Bool) :
    ((if p then some b else none).orElse fun _ => if q then some b else none) = if q ∨ p then some b else none := by
  by_cases hp : p <;> simp [hp]

theorem lastEffect_poss (f : Tok) (l : List Tok) (hl : ∀ x ∈ l, x.head? ≠ some '-') :
    lastEffect f l = if f ∈ l then some true else none := by
  induction l with
  | nil => rfl
  | cons x xs ih =>
    rw [lastEffect, ih fun y hy => hl y (List.mem_cons_of_mem _ hy), effect_pos (hl x List.mem_cons_self), orElse_ite]
    simp only [List.mem_cons, @eq_comm _ f x]

theorem lastEffect_negs {f : Tok} (hf : isFlag f = true) (l : List Tok) (hl : ∀ x ∈ l, x.head? = some '-') :
    lastEffect f l = if clearTok ∈ l ∨ ('-' :: f) ∈ l then some false else none := by
  induction l with
  | nil => simp [lastEffect]
  | cons x xs ih =>
    obtain ⟨i, rfl⟩ := List.head?_eq_some_iff.mp (hl x List.mem_cons_self)
    rw [lastEffect, ih fun y hy => hl y (List.mem_cons_of_mem _ hy), effect_neg hf, orElse_ite]
    simp only [List.mem_cons, clearTok, star, List.cons.injEq, true_and, @eq_comm _ f i, @eq_comm _ ['*'] i,
      or_or_or_comm (b := i = f)]

theorem mem_filter_pos {f : Tok} (hf : isFlag f = true) (c : List Tok) :
    f ∈ c.filter (·.head? != some '-') ↔ f ∈ c :=
  List.mem_filter.trans (and_iff_left (bne_iff_ne.mpr (isFlag_head hf)))

theorem mem_filter_neg {x : Tok} (hx : x.head? = some '-') (c : List Tok) :
    x ∈ c.filter (·.head? == some '-') ↔ x ∈ c :=
  List.mem_filter.trans (and_iff_left (beq_iff_eq.mpr hx))

theorem lastEffect_negsFirst {f : Tok} (hf : isFlag f = true) (c : List Tok) :
    lastEffect f (negsFirst c) = verdict f c := by
  rw [negsFirst, lastEffect_append,
    lastEffect_poss f _ fun x hx => bne_iff_ne.mp (List.mem_filter.mp hx).2,
    lastEffect_negs hf _ fun x hx => beq_iff_eq.mp (List.mem_filter.mp hx).2,
    verdict]
  simp only [mem_filter_pos hf, mem_filter_neg (x := clearTok) rfl, mem_filter_neg (x := '-' :: f) rfl]
  split <;> rfl

theorem wellFormed_filter (l : List Tok) (p : Tok → Bool) (h : wellFormed l = true) :
    wellFormed (l.filter p) = true :=
  List.all_eq_true.mpr fun x hx => List.all_eq_true.mp h x (List.mem_filter.mp hx).1

theorem splitLoop_neg {i : Tok} (hi : i ≠ []) (ts neg pos : List Tok) :
    splitLoop (('-' :: i) :: ts) neg pos = splitLoop ts (neg ++ [i]) pos := by
  rw [splitLoop]
  simp [hi]

theorem splitLoop_pos {a : Char} (ha : a ≠ '-') (as : List Char) (ts neg pos : List Tok) :
    splitLoop ((a :: as) :: ts) neg pos = splitLoop ts neg (pos ++ [a :: as]) := by
  rw [splitLoop]
  simp [ha]

theorem splitLoop_eq (l neg pos : List Tok) (h : wellFormed l = true) :
    splitLoop l neg pos =
      .ok (neg ++ (l.filter (·.head? == some '-')).map List.tail, pos ++ l.filter (·.head? != some '-')) := by
  induction l generalizing neg pos with
  | nil => simp [splitLoop]
  | cons t ts ih =>
    obtain ⟨hwf, hts⟩ := wellFormed_cons.mp h
    rcases tok_shape hwf.1 hwf.2 with ⟨i, hi, rfl⟩ | ⟨a, as, ha, rfl⟩
    · rw [splitLoop_neg hi, ih _ _ hts]
      simp
    · rw [splitLoop_pos ha, ih _ _ hts]
      simp [List.filter_cons, ha]

theorem mem_negs (x : Tok) (c : List Tok) :
    x ∈ (c.filter (·.head? == some '-')).map List.tail ↔ ('-' :: x) ∈ c := by
  simp only [List.mem_map, List.mem_filter, beq_iff_eq]
  constructor
  · rintro ⟨t, ⟨ht, hd⟩, rfl⟩
    obtain ⟨i, rfl⟩ := List.head?_eq_some_iff.mp hd
    exact ht
  · exact fun h => ⟨_, ⟨h, rfl⟩, rfl⟩

/-- the tokens `incremental_expansion_license` rejects as incomplete: `-`, `-@`, `@` -/
def incompleteLic (t : Tok) : Prop := t = ['-'] ∨ t = ['-', '@'] ∨ t = ['@']

theorem wellFormedLic_cons {t : Tok} {ts : List Tok} :
    wellFormedLic (t :: ts) = true ↔ (t ≠ [] ∧ ¬ incompleteLic t) ∧ wellFormedLic ts = true := by
  simp only [wellFormedLic, incompleteLic, List.all_cons, Bool.and_eq_true, Bool.not_eq_true', bne_iff_ne, ne_eq,
    List.isEmpty_eq_false_iff, not_or, and_assoc]

section
variable {licenses : List Tok} {groups : List (Tok × List Tok)} {s : TSet} {l : Tok}

theorem licStep_of_incomplete {t : Tok} (h : incompleteLic t) :
    licStep licenses groups s t = .error .incomplete := by
  rcases h with rfl | rfl | rfl <;> rfl

theorem licStep_clear : licStep licenses groups s ('-' :: star) = .ok [] := rfl

theorem licEffect_clear : licEffect licenses groups l ('-' :: star) = some false := rfl

theorem licStep_negGroup {g : Tok} (hg : g ≠ []) :
    licStep licenses groups s ('-' :: '@' :: g) = .ok (sDiff s (groupGet groups g)) := by
  simp [licStep, star, hg]

theorem licEffect_negGroup (g : Tok) :
    licEffect licenses groups l ('-' :: '@' :: g) = if (groupGet groups g).contains l then some false else none := by
  simp [licEffect, star]

theorem licStep_neg {i : Tok} (hi : i ≠ []) (hs : i ≠ star) (hg : i.head? ≠ some '@') :
    licStep licenses groups s ('-' :: i) = .ok (sDiscard s i) := by
  simp [licStep, hi, hs, hg]

theorem licEffect_neg {i : Tok} (hs : i ≠ star) (hg : i.head? ≠ some '@') :
    licEffect licenses groups l ('-' :: i) = if i = l then some false else none := by
  simp [licEffect, hs, hg]
  rfl  -- what is left are two instances of `Decidable (i = l)`

theorem licStep_group {g : Tok} (hg : g ≠ []) :
    licStep licenses groups s ('@' :: g) = .ok (sUpdate s (groupGet groups g)) := by
  simp [licStep, hg]

theorem licEffect_group (g : Tok) :
    licEffect licenses groups l ('@' :: g) = if (groupGet groups g).contains l then some true else none := by
  simp [licEffect]

theorem licStep_star : licStep licenses groups s star = .ok (sUpdate s licenses) := rfl

theorem licEffect_star : licEffect licenses groups l star = if licenses.contains l then some true else none := rfl

theorem licStep_plain {a : Char} (ha : a ≠ '-') (hg : a ≠ '@') (as : List Char) (hs : a :: as ≠ star) :
    licStep licenses groups s (a :: as) = .ok (sAdd s (a :: as)) := by
  simp [licStep, ha, hg, hs]

theorem licEffect_plain {a : Char} (ha : a ≠ '-') (hg : a ≠ '@') (as : List Char) (hs : a :: as ≠ star) :
    licEffect licenses groups l (a :: as) = if a :: as = l then some true else none := by
  simp [licEffect, ha, hg, hs]

end

theorem licStep_spec (licenses : List Tok) (groups : List (Tok × List Tok)) (s : TSet) {t : Tok} (hne : t ≠ [])
    (hc : ¬ incompleteLic t) :
    ∃ s', licStep licenses groups s t = .ok s' ∧
      ∀ l, (l ∈ s' ↔ after (licEffect licenses groups l t) (l ∈ s)) := by
  rcases tok_shape hne (fun h => hc (Or.inl h)) with ⟨i, hi, rfl⟩ | ⟨a, as, ha, rfl⟩
  · by_cases hs : i = star
    · subst hs
      exact ⟨_, licStep_clear, fun l => by rw [licEffect_clear]; simp [after]⟩
    · by_cases hg : i.head? = some '@'
      · obtain ⟨g, rfl⟩ := List.head?_eq_some_iff.mp hg
        have hg' : g ≠ [] := fun h => hc (Or.inr (Or.inl (by rw [h])))
        refine ⟨_, licStep_negGroup hg', fun l => ?_⟩
        rw [licEffect_negGroup, after_off, mem_sDiff, List.contains_iff_mem]
      · refine ⟨_, licStep_neg hi hs hg, fun l => ?_⟩
        rw [licEffect_neg hs hg, after_off, mem_sDiscard, @eq_comm _ i]
  · by_cases hg : a = '@'
    · subst hg
      have hg' : as ≠ [] := fun h => hc (Or.inr (Or.inr (by rw [h])))
      refine ⟨_, licStep_group hg', fun l => ?_⟩
      rw [licEffect_group, after_on, mem_sUpdate, List.contains_iff_mem]
    · by_cases hs : a :: as = star
      · rw [hs]
        refine ⟨_, licStep_star, fun l => ?_⟩
        rw [licEffect_star, after_on, mem_sUpdate, List.contains_iff_mem]
      · refine ⟨_, licStep_plain ha hg as hs, fun l => ?_⟩
        rw [licEffect_plain ha hg as hs, after_on, mem_sAdd, @eq_comm _ l]

theorem expandLicFrom_spec (licenses : List Tok) (groups : List (Tok × List Tok)) (s : TSet) (toks : List Tok)
    (h : wellFormedLic toks = true) :
    ∃ s', expandLicFrom licenses groups toks s = .ok s' ∧
      ∀ l, (l ∈ s' ↔ after (lastLicEffect licenses groups l toks) (l ∈ s)) := by
  induction toks generalizing s with
  | nil => exact ⟨s, rfl, fun l => by rw [lastLicEffect, after_none]⟩
  | cons t ts ih =>
    obtain ⟨⟨hne, hc⟩, hts⟩ := wellFormedLic_cons.mp h
    obtain ⟨s1, h1, hs1⟩ := licStep_spec licenses groups s hne hc
    obtain ⟨s', h2, hs⟩ := ih s1 hts
    refine ⟨s', by rw [expandLicFrom, h1]; exact h2, fun l => ?_⟩
    rw [hs l, lastLicEffect, after_orElse, hs1 l]

theorem expandLicFrom_append (licenses : List Tok) (groups : List (Tok × List Tok)) (a b : List Tok) (s : TSet) :
    expandLicFrom licenses groups (a ++ b) s =
      (match expandLicFrom licenses groups a s with
       | .error e => .error e
       | .ok s' => expandLicFrom licenses groups b s') := by
  induction a generalizing s with
  | nil => rfl
  | cons t ts ih =>
    rw [List.cons_append, expandLicFrom, expandLicFrom]
    cases licStep licenses groups s t with
    | error e => rfl
    | ok s' => exact ih s'

theorem expand_rejects (fin : Bool) (toks : List Tok) (s : TSet) (hne : ∀ t ∈ toks, t ≠ []) (h : ['-'] ∈ toks) :
    expand fin toks s = .error .incomplete := by
  induction toks generalizing s with
  | nil => cases h
  | cons t ts ih =>
    rw [expand_cons]
    by_cases ht : t = ['-']
    · rw [ht, expandStep_dash]
    · obtain ⟨s', hs'⟩ := expandStep_ok fin s (hne t List.mem_cons_self) ht
      rw [hs']
      exact ih s' (fun x hx => hne x (List.mem_cons_of_mem _ hx)) ((List.mem_cons.mp h).resolve_left (Ne.symm ht))

theorem optLoop_rejects (rest : List Tok) (fin : TSet) (hne : ∀ t ∈ rest, t ≠ []) (h : ['-'] ∈ rest) :
    optLoop rest fin = .error .incomplete := by
  induction rest generalizing fin with
  | nil => cases h
  | cons item rest ih =>
    by_cases hd : item = ['-']
    · rw [hd, optLoop_dash]
    · have hm : ['-'] ∈ rest := (List.mem_cons.mp h).resolve_left (Ne.symm hd)
      have ih := fun fin' => ih fin' (fun x hx => hne x (List.mem_cons_of_mem _ hx)) hm
      by_cases hc : item = clearTok
      · rw [hc, optLoop_clear, if_pos (List.contains_iff_mem.mpr hm)]
      · rcases tok_shape (hne item List.mem_cons_self) hd with ⟨i, hi, rfl⟩ | ⟨a, as, ha, rfl⟩
        · rw [optLoop_neg hi (fun hs => hc (by rw [hs]; rfl)), ih, ih]
          exact ite_self _
        · rw [optLoop_pos ha, ih, ih]
          exact ite_self _

theorem expandLicFrom_rejects (licenses : List Tok) (groups : List (Tok × List Tok)) (toks : List Tok) (s : TSet)
    (hne : ∀ t ∈ toks, t ≠ []) {t' : Tok} (hm : t' ∈ toks) (hb : incompleteLic t') :
    expandLicFrom licenses groups toks s = .error .incomplete := by
  induction toks generalizing s with
  | nil => cases hm
  | cons t ts ih =>
    rw [expandLicFrom]
    by_cases ht : incompleteLic t
    · rw [licStep_of_incomplete ht]
    · obtain ⟨s1, hs1, _⟩ := licStep_spec licenses groups s (hne t List.mem_cons_self) ht
      rw [hs1]
      exact ih s1 (fun x hx => hne x (List.mem_cons_of_mem _ hx))
        ((List.mem_cons.mp hm).resolve_left fun e => ht (e ▸ hb))

theorem expand_congr (toks : List Tok) (s s' : TSet) (h : ∀ f, isFlag f = true → (f ∈ s ↔ f ∈ s')) :
    sameFlags (expand true toks s) (expand true toks s') := by
  induction toks generalizing s s' with
  | nil => exact h
  | cons t ts ih =>
    rw [expand_cons, expand_cons]
    by_cases h1 : t = []
    · rw [h1, expandStep_nil, expandStep_nil]
      exact rfl
    · by_cases h2 : t = ['-']
      · rw [h2, expandStep_dash, expandStep_dash]
        exact rfl
      · obtain ⟨a, ha, hfa⟩ := expandStep_spec s h1 h2
        obtain ⟨b, hb, hfb⟩ := expandStep_spec s' h1 h2
        rw [ha, hb]
        exact ih a b fun f hf => by rw [hfa f hf, hfb f hf, h f hf]

theorem expandStep_preserves_isFlag {s s1 : TSet} {t : Tok} (h : expandStep true s t = .ok s1)
    (hs : ∀ x ∈ s, isFlag x = true) : ∀ x ∈ s1, isFlag x = true := by
  intro x hx
  obtain ⟨hne, hd⟩ := wellFormed_of_expandStep_ok h
  rcases tok_shape hne hd with ⟨i, hi, rfl⟩ | ⟨a, as, ha, rfl⟩
  · rw [expandStep_neg true s hi, if_pos rfl] at h
    cases h
    by_cases hst : i = star
    · rw [if_pos hst] at hx
      cases hx
    · rw [if_neg hst, mem_sDiscard] at hx
      exact hs x hx.1
  · rw [expandStep_pos true s ha] at h
    cases h
    rw [mem_sAdd, mem_sDiscard] at hx
    rcases hx with hx | rfl
    · exact hs x hx.1
    · exact Bool.and_eq_true_iff.mpr ⟨rfl, bne_iff_ne.mpr (head?_ne_dash ha as)⟩

theorem expand_preserves_isFlag (toks : List Tok) (s s' : TSet) (h : expand true toks s = .ok s')
    (hs : ∀ x ∈ s, isFlag x = true) : ∀ x ∈ s', isFlag x = true := by
  induction toks generalizing s with
  | nil => cases h; exact hs
  | cons t ts ih =>
    rw [expand_cons] at h
    cases h1 : expandStep true s t with
    | error e => rw [h1] at h; cases h
    | ok s1 =>
      rw [h1] at h
      exact ih s1 h (expandStep_preserves_isFlag h1 hs)

theorem wellFormed_of_flags (l : List Tok) (h : ∀ x ∈ l, isFlag x = true) : wellFormed l = true := by
  refine List.all_eq_true.mpr fun x hx => (wellFormed_tok x).mpr ⟨?_, flag_ne_dash (h x hx)⟩
  have hf := h x hx
  rw [isFlag, Bool.and_eq_true, Bool.not_eq_true', List.isEmpty_eq_false_iff] at hf
  exact hf.1

theorem expand_of_flags (l : List Tok) (s0 : TSet) (hl : ∀ x ∈ l, isFlag x = true) :
    ∃ s, expand true l s0 = .ok s ∧ ∀ f, isFlag f = true → (f ∈ s ↔ f ∈ s0 ∨ f ∈ l) := by
  obtain ⟨s, hs, hf⟩ := expand_holds l s0 (wellFormed_of_flags l hl)
  refine ⟨s, hs, fun f hff => ?_⟩
  rw [hf f hff, holds_iff, lastEffect_poss f l fun x hx => isFlag_head (hl x hx), after_on]

theorem collapse_defaults_flags (entries : List (RKind × List Tok)) (c : Collapsed)
    (h : collapse true entries = .ok c) : ∀ x ∈ c.defaults, isFlag x = true := by
  unfold collapse at h
  simp only at h
  split at h
  · cases h
  · rename_i d hd
    cases h
    split at hd
    · cases hd
      exact fun _ hx => absurd hx List.not_mem_nil
    · exact expand_preserves_isFlag _ [] d hd fun _ hx => absurd hx List.not_mem_nil

theorem pullData_nil (c : Collapsed) (key : Tok) (order : List Tok) :
    pullData c key [] order = expand true (matching c key) (c.defaults.filter (·.head? != some '-')) := rfl

theorem pullData_pre (c : Collapsed) (key : Tok) (pre order : List Tok) (hp : pre ≠ []) :
    pullData c key pre order = expand true (order ++ matching c key) (sUpdate [] pre) := by
  rw [pullData, if_neg (by rwa [Bool.not_eq_true, List.isEmpty_eq_false_iff]), expand_append]
  rfl

/-- all that matters of `finalize_defaults=True` is that it leaves flags only in the defaults
(`collapse_defaults_flags`) -/
theorem pullData_sameFlags (c : Collapsed) (key : Tok) (pre order : List Tok)
    (hd : ∀ x ∈ c.defaults, isFlag x = true) (hpre : ∀ x ∈ pre, isFlag x = true)
    (hord : ∀ x, x ∈ order ↔ x ∈ c.defaults) :
    sameFlags (pullData c key pre order) (expand true (iterPullData c key pre order) []) := by
  unfold iterPullData
  by_cases hp : pre = []
  · subst hp
    obtain ⟨so, hso, hsof⟩ := expand_of_flags order [] fun x hx => hd x ((hord x).mp hx)
    rw [pullData_nil, List.nil_append, expand_append, hso]
    refine expand_congr _ _ _ fun f hf => ?_
    rw [hsof f hf, hord f, mem_filter_pos hf, or_iff_right List.not_mem_nil]
  · obtain ⟨sp, hsp, hspf⟩ := expand_of_flags pre [] hpre
    rw [pullData_pre c key pre order hp, List.append_assoc, expand_append true pre, hsp]
    refine expand_congr _ _ _ fun f hf => ?_
    rw [hspf f hf, mem_sUpdate]

end Pkgcore.C12
