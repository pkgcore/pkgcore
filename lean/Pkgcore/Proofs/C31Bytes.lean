import Pkgcore.Model.C31
import Pkgcore.Proofs.Lib
/-!
# C31 — bytes, spans and decimal counts

The UTF-8 bytes of a text: `utf8` goes through `++`, leaves ASCII characters as they are and writes every other
character as bytes `≥ 0x80` (`enc_high`), so an ASCII character is among the bytes just when it is in the text
(`mem_utf8_ascii`).  `List.span` is `takeWhile` with `dropWhile` (`span_eq`), so it splits a run followed by a stop
there (`span_append`); `digits` is core's `Nat.toDigits 10` (`digits_eq`), so it writes digits that read back as the
number (`digits_spec`).
-/
namespace Pkgcore.C31

theorem char_eq_of_toNat {a b : Char} (h : a.toNat = b.toNat) : a = b := Char.toNat_inj.1 h

theorem enc_ascii {c : Char} (h : c.toNat < 128) : enc c = [c] := by
  simp [enc, h]

theorem enc_high {c : Char} (h : 128 ≤ c.toNat) : ∀ u ∈ enc c, 128 ≤ u.toNat := by
  have hlt : c.toNat < 0x110000 := by
    rcases c.valid with h | ⟨_, h⟩
    · exact Nat.lt_trans h (by decide)
    · exact h
  -- every byte is a marker `b ≥ 0x80` plus payload bits `q < k` that fit beside it
  have byte : ∀ b q k, 128 ≤ b → q < k → b + k ≤ 256 → 128 ≤ (Char.ofNat (b + q)).toNat :=
    fun b q k hb hq hk => by rw [Lib.char_toNat_ofNat (by omega)]; omega
  have cont : ∀ q, 128 ≤ (Char.ofNat (0x80 + q % 64)).toNat :=
    fun q => byte _ _ 64 (by decide) (Nat.mod_lt _ (by decide)) (by decide)
  intro u hu
  unfold enc at hu
  simp only [show ¬c.toNat < 0x80 by omega, if_false] at hu
  repeat' split at hu
  all_goals simp only [List.mem_cons, List.not_mem_nil, or_false] at hu
  · next h1 =>
    rcases hu with rfl | rfl
    · exact byte _ _ 32 (by decide) (Nat.div_lt_of_lt_mul h1) (by decide)
    · exact cont _
  · next _ h2 =>
    rcases hu with rfl | rfl | rfl
    · exact byte _ _ 16 (by decide) (Nat.div_lt_of_lt_mul h2) (by decide)
    · exact cont _
    · exact cont _
  · rcases hu with rfl | rfl | rfl | rfl
    · exact byte _ _ 5 (by decide) (Nat.div_lt_of_lt_mul (Nat.lt_trans hlt (by decide))) (by decide)
    · exact cont _
    · exact cont _
    · exact cont _

theorem utf8_nil : utf8 [] = [] := rfl
theorem utf8_cons (c : Char) (s : Str) : utf8 (c :: s) = enc c ++ utf8 s := by simp [utf8]
theorem utf8_append (a b : Str) : utf8 (a ++ b) = utf8 a ++ utf8 b := by simp [utf8]

theorem utf8_cons_ascii {c : Char} (h : c.toNat < 128) (s : Str) : utf8 (c :: s) = c :: utf8 s := by
  rw [utf8_cons, enc_ascii h]; rfl

theorem utf8_ascii {s : Str} (h : ∀ c ∈ s, c.toNat < 128) : utf8 s = s := by
  induction s with
  | nil => rfl
  | cons c s ih => rw [utf8_cons_ascii (h c (by simp)), ih fun x hx => h x (by simp [hx])]

theorem mem_utf8_ascii {a : Char} (ha : a.toNat < 128) {s : Str} : a ∈ utf8 s ↔ a ∈ s := by
  induction s with
  | nil => simp [utf8]
  | cons c s ih =>
    rw [utf8_cons, List.mem_append, ih, List.mem_cons]
    by_cases hc : c.toNat < 128
    · rw [enc_ascii hc, List.mem_singleton]
    · refine or_congr_left ⟨fun h => ?_, fun h => ?_⟩
      · have := enc_high (by omega) a h; omega
      · subst h; omega

theorem span_eq (p : Char → Bool) (l : Str) : l.span p = (l.takeWhile p, l.dropWhile p) := by
  suffices ∀ acc, List.span.loop p l acc = (acc.reverse ++ l.takeWhile p, l.dropWhile p) from this []
  induction l with
  | nil => simp [List.span.loop]
  | cons x l ih => intro acc; cases h : p x <;> simp [List.span.loop, List.takeWhile, List.dropWhile, h, ih]

theorem span_append {p : Char → Bool} (a : Str) (c : Char) (r : Str)
    (ha : ∀ x ∈ a, p x = true) (hc : p c = false) : (a ++ c :: r).span p = (a, c :: r) := by
  rw [span_eq, Lib.takeWhile_append_stop r ha hc, Lib.dropWhile_append_stop r ha hc]

theorem span_all {p : Char → Bool} (a : Str) (ha : ∀ x ∈ a, p x = true) : a.span p = (a, []) := by
  rw [span_eq, Lib.takeWhile_all ha, Lib.dropWhile_all ha]

theorem digitChar_eq {d : Nat} (h : d < 10) : Char.ofNat (48 + d) = d.digitChar :=
  Char.toNat_inj.1 (by rw [Nat.toNat_digitChar_of_lt_ten h, Lib.char_toNat_ofNat (by omega)])

theorem digits_eq (n : Nat) : digits n = Nat.toDigits 10 n := by
  induction n using digits.induct with
  | case1 n h => rw [digits, if_pos h, Nat.toDigits_of_lt_base h, digitChar_eq h]
  | case2 n h ih =>
    rw [digits, if_neg h, ih, Nat.toDigits_of_base_le (n := n) (by decide) (Nat.le_of_not_lt h),
      digitChar_eq (Nat.mod_lt _ (by decide))]

theorem natOfDigits_snoc (a : Str) (c : Char) : natOfDigits (a ++ [c]) = 10 * natOfDigits a + (c.toNat - 48) := by
  simp [natOfDigits, List.foldl_append]

theorem digits_spec (n : Nat) :
    (∀ c ∈ digits n, c.isDigit = true) ∧ digits n ≠ [] ∧ natOfDigits (digits n) = n := by
  rw [digits_eq]
  refine ⟨fun c hc => Nat.isDigit_of_mem_toDigits (by decide) (by decide) hc, Nat.toDigits_ne_nil, ?_⟩
  have := Nat.ofDigitChars_ten_toDigits (n := n)
  rwa [Nat.ofDigitChars_eq_foldl] at this

theorem digits_zero_iff (n : Nat) : digits n = ['0'] ↔ n = 0 := by
  constructor
  · intro h
    have := (digits_spec n).2.2
    rw [h] at this
    simpa [natOfDigits] using this.symm
  · rintro rfl
    rw [digits]
    rfl

theorem isDigit_ascii {c : Char} (h : c.isDigit = true) : c.toNat < 128 :=
  Nat.lt_of_le_of_lt (Char.isDigit_iff_toNat.1 h).2 (by decide)

theorem utf8_digits (n : Nat) : utf8 (digits n) = digits n :=
  utf8_ascii fun c hc => isDigit_ascii ((digits_spec n).1 c hc)

end Pkgcore.C31
