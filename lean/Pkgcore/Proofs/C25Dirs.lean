import Pkgcore.Spec.C25
import Pkgcore.Proofs.C24Text
/-! # C25: `dirname` and `add_missing_directories`

`dirName` cuts a location back to a prefix, a shorter one unless the location is `/` or empty (`dirName_prefix`,
`dirName_length`); the rounds of `missingDirs` find exactly the ancestors of the entries (`Spec.ancestors`: `dirName`
iterated) that are neither entries themselves nor `/` nor empty (`missingDirs_spec`, about their result `addedDirs`). -/
namespace Pkgcore.C25
open Pkgcore.C24 Pkgcore.C25.Spec

theorem joinWith_dropLast (sep : Char) (comps : List Str) (h : 2 ≤ comps.length) :
    ∃ last, joinWith sep comps = joinWith sep comps.dropLast ++ sep :: last := by
  have hne : comps ≠ [] := fun e => by rw [e] at h; exact absurd h (by decide)
  have hd : comps.dropLast ≠ [] := fun e => by
    have := congrArg List.length e
    rw [List.length_dropLast, List.length_nil] at this
    omega
  refine ⟨comps.getLast hne, ?_⟩
  conv => lhs; rw [← List.dropLast_concat_getLast hne]
  rw [joinWith_eq_core, joinWith_eq_core, Lib.intercalate_append sep hd (List.cons_ne_nil _ _),
    List.intercalate_singleton]

/-- `dirName` unfolded once, as much as `dirName_prefix` and `dirName_length` need -/
theorem dirName_split (p : Str) :
    dirName p = [] ∨
      ∃ head last, p = head ++ '/' :: last ∧ (dirName p <+: head ∨ (head = [] ∧ dirName p = ['/'])) := by
  unfold dirName
  simp only
  split
  · exact .inl rfl
  · rename_i hlen
    obtain ⟨last, hl⟩ := joinWith_dropLast '/' (splitOn '/' p) (by omega)
    rw [joinWith_splitOn] at hl
    refine .inr ⟨_, last, hl, ?_⟩
    split
    · split
      · rename_i hemp; exact .inr ⟨by simpa using hemp, rfl⟩
      · exact .inl (List.prefix_refl _)
    · exact .inl (Lib.rstrip_prefix _)

theorem dirName_prefix (p : Str) : dirName p <+: p := by
  rcases dirName_split p with h | ⟨head, last, rfl, h | ⟨rfl, h⟩⟩
  · rw [h]; exact List.nil_prefix
  · exact h.trans (List.prefix_append _ _)
  · rw [h]; exact ⟨last, rfl⟩

theorem dirName_length (p : Str) (h1 : p ≠ []) (h2 : p ≠ ['/']) : (dirName p).length < p.length := by
  rcases dirName_split p with h | ⟨head, last, rfl, h | ⟨rfl, h⟩⟩
  · rw [h]; exact List.length_pos_iff.mpr h1
  · have := h.length_le
    rw [List.length_append, List.length_cons]; omega
  · rw [h]
    cases last with
    | nil => exact absurd rfl h2
    | cons c cs => simp

theorem dirNameN_add (a b : Nat) (p : Str) : dirNameN a (dirNameN b p) = dirNameN (a + b) p := by
  induction a with
  | zero => simp [dirNameN]
  | succ a ih => rw [show a + 1 + b = (a + b) + 1 by omega]; simp only [dirNameN, ih]

theorem dirName_root : dirName ['/'] = ['/'] := by decide
theorem dirName_nil : dirName [] = [] := by decide

theorem dirNameN_fixed (k : Nat) (p : Str) (h : dirName p = p) : dirNameN k p = p := by
  induction k with
  | zero => rfl
  | succ k ih => simp only [dirNameN, ih, h]

theorem dirNameN_length (k : Nat) (q : Str) (h1 : dirNameN k q ≠ []) (h2 : dirNameN k q ≠ ['/']) :
    (dirNameN k q).length + k ≤ q.length := by
  induction k with
  | zero => simp [dirNameN]
  | succ k ih =>
    simp only [dirNameN] at h1 h2 ⊢
    have r1 : dirNameN k q ≠ [] := fun e => h1 (by rw [e]; exact dirName_nil)
    have r2 : dirNameN k q ≠ ['/'] := fun e => h2 (by rw [e]; exact dirName_root)
    have := dirName_length _ r1 r2
    have := ih r1 r2
    omega

theorem mem_ancestors (p q : Str) : p ∈ ancestors q ↔ ∃ j, j < q.length ∧ p = dirNameN (j + 1) q := by
  unfold ancestors
  rw [List.mem_map]
  constructor
  · rintro ⟨j, hj, rfl⟩; exact ⟨j, List.mem_range.mp hj, rfl⟩
  · rintro ⟨j, hj, rfl⟩; exact ⟨j, List.mem_range.mpr hj, rfl⟩

theorem ancestors_prefix {p q : Str} (h : p ∈ ancestors q) : p <+: q := by
  obtain ⟨j, -, rfl⟩ := (mem_ancestors p q).mp h
  generalize j + 1 = k
  induction k with
  | zero => exact List.prefix_refl _
  | succ k ih => exact (dirName_prefix _).trans ih

theorem le_maxLocLen (t : List Obj) (e : Obj) (h : e ∈ t) : e.loc.length ≤ maxLocLen t := by
  induction t with
  | nil => simp at h
  | cons x r ih =>
    simp only [maxLocLen, List.foldr_cons]
    rcases List.mem_cons.mp h with h | h
    · rw [h]; exact Nat.le_max_left _ _
    · exact Nat.le_trans (ih h) (Nat.le_max_right _ _)

theorem nodup_eraseDups {α : Type} [BEq α] [LawfulBEq α] : ∀ (l : List α), l.eraseDups.Nodup
  | [] => by simp
  | a :: as => by
    rw [List.eraseDups_cons]
    refine List.nodup_cons.mpr ⟨?_, nodup_eraseDups (as.filter fun b => !(b == a))⟩
    intro h
    have := List.mem_eraseDups.mp h
    simp at this
termination_by l => l.length
decreasing_by
  simp only [List.length_cons]
  exact Nat.lt_succ_of_le (List.length_filter_le _ _)

/-- the `missing` of one round of `missingDirs` -/
def roundMissing (t : List Obj) : List Str :=
  ((t.map fun x => dirName x.loc).filter fun p => !(t.any (·.loc == p)) && p != ['/'] && !p.isEmpty).eraseDups

theorem missingDirs_succ (fuel : Nat) (t : List Obj) :
    missingDirs (fuel + 1) t = if (roundMissing t).isEmpty then []
      else roundMissing t ++ missingDirs fuel (t ++ (roundMissing t).map newDir) := rfl

theorem mem_roundMissing (t : List Obj) (p : Str) :
    p ∈ roundMissing t ↔ (∃ e ∈ t, p = dirName e.loc) ∧ p ∉ t.map Obj.loc ∧ p ≠ ['/'] ∧ p ≠ [] := by
  simp only [roundMissing, List.mem_eraseDups, List.mem_filter, List.mem_map, Bool.and_eq_true, Bool.not_eq_true',
    List.any_eq_false, beq_iff_eq, bne_iff_ne, ne_eq, List.isEmpty_eq_false_iff, not_exists, not_and, and_assoc]
  exact and_congr (exists_congr fun e => and_congr_right fun _ => eq_comm) Iff.rfl

theorem mem_missingDirs_succ (fuel : Nat) (t : List Obj) (p : Str) :
    p ∈ missingDirs (fuel + 1) t ↔
      p ∈ roundMissing t ∨
        (roundMissing t ≠ [] ∧ p ∈ missingDirs fuel (t ++ (roundMissing t).map newDir)) := by
  rw [missingDirs_succ]
  cases roundMissing t <;> simp [or_assoc]

theorem missingDirs_sound (fuel : Nat) (t : List Obj) (p : Str) (h : p ∈ missingDirs fuel t) :
    p ∉ t.map Obj.loc ∧ p ≠ ['/'] ∧ p ≠ [] ∧ ∃ e ∈ t, ∃ j, p = dirNameN (j + 1) e.loc := by
  induction fuel generalizing t with
  | zero => cases h
  | succ fuel ih =>
    rcases (mem_missingDirs_succ fuel t p).mp h with h | ⟨-, h⟩
    · obtain ⟨⟨e, he, rfl⟩, hno, h1, h2⟩ := (mem_roundMissing t p).mp h
      exact ⟨hno, h1, h2, e, he, 0, rfl⟩
    · obtain ⟨hno, h1, h2, e, he, j, hj⟩ := ih _ h
      refine ⟨fun hm => hno (by rw [List.map_append]; exact List.mem_append_left _ hm), h1, h2, ?_⟩
      rcases List.mem_append.mp he with he | he
      · exact ⟨e, he, j, hj⟩
      · -- a directory added in this round is the parent of an entry
        obtain ⟨q, hq, rfl⟩ := List.mem_map.mp he
        obtain ⟨⟨e', he', rfl⟩, -⟩ := (mem_roundMissing t q).mp hq
        exact ⟨e', he', j + 1, hj.trans (dirNameN_add (j + 1) 1 e'.loc)⟩

/-- the `j + 1`-th ancestor of an entry is found within `j + 1` rounds: either its parent is an entry, or the
first round adds the parent, which then is an entry -/
theorem missingDirs_complete (j : Nat) : ∀ (fuel : Nat) (t : List Obj) (e : Obj) (p : Str), e ∈ t → j ≤ fuel →
    p = dirNameN (j + 1) e.loc → p ∉ t.map Obj.loc → p ≠ ['/'] → p ≠ [] →
    p ∈ missingDirs (fuel + 1) t := by
  induction j with
  | zero =>
    intro fuel t e p he _ hp hno h1 h2
    exact (mem_missingDirs_succ fuel t p).mpr (.inl ((mem_roundMissing t p).mpr ⟨⟨e, he, hp⟩, hno, h1, h2⟩))
  | succ j ih =>
    intro fuel t e p he hf hp hno h1 h2
    replace hp : p = dirNameN (j + 1) (dirName e.loc) := hp.trans (dirNameN_add (j + 1) 1 e.loc).symm
    by_cases hq : dirName e.loc ∈ t.map Obj.loc
    · obtain ⟨e', he', hl⟩ := List.mem_map.mp hq
      exact ih fuel t e' p he' (by omega) (hl ▸ hp) hno h1 h2
    · have hm : dirName e.loc ∈ roundMissing t := (mem_roundMissing t _).mpr
        ⟨⟨e, he, rfl⟩, hq, fun e1 => h1 (by rw [hp, e1]; exact dirNameN_fixed _ _ dirName_root),
          fun e2 => h2 (by rw [hp, e2]; exact dirNameN_fixed _ _ dirName_nil)⟩
      refine (mem_missingDirs_succ fuel t p).mpr ?_
      by_cases hpm : p ∈ roundMissing t
      · exact .inl hpm
      · obtain ⟨fuel, rfl⟩ : ∃ f', fuel = f' + 1 := ⟨fuel - 1, by omega⟩
        refine .inr ⟨List.ne_nil_of_mem hm, ih fuel _ (newDir (dirName e.loc)) p
          (List.mem_append_right _ (List.mem_map_of_mem hm)) (by omega) hp ?_ h1 h2⟩
        rw [List.map_append, List.map_map, show (Obj.loc ∘ newDir) = id from rfl, List.map_id]
        exact fun hmem => (List.mem_append.mp hmem).elim hno hpm

/-- the directories `add_missing_directories` creates for the set `t` -/
def addedDirs (t : List Obj) : List Str := (missingDirs (maxLocLen t + 1) t).eraseDups

theorem nodup_addedDirs (t : List Obj) : (addedDirs t).Nodup := nodup_eraseDups _

theorem missingDirs_spec (t : List Obj) (p : Str) :
    p ∈ addedDirs t ↔ p ∉ t.map Obj.loc ∧ p ≠ ['/'] ∧ p ≠ [] ∧ ∃ e ∈ t, p ∈ ancestors e.loc := by
  rw [addedDirs, List.mem_eraseDups]
  constructor
  · intro h
    obtain ⟨hno, h1, h2, e, he, j, hj⟩ := missingDirs_sound _ t p h
    refine ⟨hno, h1, h2, e, he, (mem_ancestors p e.loc).mpr ⟨j, ?_, hj⟩⟩
    have := dirNameN_length (j + 1) e.loc (by rw [← hj]; exact h2) (by rw [← hj]; exact h1)
    omega
  · rintro ⟨hno, h1, h2, e, he, ha⟩
    obtain ⟨j, hj, rfl⟩ := (mem_ancestors p e.loc).mp ha
    exact missingDirs_complete j _ t e _ he (by have := le_maxLocLen t e he; omega) rfl hno h1 h2

end Pkgcore.C25
