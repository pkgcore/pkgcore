import Pkgcore.Proofs.C03Ver
import Pkgcore.Proofs.C03Use
import Pkgcore.Proofs.C03Cpv
import Pkgcore.Proofs.C03Slot
import Pkgcore.Proofs.C02
import Pkgcore.Spec.C04
/-!
# C03 — assembling the phases: `parseWith` accepts exactly the renderings of well-formed records

`parseWith_eq` writes `parseWith` as a chain of stages; the rendered text is cut the same way (`render_eq`, into
`blockTxt`, `opWrap`, `renderSlot`, `repoTxt`, `renderUse`; of a well-formed record the slot and USE pieces are
`slotPartTxt` and `useTxt`: `renderSlot_eq`, `renderUse_of_split`).  Each stage has a `_complete` lemma (on its piece
of a rendered well-formed record it returns that record's attributes) and a `_sound` lemma (its input is the piece for
what it returned), or an iff: USE in C03Use, slot and repo in C03Slot, `cpvstr` in C03Cpv, blockers, operator and the
final operator/version check here; `parseWith_complete` and `parseWith_sound` chain them.  After them: `norm` is
idempotent and keeps `WF0`, the passage between the two dialects of the grammar (with the package name `b-1A` on which
they differ), and the evaluation helpers of the test vectors.
-/
namespace Pkgcore.C03
open Pkgcore.C01 Pkgcore.C01.Spec Pkgcore.C02 Pkgcore.C03.Spec

/-- the end of `parseWith` -/
def vopStage (op : Option Op) (vr : Option (Ver × Str)) : Except Err (Option (Op × Ver × Str)) :=
  match op, vr with
  | some op, some (v, r) => if op = .tilde ∧ !r.isEmpty then .error .tildeRev else .ok (some (op, v, r))
  | none, none => .ok none
  | some _, none => .error .cpvNoVersion
  | none, some _ => .error .cpvVersion

/-- the record `parseWith` returns (`negate_vers` is not syntax) -/
def mkAtom (cat pkg : Str) (vop : Option (Op × Ver × Str)) (blocks strong : Bool) (si : SlotInfo)
    (use : Option (List Str)) : Atom :=
  { cat := cat, pkg := pkg, vop := vop, blocks := blocks, strong := strong, negate := false,
    slot := si.slot, subslot := si.subslot, slotOp := si.slotOp, use := use, repo := si.repo }

def blockTxt (b st : Bool) (s : Str) : Str := if b then (if st then '!' :: '!' :: s else '!' :: s) else s

/-- `cpvstr` with its operator -/
def opWrap (op : Option Op) (c : Str) : Str :=
  match op with
  | some .glob => '=' :: c ++ ['*']
  | some o => o.str ++ c
  | none => c

theorem parseWith_eq (o : Opts) (rOk : Bool) (s : Str) :
    parseWith o rOk s =
      if s.isEmpty then .error .empty else
      (splitUse s).bind fun (t, useBody) =>
      (useStage o useBody).bind fun use =>
      (slotStage o useBody.isSome t).bind fun (t', si) =>
      (parseBlocks o t').bind fun (b, st, t'') =>
      (parseOp t'').bind fun (op, cpvstr) =>
      if si.slot.isSome && !o.hasSlotDeps then .error .slotEapi
      else if use.isSome && !o.hasUseDeps then .error .useEapi
      else if !rOk && si.repo.isSome then .error .repoEapi
      else
        (parseCpv op.isSome cpvstr).bind fun (cat, pkg, vr) =>
        (vopStage op vr).bind fun vop => .ok (mkAtom cat pkg vop b st si use) := by
  -- different auxiliary matchers on the two sides, as in `checkUseTok_eq`
  set_option smartUnfolding false in rfl

/-- the EAPI gates of `parseWith` are written `b && !c` ("feature used and not available"); the third one, for the
repo id, has the operands the other way round -/
theorem and_not_eq_false_iff (b c : Bool) : (b && !c) = false ↔ (b = true → c = true) := by
  cases b <;> cases c <;> decide

theorem not_and_eq_false_iff (b c : Bool) : (!c && b) = false ↔ (b = true → c = true) :=
  Bool.and_comm _ _ ▸ and_not_eq_false_iff b c

theorem parseBlocks_complete {o : Opts} {b st : Bool} {x : Char} {t : Str} (hx : x ≠ '!')
    (hst : st = true → b = true ∧ o.strongBlockers = true) :
    parseBlocks o (blockTxt b st (x :: t)) = .ok (b, st, x :: t) := by
  cases b <;> cases st
  · simp [blockTxt, parseBlocks, hx]
  · exact absurd (hst rfl).1 (by simp)
  · simp [blockTxt, parseBlocks, hx]
  · simp [blockTxt, parseBlocks, (hst rfl).2]

theorem parseBlocks_sound {o : Opts} {t t' : Str} {b st : Bool} (h : parseBlocks o t = .ok (b, st, t')) :
    t = blockTxt b st t' ∧ (st = true → b = true ∧ o.strongBlockers = true) := by
  unfold parseBlocks at h
  split at h
  · cases h
  · split at h
    · cases h
    · rename_i hs
      simp only [Except.ok.injEq, Prod.mk.injEq] at h
      obtain ⟨rfl, rfl, rfl⟩ := h
      refine ⟨by simp [blockTxt], fun _ => ⟨rfl, ?_⟩⟩
      cases ho : o.strongBlockers <;> simp_all
  · simp only [Except.ok.injEq, Prod.mk.injEq] at h
    obtain ⟨rfl, rfl, rfl⟩ := h
    exact ⟨by simp [blockTxt], fun h => by cases h⟩
  · simp only [Except.ok.injEq, Prod.mk.injEq] at h
    obtain ⟨rfl, rfl, rfl⟩ := h
    exact ⟨by simp [blockTxt], fun h => by cases h⟩

theorem parseOp_eqSign (r : Str) :
    parseOp ('=' :: r) =
      if ('=' :: r).getLast? = some '*' then .ok (some .glob, r.dropLast) else .ok (some .eq, r) := by
  rfl

theorem parseOp_complete {op : Option Op} {x : Char} {t : Str} (h1 : x ≠ '<') (h2 : x ≠ '>') (h3 : x ≠ '=')
    (h4 : x ≠ '~') (hl : (x :: t).getLast? ≠ some '*') : parseOp (opWrap op (x :: t)) = .ok (op, x :: t) := by
  cases op with
  | none => simp [opWrap, parseOp, h1, h2, h3, h4]
  | some o =>
    cases o
    · simp [opWrap, Op.str, parseOp, h3]
    · simp [opWrap, Op.str, parseOp]
    · have : ('=' :: x :: t).getLast? ≠ some '*' := by rw [List.getLast?_cons_cons]; exact hl
      show parseOp ('=' :: x :: t) = _
      rw [parseOp_eqSign, if_neg this]
    · have : ('=' :: ((x :: t) ++ ['*'])).getLast? = some '*' := by
        rw [show '=' :: ((x :: t) ++ ['*']) = ('=' :: x :: t) ++ ['*'] from rfl, List.getLast?_concat]
      show parseOp ('=' :: ((x :: t) ++ ['*'])) = _
      rw [parseOp_eqSign, if_pos this, List.dropLast_concat]
    · simp [opWrap, Op.str, parseOp]
    · simp [opWrap, Op.str, parseOp, h3]
    · simp [opWrap, Op.str, parseOp]

theorem parseOp_sound {t c : Str} {op : Option Op} (h : parseOp t = .ok (op, c)) : t = opWrap op c := by
  unfold parseOp at h
  split at h
  · cases h
  · cases h; rfl
  · cases h; rfl
  · cases h; rfl
  · cases h; rfl
  · rename_i r
    split at h
    · rename_i hl
      cases h
      cases r with
      | nil => cases hl
      | cons y ys =>
        exact congrArg ('=' :: ·) (Lib.eq_dropLast_append_of_getLast? (List.getLast?_cons_cons.symm.trans hl))
    · cases h; rfl
  · cases h; rfl
  · cases h; rfl

theorem vopStage_iff {op : Option Op} {vr : Option (Ver × Str)} {vop : Option (Op × Ver × Str)} :
    vopStage op vr = .ok vop ↔
      op = vop.map (·.1) ∧ vr = vop.map (·.2) ∧ ∀ o v r, vop = some (o, v, r) → o = .tilde → r = [] := by
  constructor
  · intro h
    cases op with
    | none =>
      cases vr with
      | none =>
        cases h
        exact ⟨rfl, rfl, fun _ _ _ e => nomatch e⟩
      | some q => cases h
    | some o =>
      cases vr with
      | none => cases h
      | some q =>
        obtain ⟨v, r⟩ := q
        by_cases hc : o = .tilde ∧ (!r.isEmpty) = true
        · rw [vopStage, if_pos hc] at h
          cases h
        · rw [vopStage, if_neg hc] at h
          cases h
          refine ⟨rfl, rfl, fun o' v' r' e ht => ?_⟩
          cases e
          cases r with
          | nil => rfl
          | cons c cs => exact absurd ⟨ht, rfl⟩ hc
  · rintro ⟨rfl, rfl, h⟩
    cases vop with
    | none => rfl
    | some q =>
      obtain ⟨o, v, r⟩ := q
      exact if_neg fun ⟨ht, hr⟩ => by rw [h o v r rfl ht] at hr; cases hr

theorem render_eq (a : Atom) :
    render a = blockTxt a.blocks a.strong (opWrap (a.vop.map (·.1)) (cpvText a)) ++ renderSlot a ++
      repoTxt (truthy a.repo) ++ renderUse a := by
  unfold render blockTxt opWrap
  cases hv : a.vop with
  | none => rfl
  | some q =>
    obtain ⟨op, v, r⟩ := q
    cases op <;> rfl

theorem truthy_of_ne {s : Str} (h : s ≠ []) : truthy (some s) = some s := by
  cases s with
  | nil => exact absurd rfl h
  | cons c cs => rfl

/-- what can occur in operator and `cpvstr` besides letters and digits -/
def opExtra : List Char := ['+', '_', '.', '-', '/', '<', '>', '=', '~', '*']

theorem opWrap_ne_nil {op : Option Op} {c : Str} (h : c ≠ []) : opWrap op c ≠ [] := by
  unfold opWrap
  split
  · exact List.append_ne_nil_of_left_ne_nil (List.cons_ne_nil _ _) _
  · exact List.append_ne_nil_of_right_ne_nil _ h
  · exact h

theorem opWrap_chars {op : Option Op} {s : Str} (h : nameChars opExtra s = true) :
    nameChars opExtra (opWrap op s) = true := by
  unfold opWrap
  split
  · rw [nameChars_append, nameChars_cons, h]
    rfl
  · rename_i o _
    rw [nameChars_append, h, Bool.and_true]
    cases o <;> rfl
  · exact h

theorem blockTxt_chars {b st : Bool} {s : Str} (h : nameChars opExtra s = true) :
    nameChars ('!' :: opExtra) (blockTxt b st s) = true := by
  have h0 : nameChars ('!' :: opExtra) s = true := nameChars_mono (fun _ => List.mem_cons_of_mem _) h
  have h1 : nameChars ('!' :: opExtra) ('!' :: s) = true := by
    rw [nameChars_cons, h0]
    rfl
  unfold blockTxt
  split
  · split
    · rw [nameChars_cons, h1]
      rfl
    · exact h1
  · exact h0

theorem cpvText_chars {a : Atom} (hc : catOk a.cat = true) (hp : pkgOk lenient a.pkg) (hv : vopOk lenient a.vop) :
    nameChars ['+', '_', '.', '-', '/'] (cpvText a) = true := by
  obtain ⟨_, _, _, hcat, _⟩ := nameOk_iff.mp hc
  unfold cpvText
  rw [nameChars_append, nameChars_append, nameChars_cons, nameChars_mono (by decide) hcat,
    nameChars_mono (by decide) (pkgOk_chars hp)]
  cases hvop : a.vop with
  | none => rfl
  | some q =>
    obtain ⟨op, v, r⟩ := q
    rw [hvop] at hv
    show (_ && nameChars _ ('-' :: C01.render v ++ revText r)) = true
    rw [nameChars_append, nameChars_cons, nameChars_mono (by decide) (verText_chars ((verOk_lenient_iff v).mp hv.1)),
      nameChars_mono (by decide) (revText_chars hv.2.1)]
    rfl

/-- `cpvstr` begins with the first character of the category, which is alphanumeric or `_`; said as "it is no other
character", which is how `parseOp_complete` asks for it (of the operator characters) -/
theorem cpvText_head {a : Atom} (hc : catOk a.cat = true) :
    ∃ x t, cpvText a = x :: t ∧ ∀ c, c.isAlphanum = false → c ≠ '_' → x ≠ c := by
  obtain ⟨x, xs, hcat, hcl, hbad⟩ := nameOk_iff.mp hc
  refine ⟨x, _, by rw [cpvText, hcat]; rfl, ?_⟩
  rintro c hc1 hc2 rfl
  rw [hcat, nameChars_cons, hc1, Bool.false_or, Bool.and_eq_true, List.contains_iff_mem] at hcl
  simp only [List.mem_cons, List.not_mem_nil, or_false, not_or] at hcl hbad
  rcases hcl.1 with h | h | h | h
  · exact hbad.2.2 h
  · exact hc2 h
  · exact hbad.2.1 h
  · exact hbad.1 h

theorem slotPartTxt_chars {d : Dialect} {o : Opts} {sl ss op : Option Str} (h : slotOk' d o sl ss op) :
    nameChars (':' :: '!' :: opExtra) (slotPartTxt sl ss op) = true := by
  unfold slotPartTxt
  split
  · rfl
  · rw [nameChars_cons, nameChars_mono (by decide) (slotTxt_chars h)]
    rfl

theorem repoTxt_chars {repo : Option Str} (h : ∀ r, repo = some r → repoNameOk r = true) :
    nameChars (':' :: '!' :: opExtra) (repoTxt repo) = true := by
  cases repo with
  | none => rfl
  | some r =>
    obtain ⟨_, _, _, hr, _⟩ := nameOk_iff.mp (h r rfl)
    rw [repoTxt, nameChars_cons, nameChars_cons, nameChars_mono (by decide) hr]
    rfl

theorem parseWith_complete {o : Opts} {rOk : Bool} {a : Atom} (h : WF0 lenient o rOk a) :
    parseWith o rOk (render a) = .ok (norm a) := by
  -- `h1` … `h10` say what the stages of `parseWith_eq`, in their order, return on their piece of `render a`; `h0` is
  -- its emptiness test
  obtain ⟨hcat, hpkg, hvop, hstrong, hneg, hslot, hrepo, huse⟩ := h
  rw [slotOk_eq] at hslot
  have hrepo' : ∀ r, a.repo = some r → repoNameOk r = true := fun r hr => by rw [hr] at hrepo; exact hrepo.2
  obtain ⟨x, t, hcpv, hxa⟩ := cpvText_head hcat
  have hcpvChars := cpvText_chars hcat hpkg hvop
  let op : Option Op := a.vop.map (·.1)
  let core := blockTxt a.blocks a.strong (opWrap op (cpvText a))
  have hop : nameChars opExtra (opWrap op (cpvText a)) = true := opWrap_chars (nameChars_mono (by decide) hcpvChars)
  have hcore : nameChars ('!' :: opExtra) core = true := blockTxt_chars hop
  have hrender : render a = core ++ slotPartTxt a.slot a.subslot a.slotOp ++ repoTxt a.repo ++ renderUse a := by
    rw [render_eq, renderSlot_eq a hslot, repoTxt_truthy _ hrepo']
  -- the USE part is everything from the first `[`
  have hpre : '[' ∉ core ++ slotPartTxt a.slot a.subslot a.slotOp ++ repoTxt a.repo := by
    refine not_mem_of_nameChars (extra := ':' :: '!' :: opExtra) ?_ (by decide) (by decide)
    rw [nameChars_append, nameChars_append, nameChars_mono (fun _ => List.mem_cons_of_mem _) hcore,
      slotPartTxt_chars hslot, repoTxt_chars hrepo']
    rfl
  have huse' : match a.use with | none => True | some u => u ≠ [] ∧ ∀ t ∈ u, useTokOk o t := by
    cases hu : a.use with
    | none => trivial
    | some u =>
      rw [hu] at huse
      exact huse.2
  obtain ⟨useBody, h1, h2⟩ := splitUse_useStage_complete hpre huse'
  -- the slot part is everything from the first `:` of the rest
  have h3 := slotStage_complete (not_mem_of_nameChars hcore (by decide) (by decide)) hslot hrepo' useBody.isSome
  -- the text after the blockers starts with an operator character or the category
  have h4 : parseBlocks o core = .ok (a.blocks, a.strong, opWrap op (cpvText a)) := by
    obtain ⟨y, r, hy⟩ := List.exists_cons_of_ne_nil (opWrap_ne_nil (op := op) (hcpv ▸ List.cons_ne_nil x t))
    have hy2 : y ≠ '!' := fun e =>
      not_mem_of_nameChars hop (x := '!') (by decide) (by decide) (hy ▸ e ▸ List.mem_cons_self)
    show parseBlocks o (blockTxt _ _ _) = _
    rw [hy]
    exact parseBlocks_complete hy2 hstrong
  have h5 : parseOp (opWrap op (cpvText a)) = .ok (op, cpvText a) := by
    rw [hcpv]
    refine parseOp_complete (hxa '<' (by decide) (by decide)) (hxa '>' (by decide) (by decide))
      (hxa '=' (by decide) (by decide)) (hxa '~' (by decide) (by decide)) fun hl => ?_
    exact not_mem_of_nameChars hcpvChars (by decide) (by decide) (hcpv ▸ List.mem_of_getLast? hl)
  have h6 : (a.slot.isSome && !o.hasSlotDeps) = false := (and_not_eq_false_iff _ _).mpr fun hs => by
    obtain ⟨s, hsl⟩ := Option.isSome_iff_exists.mp hs
    rw [hsl] at hslot
    exact hslot.1
  have h7 : ((a.use.map sortUse).isSome && !o.hasUseDeps) = false := (and_not_eq_false_iff _ _).mpr fun hs => by
    obtain ⟨u, hu⟩ := Option.isSome_iff_exists.mp (Option.isSome_map ▸ hs)
    rw [hu] at huse
    exact huse.1
  have h8 : (!rOk && a.repo.isSome) = false := (not_and_eq_false_iff _ _).mpr fun hs => by
    obtain ⟨r, hr⟩ := Option.isSome_iff_exists.mp hs
    rw [hr] at hrepo
    exact hrepo.1
  have h9 : parseCpv op.isSome (cpvText a) = .ok (a.cat, a.pkg, a.vop.map (·.2)) :=
    parseCpv_iff.mpr ⟨hcat, hpkg, Option.isSome_map.trans Option.isSome_map.symm, cpvText_eq a, fun v r e => by
      cases hv : a.vop with
      | none =>
        rw [hv] at e
        cases e
      | some q =>
        obtain ⟨o', v', r'⟩ := q
        rw [hv] at e hvop
        cases e
        exact ⟨hvop.1, hvop.2.1⟩⟩
  have h10 : vopStage op (a.vop.map (·.2)) = .ok a.vop :=
    vopStage_iff.mpr ⟨rfl, rfl, fun o' v r e => by rw [e] at hvop; exact hvop.2.2⟩
  have h0 : (core ++ slotPartTxt a.slot a.subslot a.slotOp ++ repoTxt a.repo ++ renderUse a).isEmpty = false := by
    cases hc : core with
    | nil =>
      rw [hc] at h4
      cases h4
    | cons _ _ => rfl
  rw [hrender, parseWith_eq]
  simp only [h0, h1, h2, h3, h4, h5, h6, h7, h8, h9, h10, Bool.false_eq_true, if_false, Except.bind]
  rw [mkAtom, norm, ← hneg]

theorem parseWith_sound {o : Opts} {rOk : Bool} {s : Str} {a : Atom} (h : parseWith o rOk s = .ok a) :
    ∃ a0, WF0 lenient o rOk a0 ∧ render a0 = s ∧ norm a0 = a := by
  -- `h1` … `h10`: the stages of `parseWith_eq`, in their order, have succeeded; `e1` … `e5` and the `_iff`s read each
  -- back as a piece of the text
  rw [parseWith_eq] at h
  by_cases h0 : s.isEmpty = true
  · rw [if_pos h0] at h
    cases h
  rw [if_neg h0] at h
  obtain ⟨⟨t, useBody⟩, h1, h⟩ := Lib.bind_eq_ok h
  obtain ⟨use, h2, h⟩ := Lib.bind_eq_ok h
  obtain ⟨⟨t', si⟩, h3, h⟩ := Lib.bind_eq_ok h
  obtain ⟨⟨b, st, t''⟩, h4, h⟩ := Lib.bind_eq_ok h
  obtain ⟨⟨op, cpvstr⟩, h5, h⟩ := Lib.bind_eq_ok h
  obtain ⟨h6, h⟩ := Lib.ite_error_eq_ok h
  obtain ⟨h7, h⟩ := Lib.ite_error_eq_ok h
  obtain ⟨h8, h⟩ := Lib.ite_error_eq_ok h
  obtain ⟨⟨cat, pkg, vr⟩, h9, h⟩ := Lib.bind_eq_ok h
  obtain ⟨vop, h10, h⟩ := Lib.bind_eq_ok h
  cases h
  have e1 := splitUse_sound h1
  obtain ⟨e2, htok⟩ := useStage_sound h2
  obtain ⟨e3, hslot, hrepo⟩ := slotStage_sound h3
  obtain ⟨e4, hstrong⟩ := parseBlocks_sound h4
  have e5 := parseOp_sound h5
  obtain ⟨rfl, rfl, htilde⟩ := vopStage_iff.mp h10
  obtain ⟨hcat, hpkg, _, hcpv, hvr⟩ := parseCpv_iff.mp h9
  have hslot' := hslot ((and_not_eq_false_iff _ _).mp (Bool.of_not_eq_true h6))
  let a0 := mkAtom cat pkg vop b st si (useBody.map (splitOn ','))
  refine ⟨a0, ?_, ?_, ?_⟩
  · refine ⟨hcat, hpkg, ?_, hstrong, rfl, hslot', ?_, ?_⟩
    · show vopOk lenient vop
      cases vop with
      | none => trivial
      | some q => exact ⟨(hvr _ _ rfl).1, (hvr _ _ rfl).2, htilde _ _ _ rfl⟩
    · show match si.repo with | none => True | some r => rOk = true ∧ repoNameOk r = true
      cases hr : si.repo with
      | none => trivial
      | some r => exact ⟨(not_and_eq_false_iff _ _).mp (Bool.of_not_eq_true h8) (by rw [hr]; rfl), hrepo r hr⟩
    · show match useBody.map (splitOn ',') with
        | none => True
        | some u => o.hasUseDeps = true ∧ u ≠ [] ∧ ∀ t ∈ u, useTokOk o t
      cases hub : useBody with
      | none => trivial
      | some body =>
        exact ⟨(and_not_eq_false_iff _ _).mp (Bool.of_not_eq_true h7) (by rw [e2, hub]; rfl), splitOn_ne_nil _ _, htok body hub⟩
  · have hcpv' : a0.cat ++ '/' :: a0.pkg ++ verTail (a0.vop.map (·.2)) = cpvstr := hcpv.symm
    rw [render_eq, cpvText_eq, hcpv',
      renderSlot_eq a0 (show slotOk' lenient o a0.slot a0.subslot a0.slotOp from hslot'),
      repoTxt_truthy a0.repo hrepo, renderUse_of_split (a := a0) rfl, e1, e3, e4, e5]
    rfl
  · rw [e2]
    rfl

/-- the version of a well-formed atom is valid in C04's form (`vopWF`, for `match_eq_spec`) and in C02's (`vrWF`, which is
`Atom.WF`) -/
theorem vopWF_of_vopOk : ∀ vop : Option (Op × Ver × Str), vopOk lenient vop →
    C04.Spec.vopWF vop ∧ C02.Spec.vrWF (vop.map (·.2))
  | none, _ => ⟨trivial, trivial⟩
  | some (_, v, _), h => ⟨((verOk_lenient_iff v).mp h.1).1, ((verOk_lenient_iff v).mp h.1).1⟩

theorem norm_norm (a : Atom) : norm (norm a) = norm a := by
  cases hu : a.use with
  | none => simp [norm, hu]
  | some u => simp [norm, hu, sortUse_idem]

theorem WF0_norm {d : Dialect} {o : Opts} {r : Bool} {a : Atom} (h : WF0 d o r a) : WF0 d o r (norm a) := by
  obtain ⟨hcat, hpkg, hvop, hstrong, hneg, hslot, hrepo, huse⟩ := h
  refine ⟨hcat, hpkg, hvop, hstrong, hneg, hslot, hrepo, ?_⟩
  show match (a.use.map sortUse) with
    | none => True
    | some u => o.hasUseDeps = true ∧ u ≠ [] ∧ ∀ t ∈ u, useTokOk o t
  cases hu : a.use with
  | none => trivial
  | some u =>
    rw [hu] at huse
    obtain ⟨g1, g2, g3⟩ := huse
    refine ⟨g1, ?_, fun t ht => g3 t (List.mem_mergeSort.mp ht)⟩
    intro e
    cases u with
    | nil => exact g2 rfl
    | cons x xs =>
      have : x ∈ sortUse (x :: xs) := List.mem_mergeSort.mpr (by simp)
      rw [e] at this
      cases this

theorem versionLike_lenient_of_pms {t : Str} (h : VersionLike pms t) : VersionLike lenient t := by
  obtain ⟨v, r, hv, hr, e⟩ := h
  exact ⟨v, r, verOk_lenient_of_pms hv, hr, e⟩

theorem pkgOk_pms_of_lenient {s : Str} (h : pkgOk lenient s) : pkgOk pms s :=
  ⟨h.1, fun p t e hv => h.2 p t e (versionLike_lenient_of_pms hv)⟩

theorem slotNameOk_lenient_of_pms {s : Str} (h : slotNameOk pms s = true) : slotNameOk lenient s = true :=
  have ⟨c, cs, e, h1, h2⟩ := nameOk_iff.mp h
  nameOk_iff.mpr ⟨c, cs, e, h1, fun m => h2 (List.mem_append_left ['+'] m)⟩

theorem slotNameOk_pms_of_lenient {s : Str} (h : slotNameOk lenient s = true)
    (hp : match s with | c :: _ => c ≠ '+' | [] => True) : slotNameOk pms s = true := by
  obtain ⟨c, cs, rfl, h1, h2⟩ := nameOk_iff.mp h
  refine nameOk_iff.mpr ⟨c, cs, rfl, h1, fun m => ?_⟩
  have m : c ∈ ['-', '.'] ++ ['+'] := m
  rcases List.mem_append.mp m with m | m
  · exact h2 m
  · exact hp (List.mem_singleton.mp m)

/-- well-formedness depends on the dialect only through the package name, the version letter and the slot names -/
theorem WF0_of_dialect {d d' : Dialect} {o : Opts} {r : Bool} {a : Atom} (h : WF0 d o r a) (hp : pkgOk d' a.pkg)
    (hv : ∀ op v rv, a.vop = some (op, v, rv) → verOk d v = true → verOk d' v = true)
    (hs : ∀ s, a.slot = some s ∨ a.subslot = some s → slotNameOk d s = true → slotNameOk d' s = true) :
    WF0 d' o r a := by
  obtain ⟨hcat, _, hvop, hstrong, hneg, hslot, hrepo, huse⟩ := h
  refine ⟨hcat, hp, ?_, hstrong, hneg, ?_, hrepo, huse⟩
  · cases hq : a.vop with
    | none => trivial
    | some q =>
      obtain ⟨op, v, rv⟩ := q
      rw [hq] at hvop
      exact ⟨hv op v rv hq hvop.1, hvop.2⟩
  · rw [slotOk_eq] at hslot ⊢
    cases hsl : a.slot with
    | none =>
      rw [hsl] at hslot
      exact hslot
    | some sl =>
      rw [hsl] at hslot
      obtain ⟨g1, g2, g3, g4⟩ := hslot
      refine ⟨g1, hs sl (Or.inl hsl) g2, ?_, g4⟩
      cases hss : a.subslot with
      | none => trivial
      | some ss =>
        rw [hss] at g3
        exact ⟨g3.1, hs ss (Or.inr hss) g3.2⟩

theorem WF0_pms_of_lenient {o : Opts} {r : Bool} {a : Atom} (h : WF0 lenient o r a) (hs : PmsStrict a) :
    WF0 pms o r a := by
  obtain ⟨s1, s2, s3⟩ := hs
  refine WF0_of_dialect h (pkgOk_pms_of_lenient h.2.1) (fun op v rv hv hok => ?_) fun s hsl hok => ?_
  · rw [hv] at s1
    exact verOk_pms_of_lenient hok s1
  · refine slotNameOk_pms_of_lenient hok ?_
    rcases hsl with e | e
    · rw [e] at s2
      cases s <;> exact s2
    · rw [e] at s3
      cases s <;> exact s3

theorem WF0_lenient_of_pms {o : Opts} {r : Bool} {a : Atom} (h : WF0 pms o r a) (hp : pkgOk lenient a.pkg) :
    WF0 lenient o r a :=
  WF0_of_dialect h hp (fun _ _ _ _ => verOk_lenient_of_pms) fun _ _ => slotNameOk_lenient_of_pms

theorem pkgOk_pms_b1A : pkgOk pms ['b', '-', '1', 'A'] := by
  refine ⟨by decide, fun p t e hv => ?_⟩
  have ht : t = ['1', 'A'] := by
    match p, e with
    | [], e => exact absurd (List.cons.inj e).1 (by decide)
    | [c], e => exact (List.cons.inj (List.cons.inj e).2).2.symm
    | c :: d :: p', e =>
      have : '-' ∈ ['1', 'A'] := (List.cons.inj (List.cons.inj e).2).2 ▸ List.mem_append_right _ List.mem_cons_self
      exact absurd this (by decide)
  subst ht
  -- `1A` is not a PMS version: it lexes to a version with the upper-case letter `A`
  obtain ⟨v, r, hv, hr, e⟩ := hv
  have hw : WFfull v := (verOk_lenient_iff v).mp (verOk_lenient_of_pms hv)
  cases r with
  | cons c cs =>
    have : '-' ∈ ['1', 'A'] := by rw [e]; simp [revText]
    simp at this
  | nil =>
    simp only [revText, List.isEmpty_nil, if_true, List.append_nil] at e
    have hl := lexVer_render v hw
    rw [← e] at hl
    have : lexVer ['1', 'A'] = some ⟨[['1']], some 'A', []⟩ := rfl
    rw [this] at hl
    simp only [Option.some.injEq] at hl
    subst hl
    simp [verOk, pms] at hv

theorem exists_ok_of_isOk {ε α} {x : Except ε α} (h : x.isOk = true) : ∃ a, x = .ok a := by
  cases x with
  | ok a => exact ⟨a, rfl⟩
  | error e => cases h

theorem exists_error_of_not_isOk {ε α} {x : Except ε α} (h : x.isOk = false) : ∃ e, x = .error e := by
  cases x with
  | ok a => cases h
  | error e => exact ⟨e, rfl⟩

end Pkgcore.C03
