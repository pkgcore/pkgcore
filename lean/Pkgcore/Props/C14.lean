import Pkgcore.Proofs.C14
/-!
# C14 — USE-configured package views always reflect the current USE set

`step`/`run` mirror `PackageWrapper` (pkgcore/package/conditionals.py) over snakeoil's `LimitedChangeSet`; `Spec.step`
is the cache-less, atomic-request reference object.  The main theorems are about `Variant.fixed` (the tree after the
three `fix:` commits), `rollback_never_misses` about every `Variant`; the `pinned_*_counterexample` theorems show the
same statements fail for the pinned code.
-/
namespace Pkgcore.C14
open Pkgcore.C14.Spec

variable {α : Type} [DecidableEq α] {β : Type} [DecidableEq β]

/-- **Every read returns the value computed from the current USE set**: in any history of enable/disable
requests (of changeable and locked flags), rollbacks (valid or not), commits and reads, over any initial USE set
and any set of locked flags, the read at any position yields exactly what the cache-less reference object yields
there — the value of the raw attribute under the USE set produced by the operations before it. -/
theorem read_is_current (locked : α → Bool) (initial : List α) (pre post : List (Op α β)) (attr : β) :
    (run Variant.fixed locked (PW.init initial) (pre ++ Op.read attr :: post)).2[pre.length]?
      = some (Out.value (readValue (run Variant.fixed locked (PW.init initial : PW α β) pre).1.use)) := by
  rw [run_getElem, step_read_out _ _ _ (inv_run locked pre _ (inv_init initial))]
  rfl

/-- non-vacuity: a history in which the cache is hit, then invalidated by a disable, a commit and a rollback -/
example :
    (run Variant.fixed (fun f => f == 9) (PW.init [1, 9] : PW Nat Nat)
      [.read 0, .read 0, .disable [1], .read 0, .commit, .enable [2], .read 0, .rollback 0, .read 0]).2
    = [.value [1, 9], .value [1, 9], .bool true, .value [9], .unit, .bool true, .value [9, 2], .unit, .value [9]] := by
  decide +kernel

/-- the same statement is **false for the pinned tree**: a disable does not invalidate the cache … -/
theorem pinned_stale_after_disable_counterexample :
    (run Variant.pinned (fun _ => false) (PW.init [1] : PW Nat Nat) [.read 0, .disable [1], .read 0]).2
      = [.value [1], .bool true, .value [1]]
    ∧ (run Variant.pinned (fun _ => false) (PW.init [1] : PW Nat Nat) [.read 0, .disable [1]]).1.use.new = [] := by
  decide +kernel

/-- … and `commit()` resets the generation counter, reviving an entry cached at generation 0 -/
theorem pinned_stale_after_commit_counterexample :
    (run Variant.pinned (fun _ => false) (PW.init [] : PW Nat Nat) [.read 0, .enable [1], .commit, .read 0]).2
      = [.value [], .bool true, .unit, .value []]
    ∧ (run Variant.pinned (fun _ => false) (PW.init [] : PW Nat Nat) [.read 0, .enable [1], .commit]).1.use.new = [1] := by
  decide +kernel

/-- … and disabling an absent locked flag escapes with `KeyError` after the flags before it were removed -/
theorem pinned_disable_keyerror_counterexample :
    (step Variant.pinned (fun f => f == 9) (PW.init [1] : PW Nat Nat) (.disable [1, 9])).2 = .keyError
    ∧ (step Variant.pinned (fun f => f == 9) (PW.init [1] : PW Nat Nat) (.disable [1, 9])).1.use.new = [] := by
  decide +kernel

/-- **A refused request leaves the USE set as it was** (and every accepted operation, rollback, commit and
read does what the reference object does) — *partial*: proved under `OpGuard`.

Full statement (false, see `refused_request_restores_counterexample`): the same without `hg`. -/
theorem step_matches_spec_partial (locked : α → Bool) (s : PW α β) (hs : Inv s) (op : Op α β)
    (hg : OpGuard locked s.use op) :
    (step Variant.fixed locked s op).2 = (Spec.step locked s.use op).2 ∧
    Same (step Variant.fixed locked s op).1.use (Spec.step locked s.use op).1 := by
  cases op with
  | enable vals =>
    have hr := (addAll_rollback locked vals s.use hg).2
    rw [step_enable]
    simp only [Spec.step, enableAll_eq]
    cases (addAll locked s.use vals).2
    · exact ⟨rfl, hr⟩
    · exact ⟨rfl, same_refl _⟩
  | disable vals =>
    have hr := (removeAll_rollback locked vals s.use hg).2
    rw [step_disable]
    simp only [Spec.step, disableAll_eq, Variant.fixed]
    cases hk : (removeAll locked true s.use vals).2
    · exact ⟨rfl, same_refl _⟩
    · exact ⟨rfl, hr⟩
    · exact absurd hk (removeAll_caught_ne_keyError locked vals s.use)
  | rollback point =>
    simp only [step, Spec.step]
    cases s.use.rollback point <;> exact ⟨rfl, same_refl _⟩
  | commit => exact ⟨rfl, same_refl _⟩
  | read attr =>
    refine ⟨step_read_out _ locked s hs attr, ?_⟩
    rcases step_read_state Variant.fixed locked s attr with e | e <;> rw [e] <;> exact same_refl _
  | refusedWrapped =>
    exact ⟨rfl, (rollsBackTo_refl s.use).2⟩
  | readFail attr => exact ⟨rfl, same_refl _⟩

/-- the sentence of the property, spelled out: under the guard a refused request leaves set, pending changes
and change log exactly as they were -/
theorem refused_request_restores_partial (locked : α → Bool) (s : PW α β) (op : Op α β)
    (hop : (∃ vals, op = .enable vals) ∨ (∃ vals, op = .disable vals))
    (hg : OpGuard locked s.use op)
    (href : (step Variant.fixed locked s op).2 = .bool false) :
    Same (step Variant.fixed locked s op).1.use s.use := by
  rcases hop with ⟨vals, rfl⟩ | ⟨vals, rfl⟩
  · rw [step_enable] at href ⊢
    cases h : (addAll locked s.use vals).2
    · exact (addAll_rollback locked vals s.use hg).2
    · rw [h] at href; cases href
  · rw [step_disable] at href ⊢
    cases h : (removeAll locked Variant.fixed.keyErrorCaught s.use vals).2 <;> rw [h] at href
    · cases href
    · exact (removeAll_rollback locked vals s.use hg).2
    · cases href

/-- non-vacuity: a refused request satisfying the guard that had already applied a real change -/
example :
    OpGuard (β := Nat) (fun f => f == 9) (LCS.init [1]) (.enable [2, 9]) ∧
    (step Variant.fixed (fun f => f == 9) (PW.init [1] : PW Nat Nat) (.enable [2, 9])).2 = .bool false ∧
    (step Variant.fixed (fun f => f == 9) (PW.init [1] : PW Nat Nat) (.enable [2, 9])).1.use.new = [1] := by
  refine ⟨?_, by decide +kernel, by decide +kernel⟩
  intro v hv hn
  simp [LCS.init] at hn hv
  omega

/-- without the guard the statement is false (of the model, and of the real code — open finding
`C14-noop-change-rollback`): re-enabling an enabled flag is logged by `LimitedChangeSet.add` and undone by
`rollback` as a removal; symmetrically for disabling a disabled flag -/
theorem refused_request_restores_counterexample :
    (step Variant.fixed (fun f => f == 9) (PW.init [1] : PW Nat Nat) (.enable [1, 9])).2 = .bool false
    ∧ (step Variant.fixed (fun f => f == 9) (PW.init [1] : PW Nat Nat) (.enable [1, 9])).1.use.new = []
    ∧ (step Variant.fixed (fun f => f == 9) (PW.init [9] : PW Nat Nat) (.disable [1, 9])).2 = .bool false
    ∧ (step Variant.fixed (fun f => f == 9) (PW.init [9] : PW Nat Nat) (.disable [1, 9])).1.use.new = [9, 1] := by
  decide +kernel

/-- **`rollback` never trips over its own log**: on every state reachable by any history, the keys of the
change log are distinct, are exactly the `_changed` keys, and every `added` entry's key is in the set — so the
`set.remove` calls inside `LimitedChangeSet.rollback` cannot raise, and modelling them as total is exact. -/
theorem rollback_never_misses (v : Variant) (locked : α → Bool) (initial : List α) (ops : List (Op α β)) :
    LogOk (run v locked (PW.init initial) ops).1.use :=
  logOk_run v locked ops _ (logOk_init initial)

example : (run Variant.fixed (fun f => f == 9) (PW.init [1, 9] : PW Nat Nat)
    [.enable [2], .disable [1], .read 0]).1.use.log = [(.removed, 1), (.added, 2)] := by decide +kernel

end Pkgcore.C14
