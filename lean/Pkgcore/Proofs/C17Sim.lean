import Pkgcore.Spec.C17
import Pkgcore.Proofs.Lib
/-!
Planner states up to `Sim` — every container up to permutation, `pkg_choices` up to lookup, the log left out
(`same_iff`) — and `Inv`, the consistency of a reachable state: no package slotted twice, `pkg_choices` keyed by the
slotted packages, a blocker a limiter, once, exactly while it is referenced.  `revertEntry` and `revertAll` respect
`Sim` (`revertEntry_congr`, `revertAll_congr`; `OSim` relates their optional results) and neither read nor write the
log (`revertEntry_setplan`, `revertAll_plan`).
-/
namespace Pkgcore.C17
open List

/-- `Same` without the plan -/
structure Sim (s t : State) : Prop where
  slots : s.slots ~ t.slots
  limiters : s.limiters ~ t.limiters
  choices : ∀ p, s.choices.lookup p = t.choices.lookup p
  revb : s.revb ~ t.revb
  refcnt : s.refcnt ~ t.refcnt
  vdb : s.vdb ~ t.vdb
  forced : s.forced ~ t.forced

theorem Sim.refl (s : State) : Sim s s := ⟨.refl _, .refl _, fun _ => rfl, .refl _, .refl _, .refl _, .refl _⟩
theorem Sim.symm {s t : State} (h : Sim s t) : Sim t s :=
  ⟨h.slots.symm, h.limiters.symm, fun p => (h.choices p).symm, h.revb.symm, h.refcnt.symm, h.vdb.symm,
   h.forced.symm⟩
theorem Sim.trans {s t u : State} (h : Sim s t) (g : Sim t u) : Sim s u :=
  ⟨h.slots.trans g.slots, h.limiters.trans g.limiters, fun p => (h.choices p).trans (g.choices p),
   h.revb.trans g.revb, h.refcnt.trans g.refcnt, h.vdb.trans g.vdb, h.forced.trans g.forced⟩

theorem Sim.setPlan (s : State) (pl : List Entry) : Sim { s with plan := pl } s := { Sim.refl s with }

theorem same_iff {s t : State} : Same s t ↔ Sim s t ∧ s.plan.length = t.plan.length :=
  ⟨fun h => ⟨⟨h.slots, h.limiters, h.choices, h.revb, h.refcnt, h.vdb, h.forced⟩, h.plan⟩,
   fun ⟨h, p⟩ => ⟨h.slots, h.limiters, h.choices, h.revb, h.refcnt, h.vdb, h.forced, p⟩⟩

theorem Same.sim {s t : State} (h : Same s t) : Sim s t := (same_iff.mp h).1
theorem Same.refl (s : State) : Same s s := same_iff.mpr ⟨Sim.refl s, rfl⟩

theorem same_of {s t s' t' : State} (h : Same s t)
    (e : s'.limiters = s.limiters ∧ s'.revb = s.revb ∧ s'.refcnt = s.refcnt ∧ s'.forced = s.forced)
    (e' : t'.limiters = t.limiters ∧ t'.revb = t.revb ∧ t'.refcnt = t.refcnt ∧ t'.forced = t.forced)
    (hs : s'.slots ~ t'.slots) (hc : ∀ q, s'.choices.lookup q = t'.choices.lookup q) (hv : s'.vdb ~ t'.vdb)
    (hp : s'.plan.length = t'.plan.length) : Same s' t' :=
  ⟨hs, by rw [e.1, e'.1]; exact h.limiters, hc, by rw [e.2.1, e'.2.1]; exact h.revb,
   by rw [e.2.2.1, e'.2.2.1]; exact h.refcnt, hv, by rw [e.2.2.2, e'.2.2.2]; exact h.forced, hp⟩

/-- invariant of every reachable planner state -/
structure Inv (s : State) : Prop where
  nodup : s.slots.Nodup
  dom : ∀ p, p ∈ s.slots ↔ (s.choices.lookup p).isSome
  lim : ∀ b, s.limiters.count b = if b ∈ s.refcnt then 1 else 0

theorem Inv.of_sim {s t : State} (h : Sim s t) (i : Inv s) : Inv t where
  nodup := h.slots.nodup_iff.mp i.nodup
  dom p := by rw [← h.slots.mem_iff, ← h.choices p]; exact i.dom p
  lim b := by rw [← h.limiters.count_eq b, i.lim b]; simp only [h.refcnt.mem_iff]

theorem Inv.lookup_none {s : State} (i : Inv s) {p : Nat} (h : p ∉ s.slots) : s.choices.lookup p = none :=
  Option.not_isSome_iff_eq_none.mp (mt (i.dom p).mpr h)

theorem Inv.count_slot {s : State} (i : Inv s) {p : Nat} (h : p ∈ s.slots) : s.slots.count p = 1 := by
  rw [i.nodup.count, if_pos h]

theorem Inv.count_limiter {s : State} (i : Inv s) {b : Nat} (h : b ∈ s.refcnt) : s.limiters.count b = 1 := by
  rw [i.lim b, if_pos h]

theorem inv_init : Inv init := ⟨List.nodup_nil, fun _ => by simp [init], fun _ => by simp [init]⟩

def OSim : Option State → Option State → Prop
  | none, none => True
  | some a, some b => Sim a b
  | _, _ => False

theorem OSim.bind {x y : Option State} {f g : State → Option State} (h : OSim x y)
    (hf : ∀ a b, Sim a b → OSim (f a) (g b)) : OSim (x.bind f) (y.bind g) := by
  cases x <;> cases y
  · trivial
  · exact h.elim
  · exact h.elim
  · exact hf _ _ h

theorem OSim.some_left {a : State} {y : Option State} (h : OSim (some a) y) : ∃ b, y = some b ∧ Sim a b := by
  cases y with
  | none => exact h.elim
  | some b => exact ⟨b, rfl, h⟩

theorem OSim.some_right {x : Option State} {b : State} (h : OSim x (some b)) : ∃ a, x = some a ∧ Sim a b := by
  cases x with
  | none => exact h.elim
  | some a => exact ⟨a, rfl, h⟩

theorem OSim.bind_some {x : Option State} {m s : State} {f : State → Option State} (h : OSim x (some m))
    (hf : ∀ a, Sim a m → OSim (f a) (some s)) : OSim (x.bind f) (some s) := by
  obtain ⟨a, rfl, ha⟩ := h.some_right
  exact hf a ha

theorem OSim.ite {c d : Prop} [Decidable c] [Decidable d] (hcd : c ↔ d) {x x' y y' : Option State}
    (h : OSim x y) (h' : OSim x' y') : OSim (if c then x else x') (if d then y else y') := by
  by_cases hc : c
  · rwa [if_pos hc, if_pos (hcd.mp hc)]
  · rwa [if_neg hc, if_neg (mt hcd.mpr hc)]

/-- the identity; it gives `{ h with … }` an expected type where the goal is an `OSim` -/
theorem OSim.of_sim {a b : State} (h : Sim a b) : OSim (some a) (some b) := h

theorem OSim.refl : ∀ x : Option State, OSim x x
  | none => trivial
  | some a => Sim.refl a

theorem OSim.trans : ∀ {x y z : Option State}, OSim x y → OSim y z → OSim x z
  | none, none, none, _, _ => trivial
  | some _, some _, some _, h, g => Sim.trans h g
  | none, some _, _, h, _ | some _, none, _, h, _ => h.elim
  | none, none, some _, _, g | some _, some _, none, _, g => g.elim

theorem fill_force (U : Univ) (s : State) (p : Nat) :
    (fillSlotting U s p true).1 = { s with slots := s.slots ++ [p] } := by simp [fillSlotting]

section congr
variable (U : Univ) {s t : State} (h : Sim s t)
include h

theorem removeSlotting_congr (p : Nat) : OSim (removeSlotting s p) (removeSlotting t p) :=
  .ite h.slots.mem_iff (.of_sim { h with slots := h.slots.filter _ }) trivial

theorem delChoice_congr (p : Nat) : OSim (delChoice s p) (delChoice t p) :=
  .ite (by rw [h.choices p])
    (.of_sim { h with choices := fun q => by simp only [Lib.lookup_filter_ne, h.choices q] }) trivial

theorem vdbRemove_congr (p : Nat) : OSim (vdbRemove s p) (vdbRemove t p) :=
  .ite h.vdb.mem_iff (.of_sim { h with vdb := h.vdb.erase _ }) trivial

theorem removeLimiter_congr (b : Nat) : OSim (removeLimiter s b) (removeLimiter t b) :=
  .ite h.limiters.mem_iff (.of_sim { h with limiters := h.limiters.filter _ }) trivial

theorem setChoice_congr (p c : Nat) : Sim (setChoice s p c) (setChoice t p c) :=
  { h with choices := fun q => by simp only [setChoice, List.lookup_cons, h.choices q] }

theorem increfRevert_congr (c b : Nat) : OSim (increfRevert s c b) (increfRevert t c b) :=
  have he : s.refcnt.erase b ~ t.refcnt.erase b := h.refcnt.erase _
  have hs : Sim { s with revb := s.revb.erase (c, b), refcnt := s.refcnt.erase b }
      { t with revb := t.revb.erase (c, b), refcnt := t.refcnt.erase b } :=
    { h with revb := h.revb.erase _, refcnt := he }
  .ite h.revb.mem_iff (.ite h.refcnt.mem_iff (.ite he.mem_iff (.of_sim hs) (removeLimiter_congr hs b)) trivial) trivial

/-- `add_limiter` unless the blocker is referenced already (`incref.apply`, `decref.revert`) -/
theorem addLimiter_congr (b : Nat) :
    (if b ∈ s.refcnt then s.limiters else (addLimiter U s b).1.limiters) ~
      (if b ∈ t.refcnt then t.limiters else (addLimiter U t b).1.limiters) := by
  by_cases hb : b ∈ s.refcnt
  · rw [if_pos hb, if_pos (h.refcnt.mem_iff.mp hb)]; exact h.limiters
  · rw [if_neg hb, if_neg (mt h.refcnt.mem_iff.mpr hb)]; exact h.limiters.append_right _

theorem decrefRevert_congr (c b : Nat) : Sim (decrefRevert U s c b) (decrefRevert U t c b) :=
  { h with limiters := addLimiter_congr U h b, revb := h.revb.append_right _, refcnt := h.refcnt.append_right _ }

theorem fill_force_congr (p : Nat) : Sim (fillSlotting U s p true).1 (fillSlotting U t p true).1 := by
  rw [fill_force, fill_force]; exact { h with slots := h.slots.append_right _ }

theorem revertEntry_congr (e : Entry) : OSim (revertEntry U s e) (revertEntry U t e) := by
  cases e with
  | add c p f => exact (removeSlotting_congr h p).bind fun a b hab => delChoice_congr hab p
  | hardref r => exact .ite h.forced.mem_iff (.of_sim { h with forced := h.forced.erase _ }) trivial
  | backref c p => exact h
  | remove c p => exact vdbRemove_congr (setChoice_congr (fill_force_congr U h p) p c) p
  | replace c p f old oldc =>
    exact (removeSlotting_congr h p).bind fun a b hab =>
      (delChoice_congr (fill_force_congr U hab old) p).bind fun a b hab =>
        vdbRemove_congr (setChoice_congr hab old oldc) old
  | incref c b => exact increfRevert_congr h c b
  | decref c b => exact decrefRevert_congr U h c b

theorem revertAll_congr (es : List Entry) : OSim (revertAll U s es) (revertAll U t es) := by
  induction es generalizing s t with
  | nil => exact h
  | cons e es ih => exact (revertEntry_congr U h e).bind fun a b hab => ih hab

end congr

theorem removeSlotting_some {s sa : State} {p : Nat} (h : removeSlotting s p = some sa) :
    p ∈ s.slots ∧ sa = { s with slots := s.slots.filter (· != p) } := by
  unfold removeSlotting at h
  split at h
  · exact ⟨‹_›, (Option.some.inj h).symm⟩
  · cases h

theorem delChoice_some {s sa : State} {p : Nat} (h : delChoice s p = some sa) :
    (s.choices.lookup p).isSome ∧ sa = { s with choices := s.choices.filter (·.1 != p) } := by
  unfold delChoice at h
  split at h
  · exact ⟨‹_›, (Option.some.inj h).symm⟩
  · cases h

section setplan
variable (U : Univ) (s : State) (pl : List Entry)

theorem removeSlotting_setplan (p : Nat) :
    removeSlotting { s with plan := pl } p = (removeSlotting s p).map fun s' => { s' with plan := pl } := by
  unfold removeSlotting; split <;> rfl

theorem delChoice_setplan (p : Nat) :
    delChoice { s with plan := pl } p = (delChoice s p).map fun s' => { s' with plan := pl } := by
  unfold delChoice; split <;> rfl

theorem vdbRemove_setplan (p : Nat) :
    vdbRemove { s with plan := pl } p = (vdbRemove s p).map fun s' => { s' with plan := pl } := by
  unfold vdbRemove; split <;> rfl

theorem removeLimiter_setplan (b : Nat) :
    removeLimiter { s with plan := pl } b = (removeLimiter s b).map fun s' => { s' with plan := pl } := by
  unfold removeLimiter; split <;> rfl

theorem increfRevert_setplan (c b : Nat) :
    increfRevert { s with plan := pl } c b = (increfRevert s c b).map fun s' => { s' with plan := pl } := by
  unfold increfRevert
  by_cases h1 : (c, b) ∈ s.revb
  · by_cases h2 : b ∈ s.refcnt
    · by_cases h3 : b ∈ s.refcnt.erase b
      · simp only [h1, h2, h3, if_true]; rfl
      · simp only [h1, h2, h3, if_true, if_false]
        exact removeLimiter_setplan { s with revb := s.revb.erase (c, b), refcnt := s.refcnt.erase b } pl b
    · simp only [h1, h2, if_true, if_false]; rfl
  · simp only [h1, if_false]; rfl

theorem revertEntry_setplan (e : Entry) :
    revertEntry U { s with plan := pl } e = (revertEntry U s e).map fun s' => { s' with plan := pl } := by
  cases e with
  | add c p f =>
    simp only [revertEntry, removeSlotting_setplan]
    cases removeSlotting s p with
    | none => rfl
    | some a => exact delChoice_setplan a pl p
  | hardref r => simp only [revertEntry]; split <;> rfl
  | backref c p => rfl
  | remove c p =>
    simp only [revertEntry, fill_force]
    exact vdbRemove_setplan (setChoice { s with slots := s.slots ++ [p] } p c) pl p
  | replace c p f old oldc =>
    simp only [revertEntry, removeSlotting_setplan]
    cases removeSlotting s p with
    | none => rfl
    | some a =>
      simp only [Option.map_some, Option.bind_some, fill_force]
      rw [delChoice_setplan { a with slots := a.slots ++ [old] } pl p]
      cases delChoice { a with slots := a.slots ++ [old] } p with
      | none => rfl
      | some b => exact vdbRemove_setplan (setChoice b old oldc) pl old
  | incref c b => exact increfRevert_setplan s pl c b
  | decref c b => rfl

theorem revertAll_setplan (es : List Entry) :
    revertAll U { s with plan := pl } es = (revertAll U s es).map fun s' => { s' with plan := pl } := by
  induction es generalizing s with
  | nil => rfl
  | cons e es ih =>
    simp only [revertAll, revertEntry_setplan]
    cases revertEntry U s e with
    | none => rfl
    | some a => exact ih a

end setplan

theorem revertEntry_plan (U : Univ) {s s' : State} {e : Entry} (h : revertEntry U s e = some s') :
    s'.plan = s.plan := by
  have := revertEntry_setplan U s s.plan e
  rw [h, Option.map_some] at this
  rw [Option.some.inj this]

theorem revertAll_plan (U : Univ) {s s' : State} {es : List Entry} (h : revertAll U s es = some s') :
    s'.plan = s.plan := by
  have := revertAll_setplan U s s.plan es
  rw [h, Option.map_some] at this
  rw [Option.some.inj this]

theorem revertAll_append (U : Univ) (s : State) (es fs : List Entry) :
    revertAll U s (es ++ fs) = (revertAll U s es).bind fun s => revertAll U s fs := by
  induction es generalizing s with
  | nil => rfl
  | cons e es ih =>
    simp only [List.cons_append, revertAll, ih]
    cases revertEntry U s e <;> rfl

end Pkgcore.C17
