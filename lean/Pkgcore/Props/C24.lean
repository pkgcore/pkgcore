import Pkgcore.Proofs.C24
/-!
# C24 — installed-package CONTENTS files round-trip and are replaced atomically

The property theorems, the two counterexamples that bound the round trip, and a sample set.
`renderFile`/`readContents` mirror `ContentsFile._write`/`ContentsFile(path)` (`_iter_contents` +
`contentsSet.update`), `flushOps` the operation sequence of `flush()` through `AtomicWriteFile`; see
`Model/C24.lean`.  Sets, paths, targets, checksums and mtimes are unbounded.
-/
namespace Pkgcore.C24
open Pkgcore.C24.Spec

/-- **round trip** (`contents_roundtrip`, guarded by `Representable`): for every contents set whose
entries the line format can represent, reading the written file yields the same entries — type, path
(embedded, leading and trailing blanks, `->` fragments in targets, any code point), MD5, integral mtime,
symlink target.

Full statement (false of the code, see the two counterexamples):
`∀ S, IsSet S → Normalised S → ∃ r, readContents (renderFile S) = some r ∧ SameEntries r S`. -/
theorem contents_roundtrip_partial (S : List Entry) (hset : IsSet S) (hnorm : Normalised S)
    (hrep : ∀ e ∈ S, Representable e) :
    ∃ r, readContents (renderFile S) = some r ∧ SameEntries r S :=
  ⟨_, readContents_renderFile S hset hnorm hrep, sortEntries_perm S⟩

/-- a symlink whose location contains a `->` token is split at the first one -/
theorem contents_roundtrip_counterexample :
    ∃ S, IsSet S ∧ Normalised S ∧
      readContents (renderFile S) = some [Entry.sym "/a".toList "b -> t".toList 1] ∧
      S = [Entry.sym "/a -> b".toList "t".toList 1] := by
  refine ⟨[Entry.sym "/a -> b".toList "t".toList 1], by decide +kernel, ?_, by decide +kernel, rfl⟩
  intro e he
  simp only [List.mem_singleton] at he
  subst he
  decide +kernel

/-- a path containing a line break makes the file unreadable -/
theorem contents_linebreak_counterexample :
    ∃ S, IsSet S ∧ Normalised S ∧ readContents (renderFile S) = none ∧ S = [Entry.dir "/a\nb".toList] := by
  refine ⟨[Entry.dir "/a\nb".toList], by decide +kernel, ?_, by decide +kernel, rfl⟩
  intro e he
  simp only [List.mem_singleton] at he
  subst he
  decide +kernel

/-- **replaced atomically**: `flush()` creates `.update.CONTENTS`, writes the text there (in any
chunking), closes it and renames it over CONTENTS; at *every* crash point the CONTENTS path holds its
previous content or the complete new text, and at the end the new text. -/
theorem flush_atomic (fs : Fs) (dir base : Str) (S : List Entry) (chunks : List Str)
    (hc : chunks.flatten = renderFile S) :
    ReplacedAtomically (flushOps dir base chunks) fs (targetName dir base) (renderFile S) :=
  have h := atomicWriteOps_atomic dir base chunks fs
  hc ▸ ⟨h.oldOrNew, h.final⟩

/-- hence a reader (`ContentsFile(path)`) at any crash point sees the previous set or the new one,
never a partial one -/
theorem flush_reader_sees_old_or_new (fs : Fs) (dir base : Str) (S : List Entry) (chunks : List Str)
    (hc : chunks.flatten = renderFile S) (hset : IsSet S) (hnorm : Normalised S)
    (hrep : ∀ e ∈ S, Representable e) (k : Nat) :
    let fs' := run ((flushOps dir base chunks).take k) fs
    (fs'.read (targetName dir base)).bind readContents = (fs.read (targetName dir base)).bind readContents ∨
    ∃ r, (fs'.read (targetName dir base)).bind readContents = some r ∧ SameEntries r S := by
  intro fs'
  obtain ⟨r, hr, hs⟩ := contents_roundtrip_partial S hset hnorm hrep
  rcases (flush_atomic fs dir base S chunks hc).1 k with h | h
  · left
    show (fs'.read _).bind readContents = _
    rw [h]
  · refine .inr ⟨r, ?_, hs⟩
    show (fs'.read _).bind readContents = _
    rw [h]
    exact hr

/-- no other file is changed at any crash point, and no temporary file is left after completion -/
theorem flush_touches_nothing_else (fs : Fs) (dir base : Str) (chunks : List Str) :
    (∀ k q, q ≠ tmpName dir base → q ≠ targetName dir base →
      (run ((flushOps dir base chunks).take k) fs).read q = fs.read q) ∧
    (run (flushOps dir base chunks) fs).read (tmpName dir base) = none :=
  have h := atomicWriteOps_atomic dir base chunks fs
  ⟨h.frame, h.gone⟩

/-- **a flush that fails while rendering leaves the old file**: whatever entry makes the loop raise (an
unknown entry type, a missing checksum or mtime, an unencodable path, an interrupt) and however much text had
reached the temp file, at every point of the clean-up sequence the CONTENTS path holds exactly its previous
content, no other file changes, and the temp file is gone at the end. -/
theorem flush_abort_keeps_old (fs : Fs) (dir base : Str) (written : List Str) (k : Nat) :
    (run ((abortOps dir base written).take k) fs).read (targetName dir base) = fs.read (targetName dir base) ∧
    (∀ q, q ≠ tmpName dir base → (run ((abortOps dir base written).take k) fs).read q = fs.read q) ∧
    (run (abortOps dir base written) fs).read (tmpName dir base) = none := by
  have h := fill_unlink (abortOps_eq dir base written) rfl rfl rfl fs
  exact ⟨h.1 k _ (tmp_ne_target dir base).symm, h.1 k, h.2⟩

/-- **flush writes the current set, whatever its history**: after any sequence of mutating operations
(`add`, `discard`/`remove`, `clear`, `update`, `difference_update`, `intersection_update`,
`symmetric_difference_update`) on a set, the result is again a set (one entry per location), and flushing
it and reading it back yields exactly the entries the history leaves — not those of an earlier state. -/
theorem history_flush_roundtrip (S : List Entry) (hist : List SetOp) (hset : IsSet S)
    (hok : ∀ e, (e ∈ S ∨ ∃ op ∈ hist, e ∈ opEntries op) → normpath e.loc = e.loc ∧ Representable e) :
    IsSet (applyOps S hist) ∧
    ∃ r, readContents (renderFile (applyOps S hist)) = some r ∧ SameEntries r (applyOps S hist) := by
  have h1 := applyOps_isSet S hist hset
  refine ⟨h1, contents_roundtrip_partial _ h1 ?_ ?_⟩
  · intro e he; exact (hok e (mem_applyOps S hist e he)).1
  · intro e he; exact (hok e (mem_applyOps S hist e he)).2

def exampleSet : List Entry :=
  [.obj "/usr/bin/a b ".toList 0xabc 12, .sym "/usr/lib/x->y".toList "tgt -> z ".toList (-5),
   .dir " /usr/share/d ".toList, .dev "/dev/null".toList, .fif "/var/f é".toList]

example : IsSet exampleSet ∧ Normalised exampleSet ∧ ∀ e ∈ exampleSet, Representable e := by
  refine ⟨by decide +kernel, ?_, ?_⟩
  · intro e he
    simp only [exampleSet, List.mem_cons, List.not_mem_nil, or_false] at he
    rcases he with rfl | rfl | rfl | rfl | rfl <;> decide +kernel
  · intro e he
    simp only [exampleSet, List.mem_cons, List.not_mem_nil, or_false] at he
    rcases he with rfl | rfl | rfl | rfl | rfl <;> (simp only [Representable, noLineBreak, Entry.loc]; decide +kernel)

example : readContents (renderFile exampleSet) = some (sortEntries exampleSet) := by decide +kernel

/-- a crash in the middle of the write (after the first chunk) leaves the old file -/
example : (run ((flushOps "/v".toList "CONTENTS".toList ["dir /a\n".toList, "dir /b\n".toList]).take 4)
    [("/v/CONTENTS".toList, "dir /old\n".toList)]).read "/v/CONTENTS".toList = some "dir /old\n".toList := by
  decide +kernel

/-- load, discard, flush: the discarded entry is gone from the file -/
example : readContents (renderFile (applyOps [Entry.dir "/a".toList, Entry.dir "/b".toList] [.discard "/a".toList]))
    = some [Entry.dir "/b".toList] := by decide +kernel

/-- a failure after the first line was written: CONTENTS still holds the old text, the temp file is removed -/
example : (run (abortOps "/v".toList "CONTENTS".toList ["dir /a\n".toList]) [("/v/CONTENTS".toList, "dir /old\n".toList)])
    = [("/v/CONTENTS".toList, "dir /old\n".toList)] := by decide +kernel

end Pkgcore.C24
