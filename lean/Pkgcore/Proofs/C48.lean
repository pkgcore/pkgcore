import Pkgcore.Spec.C48
/-! C48: `validate_entry` against `Spec.Valid`; the walk over the caches one step at a time and in closed form
(everything before the first accepted entry is `clean`ed); where `store` writes. -/
namespace Pkgcore.C48
open Pkgcore.C48.Spec

variable (w : World)

theorem rebuildOk_of_current (fmt : Fmt) (recs : List (String × List Val))
    (h : ∀ rec ∈ recs, EclassCurrent w fmt rec) : rebuildOk w fmt recs = true := by
  unfold rebuildOk
  rw [List.all_eq_true]
  intro rec hrec
  obtain ⟨info, hi, hall⟩ := h rec hrec
  rw [List.all_eq_true]
  intro kv hkv
  simp [hi, hall kv hkv]

theorem rebuildOk_iff (fmt : Fmt) (recs : List (String × List Val))
    (hwf : ∀ rec ∈ recs, fmt.eclassChfs.zip rec.2 ≠ []) :
    rebuildOk w fmt recs = true ↔ ∀ rec ∈ recs, EclassCurrent w fmt rec := by
  refine ⟨fun h rec hrec => ?_, rebuildOk_of_current w fmt recs⟩
  have h1 := List.all_eq_true.1 (List.all_eq_true.1 h rec hrec)
  cases he : w.eclass rec.1 with
  | none =>
    -- a vanished eclass is only noticed through one of its recorded attributes
    obtain ⟨kv, hkv⟩ := List.exists_mem_of_ne_nil _ (hwf rec hrec)
    simpa [he] using h1 kv hkv
  | some info => exact ⟨info, he, fun kv hkv => by simpa [he] using h1 kv hkv⟩

theorem validate_eq (fmt : Fmt) (e : Entry) :
    validate w fmt e = (e.chf == w.ebuild.get fmt.chf &&
      match e.eclasses with
      | none => true
      | some recs => e.hasInherit && rebuildOk w fmt recs) := by
  unfold validate
  by_cases hc : e.chf = w.ebuild.get fmt.chf
  · simp only [hc, bne_self_eq_false, beq_self_eq_true, Bool.true_and, Bool.false_eq_true, if_false]
    cases e.eclasses with
    | none => rfl
    | some recs => cases e.hasInherit <;> rfl
  · simp [hc]

theorem validate_of_valid (fmt : Fmt) (e : Entry) (h : Valid w fmt e) : validate w fmt e = true := by
  obtain ⟨hc, he⟩ := h
  rw [validate_eq, hc, beq_self_eq_true, Bool.true_and]
  cases hecl : e.eclasses with
  | none => rfl
  | some recs =>
    rw [hecl] at he
    simp only [he.1, rebuildOk_of_current w fmt recs he.2, Bool.and_self]

theorem validate_iff (fmt : Fmt) (e : Entry) (hwf : WFEntry fmt e) :
    validate w fmt e = true ↔ Valid w fmt e := by
  refine ⟨fun h => ?_, validate_of_valid w fmt e⟩
  rw [validate_eq, Bool.and_eq_true, beq_iff_eq] at h
  refine ⟨h.1, ?_⟩
  unfold WFEntry at hwf
  cases hecl : e.eclasses with
  | none => trivial
  | some recs =>
    simp only [hecl, Bool.and_eq_true] at h hwf
    exact ⟨h.2.1, (rebuildOk_iff w fmt recs hwf).1 h.2.2⟩

theorem validB_iff (fmt : Fmt) (e : Entry) : validB w fmt e = true ↔ Valid w fmt e := by
  unfold validB Valid
  rw [Bool.and_eq_true, beq_iff_eq]
  refine and_congr Iff.rfl ?_
  cases e.eclasses with
  | none => simp
  | some recs =>
    simp only [Bool.and_eq_true, List.all_eq_true]
    refine and_congr Iff.rfl (forall₂_congr fun rec _ => ?_)
    unfold EclassCurrent
    cases w.eclass rec.1 with
    | none => exact ⟨nofun, fun ⟨_, h, _⟩ => nomatch h⟩
    | some info =>
      rw [List.all_eq_true]
      exact ⟨fun h => ⟨info, rfl, fun kv hkv => beq_iff_eq.1 (h kv hkv)⟩,
        fun ⟨_, h, hall⟩ kv hkv => by cases h; exact beq_iff_eq.2 (hall kv hkv)⟩

theorem validB_eq_validate (fmt : Fmt) (e : Entry) (hwf : WFEntry fmt e) :
    validB w fmt e = validate w fmt e :=
  Bool.eq_iff_iff.2 ((validB_iff w fmt e).trans (validate_iff w fmt e hwf).symm)

theorem valid_mkEntry (inherited : List String) (fmt : Fmt)
    (hex : ∀ n ∈ inherited, (w.eclass n).isSome = true) : Valid w fmt (mkEntry w inherited fmt) := by
  refine ⟨rfl, ?_⟩
  simp only [mkEntry]
  cases hi : inherited.isEmpty with
  | true => trivial
  | false =>
    refine ⟨rfl, fun rec hrec => ?_⟩
    obtain ⟨n, hn, rfl⟩ := List.mem_map.1 hrec
    obtain ⟨info, he⟩ := Option.isSome_iff_exists.1 (hex n hn)
    refine ⟨info, he, fun kv hkv => ?_⟩
    -- the values recorded are `fmt.eclassChfs.map info.get`, so every pair of the zip is `(k, info.get k)`
    simp only [he, List.zip_map_right] at hkv
    rw [List.zip_eq_zipWith, List.zipWith_self, List.map_map] at hkv
    obtain ⟨a, -, rfl⟩ := List.mem_map.1 hkv
    rfl

theorem validate_mkEntry (inherited : List String) (fmt : Fmt)
    (hex : ∀ n ∈ inherited, (w.eclass n).isSome = true) :
    validate w fmt (mkEntry w inherited fmt) = true :=
  validate_of_valid w fmt _ (valid_mkEntry w inherited fmt hex)

/-- a cache that holds a stale entry and is writable loses it; everything else is left alone -/
def clean (c : Cache) : Cache :=
  match c.slot with
  | .entry e => if validate w c.fmt e then c else if c.readonly then c else { c with slot := .absent }
  | _ => c

def holdsValidB (c : Cache) : Bool :=
  match c.slot with
  | .entry e => validate w c.fmt e
  | _ => false

theorem holdsValidB_true {c : Cache} (h : holdsValidB w c = true) :
    ∃ e, c.slot = .entry e ∧ validate w c.fmt e = true := by
  unfold holdsValidB at h
  split at h
  · next e hs => exact ⟨e, hs, h⟩
  · cases h

theorem holdsValidB_iff (c : Cache) (hwf : WFCache c) : holdsValidB w c = true ↔ HoldsValid w c := by
  unfold holdsValidB HoldsValid WFCache at *
  cases hs : c.slot with
  | absent => simp
  | unreadable => simp
  | entry e => rw [hs] at hwf; simp [validate_iff w c.fmt e hwf]

/-- the Spec's two notions over the cache list, through the index the walk stops at -/
theorem none_valid_iff (cs : List Cache) (hwf : ∀ c ∈ cs, WFCache c) :
    cs.findIdx? (holdsValidB w) = none ↔ ∀ c ∈ cs, ¬ HoldsValid w c := by
  rw [List.findIdx?_eq_none_iff]
  exact forall₂_congr fun c hc => by rw [← holdsValidB_iff w c (hwf c hc), Bool.not_eq_true]

theorem firstValid_iff (cs : List Cache) (hwf : ∀ c ∈ cs, WFCache c) (i p : Nat) :
    FirstValid w cs i p ↔
      cs.findIdx? (holdsValidB w) = some i ∧ ∃ c e, cs[i]? = some c ∧ c.slot = .entry e ∧ e.payload = p := by
  have hiff : ∀ {j} (hj : j < cs.length), holdsValidB w cs[j] = true ↔ HoldsValid w cs[j] :=
    fun hj => holdsValidB_iff w _ (hwf _ (List.getElem_mem hj))
  rw [List.findIdx?_eq_some_iff_getElem]
  constructor
  · rintro ⟨⟨c, e, hc, hs, hv, hp⟩, hmin⟩
    obtain ⟨hi, rfl⟩ := List.getElem?_eq_some_iff.1 hc
    exact ⟨⟨hi, (hiff hi).2 ⟨e, hs, hv⟩, fun j hj hb =>
      hmin j _ hj (List.getElem?_eq_getElem _) ((hiff (Nat.lt_trans hj hi)).1 hb)⟩, _, e, hc, hs, hp⟩
  · rintro ⟨⟨hi, hb, hmin⟩, c, e, hc, hs, hp⟩
    obtain ⟨_, rfl⟩ := List.getElem?_eq_some_iff.1 hc
    obtain ⟨e', hs', hv⟩ := (hiff hi).1 hb
    rw [hs] at hs'
    cases hs'
    refine ⟨⟨_, e, hc, hs, hv, hp⟩, fun j c hj hc hh => ?_⟩
    obtain ⟨hjl, rfl⟩ := List.getElem?_eq_some_iff.1 hc
    exact hmin j hj ((hiff hjl).2 hh)

theorem clean_cases (c : Cache) :
    clean w c = c ∨ (c.readonly = false ∧ (∃ e, c.slot = .entry e ∧ validate w c.fmt e = false) ∧
      clean w c = { c with slot := .absent }) := by
  unfold clean
  cases hs : c.slot with
  | absent => simp
  | unreadable => simp
  | entry e =>
    by_cases hv : validate w c.fmt e = true
    · simp [hv]
    · by_cases hr : c.readonly = true
      · simp [hv, hr]
      · right
        simp [hv, hr]

theorem clean_fmt_readonly (c : Cache) : (clean w c).fmt = c.fmt ∧ (clean w c).readonly = c.readonly := by
  rcases clean_cases w c with h | ⟨-, -, h⟩ <;> rw [h] <;> exact ⟨rfl, rfl⟩

theorem clean_of_readonly (c : Cache) (h : c.readonly = true) : clean w c = c := by
  rcases clean_cases w c with h' | ⟨hr, -, -⟩
  · exact h'
  · rw [h] at hr; cases hr

theorem clean_clean (c : Cache) : clean w (clean w c) = clean w c := by
  rcases clean_cases w c with h | ⟨-, -, h⟩
  · rw [h, h]
  · rw [h]; rfl

theorem holdsValidB_clean (c : Cache) : holdsValidB w (clean w c) = holdsValidB w c := by
  rcases clean_cases w c with h | ⟨-, ⟨e, hs, hv⟩, h⟩
  · rw [h]
  · rw [h]; simp [holdsValidB, hs, hv]

/-- in the form `List.findIdx_map` and `List.findIdx?_map` leave behind -/
theorem writable_clean : (fun c : Cache => !c.readonly) ∘ clean w = fun c => !c.readonly :=
  funext fun c => congrArg Bool.not (clean_fmt_readonly w c).2

theorem clean_no_stale (c : Cache) (hw : c.readonly = false) (e : Entry) (he : (clean w c).slot = .entry e) :
    validate w c.fmt e = true := by
  unfold clean at he
  split at he
  · next e' hs =>
    cases hv : validate w c.fmt e' with
    | true => rw [hv, if_pos rfl, hs] at he; cases he; exact hv
    | false => simp [hv, hw] at he
  · next hs => exact absurd he (hs e)

theorem walk_skip (c : Cache) (cs : List Cache) (i : Nat) (h : holdsValidB w c = false) :
    walk w (c :: cs) i = ((walk w cs (i + 1)).1, clean w c :: (walk w cs (i + 1)).2) := by
  unfold holdsValidB at h
  rw [walk]
  unfold clean
  split at h <;> simp_all

theorem walk_hit (c : Cache) (cs : List Cache) (i : Nat) (e : Entry) (hs : c.slot = .entry e)
    (hv : validate w c.fmt e = true) : walk w (c :: cs) i = (some (i, e.payload), c :: cs) := by
  unfold walk
  simp only [hs, hv, if_true]

theorem walk_append (a b : List Cache) (i : Nat) (h : ∀ c ∈ a, holdsValidB w c = false) :
    walk w (a ++ b) i = ((walk w b (i + a.length)).1, a.map (clean w) ++ (walk w b (i + a.length)).2) := by
  induction a generalizing i with
  | nil => rfl
  | cons c a ih =>
    rw [List.cons_append, walk_skip w c _ i (h c List.mem_cons_self),
      ih (i + 1) fun x hx => h x (List.mem_cons_of_mem _ hx), List.length_cons, Nat.add_assoc, Nat.add_comm 1]
    rfl

theorem walk_of_none (cs : List Cache) (h : cs.findIdx? (holdsValidB w) = none) :
    walk w cs 0 = (none, cs.map (clean w)) := by
  have := walk_append w cs [] 0 (List.findIdx?_eq_none_iff.1 h)
  rwa [List.append_nil, walk, List.append_nil] at this

theorem walk_of_some (cs : List Cache) (k : Nat) (h : cs.findIdx? (holdsValidB w) = some k) :
    ∃ (hk : k < cs.length) (e : Entry), cs[k].slot = .entry e ∧ validate w cs[k].fmt e = true ∧
      walk w cs 0 = (some (k, e.payload), (cs.take k).map (clean w) ++ cs.drop k) := by
  obtain ⟨hk, hv, hmin⟩ := List.findIdx?_eq_some_iff_getElem.1 h
  obtain ⟨e, hs, hval⟩ := holdsValidB_true w hv
  refine ⟨hk, e, hs, hval, ?_⟩
  have := walk_append w (cs.take k) (cs.drop k) 0 fun c hc => by
    obtain ⟨j, hj, rfl⟩ := List.mem_take_iff_getElem.1 hc
    exact Bool.eq_false_iff.2 (hmin j (by omega))
  rw [List.take_append_drop, List.length_take_of_le (Nat.le_of_lt hk), Nat.zero_add, List.drop_eq_getElem_cons hk,
    walk_hit w _ _ _ e hs hval] at this
  rw [this, List.drop_eq_getElem_cons hk]

theorem getMetadata_of_none (regen : Option (List String)) (cs : List Cache)
    (h : cs.findIdx? (holdsValidB w) = none) :
    getMetadata w regen cs = match regen with
      | none => (.failed, cs.map (clean w))
      | some inherited => (.regenerated, store (mkEntry w inherited) (cs.map (clean w))) := by
  unfold getMetadata
  rw [walk_of_none w cs h]
  cases regen <;> rfl

theorem getMetadata_of_some (regen : Option (List String)) (cs : List Cache) (k : Nat)
    (h : cs.findIdx? (holdsValidB w) = some k) :
    ∃ (hk : k < cs.length) (e : Entry), cs[k].slot = .entry e ∧ validate w cs[k].fmt e = true ∧
      getMetadata w regen cs = (.used k e.payload, (cs.take k).map (clean w) ++ cs.drop k) := by
  obtain ⟨hk, e, hs, hv, hw⟩ := walk_of_some w cs k h
  refine ⟨hk, e, hs, hv, ?_⟩
  unfold getMetadata
  rw [hw]

theorem getMetadata_of_regenerated (inherited : List String) (cs : List Cache)
    (hres : (getMetadata w (some inherited) cs).1 = .regenerated) :
    cs.findIdx? (holdsValidB w) = none ∧
      (getMetadata w (some inherited) cs).2 = store (mkEntry w inherited) (cs.map (clean w)) := by
  cases hf : cs.findIdx? (holdsValidB w) with
  | none => exact ⟨rfl, by rw [getMetadata_of_none w _ cs hf]⟩
  | some k =>
    obtain ⟨-, e, -, -, hg⟩ := getMetadata_of_some w (some inherited) cs k hf
    rw [hg] at hres
    cases hres

/-- what `store` does to the cache it writes to -/
def put (f : Fmt → Entry) (c : Cache) : Cache := { c with slot := .entry (f c.fmt) }

theorem store_eq (f : Fmt → Entry) (cs : List Cache) :
    store f cs = cs.modify (cs.findIdx fun c => !c.readonly) (put f) := by
  induction cs with
  | nil => rfl
  | cons c cs ih =>
    rw [store, List.findIdx_cons]
    -- only the test is rewritten: `cases c.readonly` would also change the flag inside `put f c`
    split
    · next h => rw [show (!c.readonly) = false by rw [h]; rfl]; exact congrArg (c :: ·) ih
    · next h => rw [show (!c.readonly) = true by simpa using h]; rfl

theorem store_length (f : Fmt → Entry) (cs : List Cache) : (store f cs).length = cs.length := by
  rw [store_eq, List.length_modify]

theorem store_no_writable (f : Fmt → Entry) (cs : List Cache) (h : ∀ c ∈ cs, c.readonly = true) : store f cs = cs := by
  rw [store_eq, List.modify_eq_self]
  exact Nat.le_of_eq (List.findIdx_eq_length_of_false fun c hc => by rw [h c hc]; rfl).symm

theorem store_clean_getElem? (f : Fmt → Entry) (cs : List Cache) (j : Nat) :
    (store f (cs.map (clean w)))[j]? =
      cs[j]?.map fun c => if (cs.findIdx (!·.readonly)) = j then put f c else clean w c := by
  rw [store_eq, List.getElem?_modify, List.findIdx_map, writable_clean, List.getElem?_map]
  cases cs[j]? with
  | none => rfl
  | some c =>
    show some _ = some _
    split
    · rcases clean_cases w c with h | ⟨-, -, h⟩ <;> rw [h] <;> rfl
    · rfl

/-- reading again after the fresh entry was stored: the walk stops at the cache written to and changes nothing -/
theorem walk_store (inherited : List String) (hex : ∀ n ∈ inherited, (w.eclass n).isSome = true)
    (l : List Cache) (k : Nat) (hnv : ∀ c ∈ l, holdsValidB w c = false) (hcl : ∀ c ∈ l, clean w c = c)
    (hk : l.findIdx? (fun c => !c.readonly) = some k) :
    walk w (store (mkEntry w inherited) l) 0 = (some (k, 0), store (mkEntry w inherited) l) := by
  obtain ⟨hkl, rfl⟩ := List.findIdx?_eq_some_iff_findIdx_eq.1 hk
  rw [store_eq, List.modify_eq_take_cons_drop hkl,
    walk_append w _ _ 0 fun c hc => hnv c (List.mem_of_mem_take hc),
    walk_hit w _ _ _ _ rfl (validate_mkEntry w inherited _ hex),
    List.length_take_of_le (Nat.le_of_lt hkl), Nat.zero_add,
    List.map_congr_left fun c hc => hcl c (List.mem_of_mem_take hc), List.map_id']
  rfl

end Pkgcore.C48
