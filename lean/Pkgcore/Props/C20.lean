import Pkgcore.Proofs.C20
/-!
# C20 — unmerge removes exactly what it owns and never base directories

`unmergeContents` mirrors `pkgcore.fs.ops.unmerge_contents`; `engineUninstall` / `engineReplace` the
`MergeEngine.uninstall` / `.replace` runs with the `merge`, `unmerge` and `BaseSystemUnmergeProtection` triggers
(Model/C20), over the abstract file system of C18.
-/
namespace Pkgcore.C20
open Pkgcore.C18 Pkgcore.C18.Spec Pkgcore.C20.Spec

/-- **Unmerge removes exactly what it owns** — for every file system, every contents set keyed by location and
every process identity: if `unmerge_contents` returns normally, every listed non-directory is gone, a listed
directory is either untouched or gone — gone only if it was a directory and has left nothing behind — and every
path that is not listed is exactly as before (same inode, data, metadata). -/
theorem unmerge_exact (env : Env) (pre : Fs) (es : List Entry) (s : St) (hd : DistinctLocs es)
    (h : unmergeContents env es pre = (s, .ok ())) : Unmerged pre es s.fs :=
  (unmergeFrom_ok hd h).spec

/-! non-vacuity: a file and a symlink to a directory are unlinked, two nested empty directories go, the listed
directory with a foreign file stays, the link's target is untouched -/
example : (unmergeContents exEnv exEs exPre).2.isOk = true ∧ DistinctLocs exEs ∧
    (keys (unmergeContents exEnv exEs exPre).1.fs) = [[], ["t"], ["keep", "t"], ["usr"], ["x", "usr"]] := by decide +kernel

/-- **… and does remove the directories it has emptied**: a listed directory that is still a directory
afterwards is not empty (or is the root) — this is where the reverse location order of the second loop matters. -/
theorem unmerge_removes_emptied_dirs (env : Env) (pre : Fs) (es : List Entry) (s : St) (hd : DistinctLocs es)
    (h : unmergeContents env es pre = (s, .ok ())) : EmptiedDirsGone es s.fs :=
  (unmergeFrom_ok hd h).emptiedGone

example : EmptiedDirsGone exEs (unmergeContents exEnv exEs exPre).1.fs ∧
    IsDirAt (unmergeContents exEnv exEs exPre).1.fs ["usr"] := by decide +kernel

/-- **A symlink is never followed**: the only system calls are `unlink`/`rmdir` on the *literal* listed
locations, and a path that is not listed — such as the target of a listed symlink — is exactly as before. -/
theorem no_symlink_follow (env : Env) (pre : Fs) (es : List Entry) (s : St) (hd : DistinctLocs es)
    (h : unmergeContents env es pre = (s, .ok ())) :
    (∀ ev ∈ s.log, ∃ p ∈ locs es, ev.1 = .unlink p ∨ ev.1 = .rmdir p) ∧
    (∀ q : Path, q ∉ locs es → s.fs.view q = pre.view q) := by
  have p := unmergeFrom_ok hd h
  obtain ⟨ops, hl, ho⟩ := p.log
  simp only [List.nil_append] at hl
  exact ⟨by rw [hl]; exact ho, p.spec.unlisted⟩

example : exPre.view ["l"] = some (7, ⟨.sym "t", 0o777, 0, 0, 5⟩) ∧
    (unmergeContents exEnv exEs exPre).1.fs.view ["l"] = none ∧
    (unmergeContents exEnv exEs exPre).1.fs.view ["keep", "t"] = exPre.view ["keep", "t"] := by decide +kernel

/-- the generated table names the base directories of the property (an edit of the list in the repository that
drops one of them makes this fail to re-prove) -/
theorem base_dirs_table :
    ["usr"] ∈ protectedPaths ∧ ["etc"] ∈ protectedPaths ∧ ["var"] ∈ protectedPaths ∧ ["bin"] ∈ protectedPaths ∧
    ["sbin"] ∈ protectedPaths ∧ ["lib"] ∈ protectedPaths ∧ ["lib64"] ∈ protectedPaths ∧
    ["lib", "usr"] ∈ protectedPaths ∧ ["lib64", "usr"] ∈ protectedPaths ∧ ["bin", "usr"] ∈ protectedPaths ∧
    ["sbin", "usr"] ∈ protectedPaths := by decide +kernel

example : (engineUninstall exEnv exEs exPre).2.isOk = true ∧ exPre.view ["usr"] ≠ none := by decide +kernel

/-- **Uninstall through the engine**: the recorded locations are looked up on the live file system; what is a
non-directory there is gone, what is a directory there is gone only if empty, unrecorded paths and protected
directories are untouched. -/
theorem uninstall_exact (env : Env) (pre : Fs) (old : List Entry) (s : St) (hd : DistinctLocs old)
    (h : engineUninstall env old pre = (s, .ok ())) : Uninstalled pre old s.fs := by
  have hnd : DistinctLocs (uninstallPlan pre old) := List.Nodup.sublist (locs_uninstallPlan_sublist pre old) hd
  exact uninstalled_of_unmerged (unmergeFrom_ok hnd h).spec

example : uninstalledFailures exPre exEs (engineUninstall exEnv exEs exPre).1.fs = [] := by decide +kernel

/-- **Replace keeps what the new package installs**: after the merge of `new` (state `mid`), the unmerge of the old
package touches no location of `new`; old-only live non-directories are gone, old-only directories only if empty,
unrecorded paths and protected directories are as the merge left them. -/
theorem replace_keeps_new (env : Env) (pre : Fs) (old new : List Entry) (s : St) (hd : DistinctLocs old)
    (h : engineReplace env old new pre = (s, .ok ())) :
    ∃ mid, mergeContents env false new pre = (mid, .ok ()) ∧ Replaced mid.fs old new s.fs := by
  unfold engineReplace at h
  generalize hm : mergeContents env false new pre = r at h
  obtain ⟨s1, r1⟩ := r
  cases r1 with
  | error e => simp at h
  | ok u =>
    simp only at h
    have hnd : DistinctLocs (removePlan s1.fs old new) := List.Nodup.sublist (locs_removePlan_sublist s1.fs old new) hd
    exact ⟨s1, rfl, replaced_of_unmerged (unmergeFrom_ok hnd h).spec⟩

example : (engineReplace exEnv exEs exNew exPre).2.isOk = true ∧
    ((engineReplace exEnv exEs exNew exPre).1.fs.view ["f", "a", "opt"]).map (·.2.kind) = some (.file "6e6577") ∧
    (engineReplace exEnv exEs exNew exPre).1.fs.view ["l"] = none := by decide +kernel

/-- **The protected base-system directories survive both engines** — for every recorded old contents, new
contents and file system: no path of `BaseSystemUnmergeProtection._preserve_sequence` (generated table) is touched
by the unmerge of an uninstall or of a replace. -/
theorem base_dirs_kept (env : Env) (pre : Fs) (old new : List Entry) (hd : DistinctLocs old) :
    (∀ s, engineUninstall env old pre = (s, .ok ()) → ∀ q ∈ protectedPaths, s.fs.view q = pre.view q) ∧
    (∀ s, engineReplace env old new pre = (s, .ok ()) →
      ∀ q ∈ protectedPaths, s.fs.view q = (mergeContents env false new pre).1.fs.view q) := by
  refine ⟨fun s h => (uninstall_exact env pre old s hd h).base, fun s h q hq => ?_⟩
  obtain ⟨mid, hm, hr⟩ := replace_keeps_new env pre old new s hd h
  rw [hm]; exact hr.base q hq

/-- **… under whatever name**: on a live root where directory symlinks give one object several names (`resP` =
location with its directory part resolved, `resF` = fully resolved; arbitrary functions here), nothing that remains
in the remove set of a replace is a new entry: not literally, not as the same directory entry under another name,
and not as the directory a new directory entry denotes. -/
theorem replace_keeps_aliased (resP resF : Path → Path) (live new : List Entry) :
    ∀ e ∈ removePlanOf resP resF live new, ∀ x ∈ new,
      e.loc ≠ x.loc ∧ resP e.loc ≠ resP x.loc ∧ (x.isDir = true → resP e.loc ≠ resF x.loc) := by
  intro e he x hx
  have h1 := (List.mem_filter.mp he).1
  have h2 := List.mem_filter.mp h1
  have h3 := (List.mem_filter.mp h2.1).2
  have h4 := h2.2
  simp only [decide_eq_true_eq] at h3 h4
  refine ⟨fun e0 => h3 (e0 ▸ List.mem_map_of_mem hx), fun e0 => h4 (mem_keptNames.mpr ⟨x, hx, Or.inl e0⟩),
    fun hd e0 => h4 (mem_keptNames.mpr ⟨x, hx, Or.inr ⟨hd, e0⟩⟩)⟩

/-- on literal paths (no aliasing) this is the plan of `engineReplace` -/
theorem removePlanOf_literal (fs : Fs) (old new : List Entry) :
    removePlanOf id id (liveIntersect fs old) new = removePlan fs old new := by
  unfold removePlanOf removePlan
  rw [removeCsetOf_id]

example : (removePlanOf (fun p => if p = ["d", "l"] then ["d", "t"] else p) id
    [⟨["d", "t"], .dir, 0, 0, 0, 0⟩, ⟨["o"], .reg "" none, 0, 0, 0, 0⟩] [⟨["d", "l"], .dir, 0, 0, 0, 0⟩]).map (·.loc)
    = [["o"]] := by decide +kernel

/-- **The driver evaluates the specification itself** -/
theorem unmerged_bounded_iff (pre : Fs) (es : List Entry) (fin : Fs) :
    (Unmerged pre es fin ∧ EmptiedDirsGone es fin) ↔ unmergedFailures pre es fin = [] := by
  unfold unmergedFailures
  simp only [List.append_eq_nil_iff, Lib.ite_nil_iff, ← unlisted_bounded]
  exact ⟨fun ⟨h, hf⟩ => ⟨⟨⟨h.nondirs, h.dirs⟩, h.unlisted⟩, hf⟩,
    fun ⟨⟨⟨h1, h2⟩, h3⟩, h4⟩ => ⟨⟨h1, h2, h3⟩, h4⟩⟩

example : unmergedFailures exPre exEs exPre ≠ [] := by decide +kernel

end Pkgcore.C20
