import Pkgcore.Spec.C14
import Pkgcore.Proofs.Lib
/-! C14: the predicates of the property statements (`Inv`, `LogOk`, the guards; `Same` is in Spec/C14), then `step` on a
request by the outcome of its loop and on a read, the cache invariant, undoing a refused request by `rollback`
(`addAll_rollback`, `removeAll_rollback`), the consistency of the change log, the output at one position of a history as
that of one step (`run_getElem`), and the reference loops in terms of the model's (`enableAll_eq`, `disableAll_eq`). -/
-- `inv_*`, `same_refl`, `same_trans`, `logOk_commit` take a `DecidableEq` of the `variable` line that they do not need
set_option linter.unusedSectionVars false
namespace Pkgcore.C14
open Pkgcore.C14.Spec

variable {α : Type} [DecidableEq α] {β : Type} [DecidableEq β] (v : Variant) (locked : α → Bool)

/-- every cache entry is from a generation not later than the current one, and an entry of the current
generation holds exactly the current USE set -/
def Inv (s : PW α β) : Prop :=
  ∀ a pt snap, s.cache a = some (pt, snap) → pt ≤ s.reusePt ∧ (pt = s.reusePt → snap = s.use.new)

/-- the change log is consistent.  `rollback` executes `self._changed.remove(key)` and, for an `added` entry,
`self._new.remove(key)`; both would raise `KeyError` on an absent key.  The model uses the total `setDel`; this
invariant shows the difference is unobservable on every reachable state. -/
def LogOk (u : LCS α) : Prop :=
  (u.log.map (·.2)).Nodup ∧ (∀ k, k ∈ u.changed ↔ k ∈ u.log.map (·.2)) ∧ (∀ k, (Chg.added, k) ∈ u.log → k ∈ u.new)

/-- no flag of the request is already enabled while still freely changeable (such an `add` changes nothing
but is logged, and snakeoil's `rollback` undoes it as if it had inserted the flag) -/
def EnableGuard (locked : α → Bool) (u : LCS α) (vals : List α) : Prop :=
  ∀ v ∈ vals, v ∈ u.new → (v ∈ u.changed ∨ locked v = true)

def DisableGuard (locked : α → Bool) (u : LCS α) (vals : List α) : Prop :=
  ∀ v ∈ vals, v ∉ u.new → (v ∈ u.changed ∨ locked v = true)

/-- the guard of the partial theorems: the request names no flag whose `add`/`remove` is a logged no-op
(already enabled resp. already disabled, not locked, not yet changed since the last commit) -/
def OpGuard (locked : α → Bool) (u : LCS α) : Op α β → Prop
  | .enable vals => EnableGuard locked u vals
  | .disable vals => DisableGuard locked u vals
  | _ => True

theorem step_enable (s : PW α β) (vals : List α) :
    step v locked s (.enable vals) =
      bif (addAll locked s.use vals).2 then
        ({ s with use := (addAll locked s.use vals).1, reusePt := s.reusePt + 1 }, .bool true)
      else (s.rollbackTo (addAll locked s.use vals).1 s.use.count, .bool false) := by
  simp only [step]
  generalize addAll locked s.use vals = r
  obtain ⟨u, b⟩ := r
  cases b <;> rfl

theorem step_disable (s : PW α β) (vals : List α) :
    step v locked s (.disable vals) =
      match (removeAll locked v.keyErrorCaught s.use vals).2 with
      | .done => ({ s with use := (removeAll locked v.keyErrorCaught s.use vals).1,
                           reusePt := if v.disableBumps then s.reusePt + 1 else s.reusePt }, .bool true)
      | .refused => (s.rollbackTo (removeAll locked v.keyErrorCaught s.use vals).1 s.use.count, .bool false)
      | .keyError => ({ s with use := (removeAll locked v.keyErrorCaught s.use vals).1 }, .keyError) := by
  simp only [step]
  generalize removeAll locked v.keyErrorCaught s.use vals = r
  obtain ⟨u, b⟩ := r
  cases b <;> rfl

theorem removeAll_caught_ne_keyError (vals : List α) (t : LCS α) :
    (removeAll locked true t vals).2 ≠ RemRes.keyError := by
  -- the cases of `removeAll`: no flag left; `remove` accepts; refuses; raises `KeyError`, caught; raises it, not caught
  fun_induction removeAll locked true t vals with
  | case1 => nofun
  | case2 t k ks t' e ih => exact ih
  | case3 => nofun
  | case4 t k ks e hc ih => exact ih
  | case5 t k ks e hc => cases hc rfl

theorem step_read_state (s : PW α β) (attr : β) :
    (step v locked s (.read attr)).1 = s ∨
    (step v locked s (.read attr)).1 =
      { s with cache := fun a => if a = attr then some (s.reusePt, s.use.new) else s.cache a } := by
  simp only [step]
  cases s.cache attr with
  | none => exact .inr rfl
  | some p =>
    obtain ⟨pt, snap⟩ := p
    by_cases hp : pt = s.reusePt
    · exact .inl (by simp only [if_pos hp])
    · exact .inr (by simp only [if_neg hp])

theorem step_read_out (s : PW α β) (h : Inv s) (attr : β) :
    (step v locked s (.read attr)).2 = .value s.use.new := by
  simp only [step]
  split
  · rename_i pt snap hc
    split
    · rename_i e
      rw [(h attr pt snap hc).2 e]
    · rfl
  · rfl

theorem inv_init (initial : List α) : Inv (PW.init initial : PW α β) := by
  intro a pt snap h
  simp [PW.init] at h

theorem inv_bump (s : PW α β) (u : LCS α) (h : Inv s) : Inv { s with use := u, reusePt := s.reusePt + 1 } := by
  intro a pt snap hc
  have := h a pt snap hc
  refine ⟨?_, fun e => ?_⟩
  · simp
    omega
  · simp at e
    omega

theorem inv_same_new (s : PW α β) (u : LCS α) (hu : u.new = s.use.new) (h : Inv s) : Inv { s with use := u } := by
  intro a pt snap hc
  have := h a pt snap hc
  exact ⟨this.1, fun e => (this.2 e).trans hu.symm⟩

theorem inv_store (s : PW α β) (attr : β) (h : Inv s) :
    Inv { s with cache := fun a => if a = attr then some (s.reusePt, s.use.new) else s.cache a } := by
  intro a pt snap hc
  simp only at hc
  split at hc
  · simp at hc
    obtain ⟨rfl, rfl⟩ := hc
    simp
  · exact h a pt snap hc

theorem inv_step (s : PW α β) (op : Op α β) (h : Inv s) :
    Inv (step Variant.fixed locked s op).1 := by
  cases op with
  | enable vals =>
    rw [step_enable]
    cases (addAll locked s.use vals).2 <;> exact inv_bump s _ h
  | disable vals =>
    rw [step_disable]
    cases hr : (removeAll locked Variant.fixed.keyErrorCaught s.use vals).2 with
    | done => exact inv_bump s _ h
    | refused => exact inv_bump s _ h
    | keyError => exact absurd hr (removeAll_caught_ne_keyError locked vals s.use)
  | rollback point =>
    simp only [step]
    split
    · exact h
    · exact inv_bump s _ h
  | commit =>
    simpa [step, Variant.fixed] using inv_bump s s.use.commit h
  | read attr =>
    rcases step_read_state Variant.fixed locked s attr with e | e <;> rw [e]
    · exact h
    · exact inv_store s attr h
  | refusedWrapped => exact inv_bump s _ h
  | readFail attr => exact h

theorem inv_run (ops : List (Op α β)) (s : PW α β) (h : Inv s) :
    Inv (run Variant.fixed locked s ops).1 := by
  induction ops generalizing s with
  | nil => exact h
  | cons op ops ih => exact ih _ (inv_step locked s op h)

theorem mem_setAdd (l : List α) (k f : α) : f ∈ LCS.setAdd l k ↔ f ∈ l ∨ f = k :=
  Lib.mem_add_if_absent id f

theorem mem_setDel (l : List α) (k f : α) : f ∈ LCS.setDel l k ↔ f ∈ l ∧ f ≠ k := by
  simp [LCS.setDel]

theorem same_refl (u : LCS α) : Same u u := ⟨fun _ => Iff.rfl, fun _ => Iff.rfl, rfl⟩

theorem same_trans {a b c : LCS α} (h1 : Same a b) (h2 : Same b c) : Same a c :=
  ⟨fun f => (h1.1 f).trans (h2.1 f), fun f => (h1.2.1 f).trans (h2.2.1 f), h1.2.2.trans h2.2.2⟩

theorem popOne_same {a b : LCS α} (h : Same a b) : Same (LCS.popOne a) (LCS.popOne b) := by
  obtain ⟨hn, hc, hl⟩ := h
  unfold LCS.popOne
  rw [hl]
  split
  · exact ⟨hn, hc, hl⟩
  · rename_i c k rest hb
    refine ⟨?_, ?_, rfl⟩
    · intro f
      cases c <;> simp [mem_setAdd, mem_setDel, hn f]
    · intro f
      simp [mem_setDel, hc f]

theorem popN_succ_last (n : Nat) (s : LCS α) : LCS.popN (n + 1) s = LCS.popOne (LCS.popN n s) := by
  induction n generalizing s with
  | zero => rfl
  | succ n ih => simp only [LCS.popN] at ih ⊢; rw [ih]

/-- the state after a change of `k` that `add` (`c = added`) or `remove` (`c = removed`) accepts and logs -/
def LCS.push (c : Chg) (u : LCS α) (k : α) : LCS α :=
  ⟨match c with | .added => LCS.setAdd u.new k | .removed => LCS.setDel u.new k, k :: u.changed, (c, k) :: u.log⟩

theorem add_ok {u u' : LCS α} {k : α} (e : LCS.add locked u k = .ok u') :
    u' = u ∨ (¬ (k ∈ u.changed ∨ locked k = true) ∧ u' = u.push .added k) := by
  unfold LCS.add at e
  by_cases hb : k ∈ u.changed ∨ locked k = true
  · rw [if_pos hb] at e
    by_cases hn : k ∈ u.new
    · rw [if_pos hn] at e; cases e; exact .inl rfl
    · rw [if_neg hn] at e; cases e
  · rw [if_neg hb] at e; cases e; exact .inr ⟨hb, rfl⟩

theorem remove_ok {u u' : LCS α} {k : α} (e : LCS.remove locked u k = .ok u') :
    ¬ (k ∈ u.changed ∨ locked k = true) ∧ u' = u.push .removed k := by
  unfold LCS.remove at e
  by_cases hb : k ∈ u.changed ∨ locked k = true
  · rw [if_pos hb] at e
    by_cases hn : k ∈ u.new <;> simp only [hn, if_true, if_false] at e <;> cases e
  · rw [if_neg hb] at e; cases e; exact ⟨hb, rfl⟩

/-- a logged change that really changed the set (insertion of an absent flag, removal of a present one) is undone by
one step of `rollback` -/
theorem popOne_push (c : Chg) (u : LCS α) (k : α) (hch : k ∉ u.changed) (hnew : k ∈ u.new ↔ c = .removed) :
    Same (LCS.popOne (u.push c k)) u := by
  refine ⟨fun f => ?_, fun f => ?_, rfl⟩
  · cases c <;> simp only [LCS.popOne, LCS.push, mem_setDel, mem_setAdd]
    · refine ⟨fun h => h.elim (·.1) (· ▸ hnew.2 rfl), fun h => ?_⟩
      by_cases e : f = k
      · exact Or.inr e
      · exact Or.inl ⟨h, e⟩
    · exact ⟨fun ⟨h, hne⟩ => h.resolve_right hne, fun h => ⟨Or.inl h, fun e => nomatch hnew.1 (e ▸ h)⟩⟩
  · simp only [LCS.popOne, LCS.push, mem_setDel, List.mem_cons]
    exact ⟨fun ⟨h, hne⟩ => h.resolve_left hne, fun h => ⟨Or.inr h, fun e => hch (e ▸ h)⟩⟩

/-- undoing the changes `t` has logged beyond those of `u` gives `u` back; the inequality is what lets
`rollsBackTo_push` split the (truncated) difference of the counts -/
def RollsBackTo (t u : LCS α) : Prop := u.count ≤ t.count ∧ Same (LCS.popN (t.count - u.count) t) u

theorem rollsBackTo_refl (u : LCS α) : RollsBackTo u u :=
  ⟨Nat.le_refl _, by rw [Nat.sub_self]; exact same_refl u⟩

theorem rollsBackTo_push {t u : LCS α} (c : Chg) (k : α) (hch : k ∉ u.changed) (hnew : k ∈ u.new ↔ c = .removed)
    (ht : RollsBackTo t (u.push c k)) : RollsBackTo t u := by
  obtain ⟨hle, hs⟩ := ht
  have hc : (u.push c k).count = u.count + 1 := rfl
  rw [hc] at hle hs
  refine ⟨Nat.le_of_succ_le hle, ?_⟩
  have e : t.count - u.count = (t.count - (u.count + 1)) + 1 := by
    rw [Nat.sub_add_eq, Nat.sub_add_cancel (Nat.sub_pos_of_lt hle)]
  rw [e, popN_succ_last]
  exact same_trans (popOne_same hs) (popOne_push c u k hch hnew)

theorem addAll_rollback (vals : List α) (u : LCS α) (g : EnableGuard locked u vals) :
    RollsBackTo (addAll locked u vals).1 u := by
  -- the cases of `addAll`: no flag left; `add` accepts; `add` refuses
  fun_induction addAll locked u vals with
  | case1 u => exact rollsBackTo_refl u
  | case2 u k ks u' e ih =>
    have gks : EnableGuard locked u ks := fun w hw => g w (List.mem_cons_of_mem _ hw)
    rcases add_ok locked e with rfl | ⟨hb, rfl⟩
    · exact ih gks
    · refine rollsBackTo_push .added k (fun h => hb (.inl h)) ⟨fun h => absurd (g k List.mem_cons_self h) hb, nofun⟩
        (ih fun w hw hwn => ?_)
      rcases (mem_setAdd _ _ _).1 hwn with h | rfl
      · exact (gks w hw h).imp_left (List.mem_cons_of_mem _)
      · exact .inl List.mem_cons_self
  | case3 u => exact rollsBackTo_refl u

theorem removeAll_rollback (vals : List α) (u : LCS α) (g : DisableGuard locked u vals) :
    RollsBackTo (removeAll locked true u vals).1 u := by
  -- the cases of `removeAll`, in the order said in `removeAll_caught_ne_keyError`
  fun_induction removeAll locked true u vals with
  | case1 u => exact rollsBackTo_refl u
  | case2 u k ks u' e ih =>
    obtain ⟨hb, rfl⟩ := remove_ok locked e
    refine rollsBackTo_push .removed k (fun h => hb (.inl h))
      ⟨fun _ => rfl, fun _ => Decidable.byContradiction fun h => hb (g k List.mem_cons_self h)⟩
      (ih fun w hw hwn => ?_)
    by_cases hwk : w = k
    · exact .inl (hwk ▸ List.mem_cons_self)
    · exact (g w (List.mem_cons_of_mem _ hw) fun h => hwn ((mem_setDel _ _ _).2 ⟨h, hwk⟩)).imp_left
        (List.mem_cons_of_mem _)
  | case3 u => exact rollsBackTo_refl u
  | case4 u k ks e hc ih => exact ih fun w hw => g w (List.mem_cons_of_mem _ hw)
  | case5 u k ks e hc => cases hc rfl

theorem logOk_init (initial : List α) : LogOk (LCS.init initial) := by
  simp [LogOk, LCS.init]

theorem logOk_commit (u : LCS α) : LogOk u.commit := by
  simp [LogOk, LCS.commit]

theorem logOk_push (c : Chg) (u : LCS α) (k : α) (h : LogOk u) (hk : k ∉ u.changed) : LogOk (u.push c k) := by
  obtain ⟨h1, h2, h3⟩ := h
  have hkl : k ∉ u.log.map (·.2) := fun hm => hk ((h2 k).2 hm)
  refine ⟨List.nodup_cons.2 ⟨hkl, h1⟩, fun f => ?_, fun f hf => ?_⟩
  · show f ∈ k :: u.changed ↔ f ∈ ((c, k) :: u.log).map (·.2)
    rw [List.map_cons, List.mem_cons, List.mem_cons, h2 f]
  · change (Chg.added, f) ∈ (c, k) :: u.log at hf
    rcases List.mem_cons.1 hf with hc | hl
    · cases hc; exact (mem_setAdd _ _ _).2 (.inr rfl)
    · have hfk : f ≠ k := fun e => hkl (List.mem_map.2 ⟨_, e ▸ hl, rfl⟩)
      cases c
      · exact (mem_setDel _ _ _).2 ⟨h3 f hl, hfk⟩
      · exact (mem_setAdd _ _ _).2 (.inl (h3 f hl))

theorem logOk_add (u u' : LCS α) (k : α) (h : LogOk u) (e : LCS.add locked u k = .ok u') :
    LogOk u' := by
  rcases add_ok locked e with rfl | ⟨hb, rfl⟩
  · exact h
  · exact logOk_push .added u k h fun hk => hb (.inl hk)

theorem logOk_remove (u u' : LCS α) (k : α) (h : LogOk u) (e : LCS.remove locked u k = .ok u') :
    LogOk u' := by
  obtain ⟨hb, rfl⟩ := remove_ok locked e
  exact logOk_push .removed u k h fun hk => hb (.inl hk)

theorem logOk_popOne (u : LCS α) (h : LogOk u) : LogOk (LCS.popOne u) := by
  unfold LCS.popOne
  split
  · exact h
  · rename_i c k rest hl
    obtain ⟨h1, h2, h3⟩ := h
    rw [hl] at h1 h2 h3
    simp only [List.map_cons, List.nodup_cons] at h1
    refine ⟨h1.2, ?_, ?_⟩
    · intro f
      simp only [mem_setDel, h2 f, List.map_cons, List.mem_cons]
      exact ⟨fun ⟨h, hne⟩ => h.resolve_left hne, fun h => ⟨.inr h, fun e => h1.1 (e ▸ h)⟩⟩
    · intro f hf
      have hfk : f ≠ k := fun e => h1.1 (e ▸ List.mem_map.2 ⟨_, hf, rfl⟩)
      have := h3 f (List.mem_cons_of_mem _ hf)
      cases c
      · exact (mem_setAdd _ _ _).2 (Or.inl this)
      · exact (mem_setDel _ _ _).2 ⟨this, hfk⟩

theorem logOk_popN (n : Nat) (u : LCS α) (h : LogOk u) : LogOk (LCS.popN n u) := by
  induction n generalizing u with
  | zero => exact h
  | succ n ih => exact ih _ (logOk_popOne u h)

theorem logOk_addAll (vals : List α) (u : LCS α) (h : LogOk u) :
    LogOk (addAll locked u vals).1 := by
  fun_induction addAll locked u vals with
  | case1 => exact h
  | case2 u k ks u' e ih => exact ih (logOk_add locked u u' k h e)
  | case3 => exact h

theorem logOk_removeAll (c : Bool) (vals : List α) (u : LCS α) (h : LogOk u) :
    LogOk (removeAll locked c u vals).1 := by
  fun_induction removeAll locked c u vals with
  | case1 => exact h
  | case2 u k ks u' e ih => exact ih (logOk_remove locked u u' k h e)
  | case3 => exact h
  | case4 u k ks e hc ih => exact ih h
  | case5 => exact h

theorem logOk_step (s : PW α β) (op : Op α β) (h : LogOk s.use) :
    LogOk (step v locked s op).1.use := by
  cases op with
  | enable vals =>
    have := logOk_addAll locked vals s.use h
    rw [step_enable]
    cases (addAll locked s.use vals).2
    · exact logOk_popN _ _ this
    · exact this
  | disable vals =>
    have := logOk_removeAll locked v.keyErrorCaught vals s.use h
    rw [step_disable]
    cases (removeAll locked v.keyErrorCaught s.use vals).2
    · exact this
    · exact logOk_popN _ _ this
    · exact this
  | rollback point =>
    simp only [step, LCS.rollback]
    split
    · exact h
    · rename_i u e
      split at e
      · simp at e
      · simp only [Option.some.injEq] at e
        subst e
        exact logOk_popN _ _ h
  | commit => exact logOk_commit _
  | read attr => rcases step_read_state v locked s attr with e | e <;> rw [e] <;> exact h
  | refusedWrapped => exact logOk_popN _ _ h
  | readFail attr => exact h

theorem logOk_run (ops : List (Op α β)) (s : PW α β) (h : LogOk s.use) :
    LogOk (run v locked s ops).1.use := by
  induction ops generalizing s with
  | nil => exact h
  | cons op ops ih => exact ih _ (logOk_step v locked s op h)

theorem run_getElem (s : PW α β) (pre : List (Op α β)) (op : Op α β) (post : List (Op α β)) :
    (run v locked s (pre ++ op :: post)).2[pre.length]? = some (step v locked (run v locked s pre).1 op).2 := by
  induction pre generalizing s with
  | nil => rfl
  | cons x pre ih => exact ih _

theorem enableAll_eq (vals : List α) (u : LCS α) :
    enableAll locked u vals = bif (addAll locked u vals).2 then some (addAll locked u vals).1 else none := by
  induction vals generalizing u with
  | nil => simp [enableAll, addAll]
  | cons k ks ih =>
    cases h : LCS.add locked u k <;> simp only [enableAll, addAll, h]
    · exact ih _
    · rfl
    · rfl

theorem disableAll_eq (vals : List α) (u : LCS α) :
    disableAll locked u vals =
      if (removeAll locked true u vals).2 = .done then some (removeAll locked true u vals).1 else none := by
  induction vals generalizing u with
  | nil => simp [disableAll, removeAll]
  | cons k ks ih =>
    cases h : LCS.remove locked u k <;> simp only [disableAll, removeAll, h]
    · exact ih _
    · rfl
    · exact ih u

end Pkgcore.C14
