import Pkgcore.Proofs.C16
/-!
# C16 — resolver choice policy

`upgradeStream` / `reuseStream` mirror the candidate streams the resolver walks for one atom
(`prefer_highest_version_strategy`, `prefer_reuse_strategy`: per-repository `sorted(reverse=True)`, `iter_sort` with
`highest_iter_sort`); `Before` / `UpgradeOrdered` are the policy stated with the PMS order of C01's specification.
Hypotheses: versions are well formed (`CandWF`, what `isvalid_version_re` accepts) and every repository is
homogeneous in `repo.livefs` (`RepoOk`).  Any number of repositories and candidates.

That the resolver *takes* the first candidate of the stream that resolves is not proved (the search is not modelled, see
C15); it is checked on the real resolver by the harness.
-/
namespace Pkgcore.C16
open List

/-- **The upgrade stream is the policy order**: it offers exactly the matching candidates, each version before every
lower one, and among equal versions the installed instance first. -/
theorem upgrade_stream_ordered (dbs : List Repo) (hw : ∀ r ∈ dbs, ∀ c ∈ r, CandWF c) (ho : ∀ r ∈ dbs, RepoOk r) :
    upgradeStream dbs ~ dbs.flatten ∧ UpgradeOrdered (upgradeStream dbs) := by
  have hp := preferLivefs_perm dbs
  obtain ⟨p, o⟩ := merged_spec (dbs := preferLivefs dbs) (fun r hr => hw r (hp.mem_iff.mp hr))
    (fun r hr => ho r (hp.mem_iff.mp hr))
  exact ⟨p.trans hp.flatten, o⟩

/-- **Highest first, installed first among equals**: the first candidate offered has a maximal version, and if an installed
candidate has that version the first candidate is an installed one. -/
theorem highest_first (dbs : List Repo) (hw : ∀ r ∈ dbs, ∀ c ∈ r, CandWF c) (ho : ∀ r ∈ dbs, RepoOk r)
    (h : Cand) (rest : List Cand) (hs : upgradeStream dbs = h :: rest) :
    h ∈ dbs.flatten ∧ ∀ c ∈ dbs.flatten, pms c h ≠ .gt ∧ (pms c h = .eq → c.livefs = true → h.livefs = true) := by
  obtain ⟨p, o⟩ := upgrade_stream_ordered dbs hw ho
  rw [hs] at p o
  refine ⟨p.mem_iff.mp (by simp), ?_⟩
  intro c hc
  have hcw : CandWF c := by obtain ⟨r, hr, hcr⟩ := List.mem_flatten.mp hc; exact hw r hr c hcr
  have hhw : CandWF h := by
    obtain ⟨r, hr, hcr⟩ := List.mem_flatten.mp (p.mem_iff.mp (by simp : h ∈ h :: rest)); exact hw r hr h hcr
  rcases List.mem_cons.mp (p.mem_iff.mpr hc) with rfl | hcr
  · exact ⟨by rw [pms_self hcw]; decide, fun _ hl => hl⟩
  · rw [pms_swap hcw hhw]
    rcases (List.pairwise_cons.mp o).1 c hcr with hgt | ⟨heq, hl⟩
    · rw [hgt]; exact ⟨by decide, fun h' => by cases h'⟩
    · rw [heq]; exact ⟨by decide, fun _ => hl⟩

/-- **Reuse first**: the minimal-install stream offers every installed candidate before any other one (each group in
policy order), and offers exactly the matching candidates. -/
theorem reuse_first (dbs : List Repo) (hw : ∀ r ∈ dbs, ∀ c ∈ r, CandWF c) (ho : ∀ r ∈ dbs, RepoOk r) :
    ∃ inst other, reuseStream dbs = inst ++ other ∧ (∀ c ∈ inst, c.livefs = true) ∧ (∀ c ∈ other, c.livefs = false) ∧
      UpgradeOrdered inst ∧ UpgradeOrdered other ∧ inst ++ other ~ dbs.flatten := by
  have mem_f : ∀ (q : Repo → Bool) r, r ∈ dbs.filter q → r ∈ dbs := fun q r hr => (List.mem_filter.mp hr).1
  obtain ⟨p1, o1⟩ := merged_spec (dbs := dbs.filter isLivefs) (fun r hr => hw r (mem_f _ r hr))
    (fun r hr => ho r (mem_f _ r hr))
  obtain ⟨p2, o2⟩ := merged_spec (dbs := dbs.filter fun r => !isLivefs r) (fun r hr => hw r (mem_f _ r hr))
    (fun r hr => ho r (mem_f _ r hr))
  refine ⟨_, _, rfl, ?_, ?_, o1, o2, ?_⟩
  · intro c hc
    obtain ⟨r, hr, hcr⟩ := List.mem_flatten.mp (p1.mem_iff.mp hc)
    obtain ⟨hrd, hl⟩ := List.mem_filter.mp hr
    obtain ⟨y, hy, hyl⟩ := List.any_eq_true.mp hl
    rw [ho r hrd c hcr y hy]; exact hyl
  · intro c hc
    obtain ⟨r, hr, hcr⟩ := List.mem_flatten.mp (p2.mem_iff.mp hc)
    obtain ⟨_, hl⟩ := List.mem_filter.mp hr
    cases hcl : c.livefs with
    | false => rfl
    | true =>
      have : isLivefs r = true := List.any_eq_true.mpr ⟨c, hcr, hcl⟩
      simp [this] at hl
  · exact (p1.append p2).trans ((List.flatten_append ..).symm ▸ (preferLivefs_perm dbs).flatten)

/-- **Determinism w.r.t. listing order**: if no two distinct candidates tie (same version and same `livefs`), the stream
does not depend on the order in which repositories are given or list their packages — only on the set of candidates. -/
theorem stream_order_independent (dbs dbs' : List Repo) (hw : ∀ r ∈ dbs, ∀ c ∈ r, CandWF c) (ho : ∀ r ∈ dbs, RepoOk r)
    (hw' : ∀ r ∈ dbs', ∀ c ∈ r, CandWF c) (ho' : ∀ r ∈ dbs', RepoOk r) (same : dbs.flatten ~ dbs'.flatten)
    (strict : ∀ x ∈ dbs.flatten, ∀ y ∈ dbs.flatten, fHighest x y = .eq → x = y) :
    upgradeStream dbs = upgradeStream dbs' := by
  obtain ⟨p, o⟩ := upgrade_stream_ordered dbs hw ho
  obtain ⟨p', o'⟩ := upgrade_stream_ordered dbs' hw' ho'
  refine desc_unique lawsHighest (p.trans (same.trans p'.symm)) ?_ ?_ ((desc_iff_ordered _).mpr o)
    ((desc_iff_ordered _).mpr o')
  · intro x hx
    obtain ⟨r, hr, hxr⟩ := List.mem_flatten.mp (p.mem_iff.mp hx)
    exact hw r hr x hxr
  · intro x hx y hy
    exact strict x (p.mem_iff.mp hx) y (p.mem_iff.mp hy)

/-- **The resolver's memory of insoluble atoms is history independent**: after any sequence of lookups (any number of targets
resolved on one resolver, lookups limited to the installed repositories or not, in any order), an atom is remembered as
insoluble only if some lookup found that *no* repository offers a candidate for it — so pruning by `insoluble` never removes a
candidate that an earlier target merely failed to find among the installed packages. -/
theorem insoluble_sound (ls : List Lookup) (a : Nat) (h : a ∈ insolubleAfter ls) :
    ∃ l ∈ ls, l.atom = a ∧ l.cands = [] :=
  (mem_foldl_markInsoluble ls [] h).resolve_left (fun hx => nomatch hx)

def vv0 : Pkgcore.C01.Ver := ⟨[['1']], none, []⟩

/-- a lookup limited to the installed packages that finds nothing leaves no trace, an unlimited one without candidates does -/
example : insolubleAfter [⟨7, [⟨0, vv0, [], false⟩], true⟩, ⟨8, [], false⟩, ⟨7, [⟨0, vv0, [], false⟩], false⟩] = [8] := by decide +kernel

/-! non-vacuity: two source repos and the installed repo, with a tie between an installed and a source 1.10, `1.9 < 1.10` -/

def vv (cs : List String) : Pkgcore.C01.Ver := ⟨cs.map String.toList, none, []⟩
def exDbs : List Repo :=
  [ [⟨0, vv ["1", "9"], [], false⟩, ⟨1, vv ["1", "10"], [], false⟩],
    [⟨2, vv ["1", "10"], [], true⟩, ⟨3, vv ["1", "2"], ['1'], true⟩],
    [⟨4, vv ["2"], [], false⟩] ]

instance (r : Repo) : Decidable (RepoOk r) := by unfold RepoOk; infer_instance

example : (upgradeStream exDbs).map (·.id) = [4, 2, 1, 0, 3] := by decide +kernel
example : (reuseStream exDbs).map (·.id) = [2, 3, 4, 1, 0] := by decide +kernel
example : ∀ r ∈ exDbs, RepoOk r := by decide +kernel

end Pkgcore.C16
