import Pkgcore.Proofs.C45
/-!
# C45 — security advisories flag exactly the vulnerable installed versions

`entryMatch` mirrors what `GlsaDirSet.__iter__` yields for one `<package>` node (`generate_intersects_from_pkg_node`,
`generate_restrict_from_range`); `Spec.affected` is the reference evaluator of the GLSA format.

Open finding `C45-glob-string-prefix`: the code reads `eq V*` as a *string* prefix; the property demands a
version-component prefix.  The existing test-suite pins the string reading, so the full-strength theorem is false
of the model; it is proved under the guard `¬ LoosePrefix` and refuted on a witness.
-/
namespace Pkgcore.C45
open Spec

/-- **the entry as evaluated by the code is the GLSA reference evaluator with `eq V*` read as a string prefix** —
for every package entry whose operators are GLSA operators and every package: same decision whether anything is
reported at all (no vulnerable range, malformed range, unparsable name ⇒ nothing), and the same verdict: name, at
least one vulnerable range (version relation in PMS order, r-forms on revisions of the same version, slot), one of
the named arches, and no unaffected range. -/
theorem affected_eq_loose_spec (n : PkgNode) (hs : StdOps n) (p : Pkg) : entryMatch n p = affected true n p := by
  unfold entryMatch fromPkgNode affected
  by_cases hempty : n.vulnerable = []
  · simp [hempty]
  have hne : n.vulnerable.isEmpty = false := by rwa [List.isEmpty_eq_false_iff]
  simp only [hempty, if_false, hne, Bool.false_eq_true]
  rcases ranges_of_stdOps n.vulnerable (fun m hm => hs m (List.mem_append_left _ hm)) false with
    ⟨hv, e1⟩ | ⟨hv, vs, e1, n1, m1⟩
  · simp [e1, hv]
  rcases ranges_of_stdOps n.unaffected (fun m hm => hs m (List.mem_append_right _ hm)) true with
    ⟨hu, e2⟩ | ⟨hu, us, e2, n2, m2⟩
  · simp [e1, e2, hu]
  simp only [e1, e2, filter_negated us vs n2 n1, hv, hu, Bool.true_and]
  cases n.nameOk with
  | false => rfl
  | true =>
    simp only [if_true, Bool.not_true, Bool.false_eq_true, if_false, Advisory.eval, any_of_map_eq (m1 p),
      all_of_map_eq (m2 p), archOk_archFilter, Bool.bne_false, Bool.bne_true, ← List.not_any_eq_all_not, Bool.and_assoc]

/-- **one range, component-prefix reading** (partial: outside the input class of the finding) -/
theorem range_eq_spec_partial (r : RangeNode) (hv : rangeValid r = true) (neg : Bool) (p : Pkg)
    (hguard : ¬ LoosePrefix r p) :
    ∃ rr, restrictFromRange r neg = .ok rr ∧ rr.eval p = (rangeHolds false r p != neg) := by
  obtain ⟨rr, h1, _, h3⟩ := range_of_valid r hv neg
  exact ⟨rr, h1, by rw [h3 p, rangeHolds_strict r p hguard]⟩

/- full statement (false of the model, see `affected_eq_spec_counterexample`):
   theorem affected_eq_spec (n : PkgNode) (hs : StdOps n) (p : Pkg) : entryMatch n p = affected false n p -/

/-- **the property, partial**: a package is reported as affected exactly when the GLSA format says so, provided no
`eq V*` range of the entry has a base that is a string prefix of the package's version ending inside a component. -/
theorem affected_eq_spec_partial (n : PkgNode) (hs : StdOps n) (p : Pkg)
    (hguard : ∀ r ∈ n.vulnerable ++ n.unaffected, ¬ LoosePrefix r p) :
    entryMatch n p = affected false n p := by
  rw [affected_eq_loose_spec n hs p, affected_strict n p hguard]

/-- a version of dotted components only -/
def exVer (cs : List String) : C01.Ver := ⟨cs.map String.toList, none, []⟩
/-- a range node without slot: operator, version text, glob flag, lexed version, revision digits -/
def exRange (op text : String) (glob : Bool) (v : C01.Ver) (rev : String) : RangeNode :=
  ⟨op.toList, [], some ⟨glob, some (text.toList, v, rev.toList)⟩⟩
/-- an installed `app-misc/foo` in slot 0 -/
def exPkg (fullver : String) (v : C01.Ver) (rev : String) : Pkg :=
  ⟨"app-misc/foo".toList, fullver.toList, v, rev.toList, "0".toList, []⟩
/-- `<vulnerable range="eq">1.2*</vulnerable>` for `app-misc/foo` -/
def exEntry : PkgNode :=
  ⟨"app-misc/foo".toList, true, none, [exRange "eq" "1.2" true (exVer ["1", "2"]) ""], []⟩

/-- the hypotheses are satisfiable by a non-trivial range: `eq 1.2*` against an installed `1.2.3` -/
example : StdOp (exRange "eq" "1.2" true (exVer ["1", "2"]) "") ∧
    ¬ LoosePrefix (exRange "eq" "1.2" true (exVer ["1", "2"]) "") (exPkg "1.2.3" (exVer ["1", "2", "3"]) "") := by
  constructor
  · intro h; revert h; decide +kernel
  · rintro ⟨fv, v, rev, h1, _, h3⟩
    unfold exRange at h1
    cases h1
    revert h3; decide +kernel

/-- **the full statement fails**: `<vulnerable range="eq">1.2*</vulnerable>` flags an installed 1.20 in the model of
the code; the reference evaluator does not. -/
theorem affected_eq_spec_counterexample :
    entryMatch exEntry (exPkg "1.20" (exVer ["1", "20"]) "") = some true ∧
    affected false exEntry (exPkg "1.20" (exVer ["1", "20"]) "") = some false := by
  decide +kernel

/-- **a malformed range skips the whole entry**: unknown operator, missing or invalid version, `*` with an
operator other than `eq`, or `rlt` of revision 0 in any vulnerable or unaffected node ⇒ nothing is reported. -/
theorem malformed_range_skips_entry (n : PkgNode) (hs : StdOps n) (r : RangeNode)
    (hr : r ∈ n.vulnerable ++ n.unaffected) (hbad : rangeValid r = false) (p : Pkg) : entryMatch n p = none := by
  have hall : (n.vulnerable.all rangeValid && n.unaffected.all rangeValid) = false := by
    rw [← List.all_append, List.all_eq_false]
    exact ⟨r, hr, by simp only [hbad, Bool.false_eq_true, not_false_eq_true]⟩
  rw [affected_eq_loose_spec n hs p, affected, hall]
  split <;> rfl

example : rangeValid (exRange "rlt" "1.0" false (exVer ["1", "0"]) "") = false ∧
    rangeValid (exRange "gt" "1" true (exVer ["1"]) "") = false ∧
    rangeValid ⟨"foo".toList, [], none⟩ = false := by decide +kernel

/-- the generated `op_translate` table is the GLSA one, and every GLSA operator is translated as the model assumes -/
theorem op_table :
    Generated.C45.opTranslate = [("ge", ">="), ("gt", ">"), ("lt", "<"), ("le", "<="), ("eq", "=")] ∧
    ∀ r c, ¬ (r = true ∧ c = Cmp.eq) → opTranslate (lstripR (opName r c)) = some (sym c) ∧ parseOp (opName r c) = some (r, c) :=
  ⟨by decide +kernel, fun _ _ h => ⟨(opName_table h).2.1, (opName_table h).1⟩⟩

/-- **a directory of advisories is judged advisory by advisory**: for any number of advisory files read by one
`GlsaDirSet`, the verdicts on a package are — in order, one per reported entry — those of the reference evaluator on
each entry taken on its own; in particular the verdict of an entry does not depend on which other advisories the
directory holds, on their order, or on what was evaluated before (the same version text may occur as an exact range in
one advisory and as a glob in the next, with or without slot, as vulnerable and as unaffected range). -/
theorem directory_eq_loose_spec (files : List (List PkgNode)) (hs : ∀ nodes ∈ files, ∀ n ∈ nodes, StdOps n) (p : Pkg) :
    dirMatch files p = files.flatMap (fun nodes => nodes.filterMap (fun n => affected true n p)) ∧
    ∀ before after nodes, files = before ++ nodes :: after →
      dirMatch files p = dirMatch before p ++ nodes.filterMap (fun n => affected true n p) ++ dirMatch after p := by
  have key : ∀ nodes ∈ files, nodes.filterMap (entryMatch · p) = nodes.filterMap (affected true · p) :=
    fun nodes h => Lib.filterMap_congr_left fun n hn => affected_eq_loose_spec n (hs nodes h n hn) p
  constructor
  · simp only [dirMatch, List.flatMap_def]
    rw [List.map_congr_left key]
  · rintro before after nodes rfl
    simp only [dirMatch, List.flatMap_append, List.flatMap_cons, List.append_assoc]
    rw [key nodes (by simp)]

end Pkgcore.C45
