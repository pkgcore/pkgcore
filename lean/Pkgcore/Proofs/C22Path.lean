import Pkgcore.Spec.C22
import Pkgcore.Proofs.Lib
/-! Paths: `posixpath` on character lists (`splitSlash`/`joinSlash` through core's `List.splitOn`/`List.intercalate`,
the component loop and its stack invariant `GoodStack`, normal forms `render k cs` and `Normal`, relocation, `dirname`
and `ProperAncestor`). -/
namespace Pkgcore.C22
open Pkgcore.C22.Spec

theorem splitSlash_eq_core (s : List Char) : splitSlash s = s.splitOn '/' := by
  induction s with
  | nil => rfl
  | cons c cs ih =>
    rw [splitSlash, List.splitOn_cons_eq_if_modifyHead, ih]
    simp only [beq_iff_eq]
    split
    · rfl
    · cases h : cs.splitOn '/' with
      | nil => exact absurd h (List.splitOn_ne_nil '/' cs)
      | cons => rfl

theorem joinSlash_eq_core : ∀ l : List (List Char), joinSlash l = ['/'].intercalate l
  | [] => rfl
  | [_] => List.intercalate_singleton.symm
  | a :: b :: t => by rw [joinSlash, Lib.intercalate_cons_cons, joinSlash_eq_core (b :: t)]

theorem splitSlash_ne_nil (s : List Char) : splitSlash s ≠ [] :=
  splitSlash_eq_core s ▸ List.splitOn_ne_nil '/' s

theorem splitSlash_append_slash (a b : List Char) :
    splitSlash (a ++ '/' :: b) = splitSlash a ++ splitSlash b := by
  simp only [splitSlash_eq_core]
  exact List.splitOn_append_cons_self a b

theorem splitSlash_noslash (c : List Char) (h : '/' ∉ c) : splitSlash c = [c] :=
  splitSlash_eq_core c ▸ List.splitOn_eq_singleton h

theorem splitSlash_mem_noslash (s : List Char) : ∀ c ∈ splitSlash s, '/' ∉ c :=
  fun _ hc => Lib.not_mem_of_mem_splitOn '/' (splitSlash_eq_core s ▸ hc)

theorem splitSlash_replicate_append (k : Nat) (r : List Char) :
    splitSlash (List.replicate k '/' ++ r) = List.replicate k [] ++ splitSlash r := by
  induction k with
  | zero => simp
  | succ n ih => simp [List.replicate_succ, splitSlash, ih]

theorem joinSlash_append (xs ys : List (List Char)) (hx : xs ≠ []) (hy : ys ≠ []) :
    joinSlash (xs ++ ys) = joinSlash xs ++ '/' :: joinSlash ys := by
  simp only [joinSlash_eq_core]
  exact Lib.intercalate_append '/' hx hy

theorem splitSlash_joinSlash (cs : List (List Char)) (hne : cs ≠ []) (h : ∀ c ∈ cs, '/' ∉ c) :
    splitSlash (joinSlash cs) = cs := by
  rw [joinSlash_eq_core, splitSlash_eq_core]
  exact List.splitOn_intercalate '/' h hne

/-- the part of `CleanComp` that holds of `..` as well: what the split/join lemmas need -/
def SlashFreeNE (c : List Char) : Prop := c ≠ [] ∧ '/' ∉ c

theorem Spec.Clean.slashFree {cs : List (List Char)} (h : Clean cs) : ∀ c ∈ cs, SlashFreeNE c :=
  fun c hc => ⟨(h c hc).1, (h c hc).2.1⟩

theorem Spec.Clean.reverse {cs : List (List Char)} (h : Clean cs) : Clean cs.reverse :=
  fun c hc => h c (List.mem_reverse.1 hc)

theorem Spec.Clean.append {a b : List (List Char)} (ha : Clean a) (hb : Clean b) : Clean (a ++ b) :=
  fun c hc => (List.mem_append.1 hc).elim (ha c) (hb c)

theorem Spec.Clean.take {cs : List (List Char)} (h : Clean cs) (n : Nat) : Clean (cs.take n) :=
  fun c hc => h c (List.mem_of_mem_take hc)

theorem joinSlash_head_ne_slash (cs : List (List Char)) (h : ∀ c ∈ cs, SlashFreeNE c) :
    (joinSlash cs).head? ≠ some '/' := by
  cases cs with
  | nil => nofun
  | cons a r =>
    obtain ⟨hne, hns⟩ := h a List.mem_cons_self
    rw [joinSlash_eq_core, Lib.head?_intercalate '/' r hne]
    exact fun e => hns (List.mem_of_head? e)

theorem joinSlash_eq_nil (cs : List (List Char)) (h : ∀ c ∈ cs, SlashFreeNE c) :
    joinSlash cs = [] ↔ cs = [] := by
  cases cs with
  | nil => simp [joinSlash]
  | cons a r =>
    have ha := (h a (by simp)).1
    cases r with
    | nil => simpa [joinSlash] using ha
    | cons b r' => simp [joinSlash, ha]

theorem joinSlash_eq_append_last (cs : List (List Char)) (hne : cs ≠ []) (h : ∀ c ∈ cs, SlashFreeNE c) :
    ∃ s x, joinSlash cs = s ++ [x] ∧ x ≠ '/' :=
  joinSlash_eq_core cs ▸ Lib.intercalate_eq_concat '/' hne h

theorem initialSlashes_of_rooted {s : List Char} (h : s.head? = some '/') :
    initialSlashes s = 1 ∨ initialSlashes s = 2 := by
  match s, h with
  | c0 :: r, h =>
    obtain rfl : c0 = '/' := by simpa using h
    unfold initialSlashes
    simp only [ne_eq, not_true_eq_false, if_false]
    split
    · simp
    · split
      · simp
      · split
        · simp
        · split <;> simp

theorem initialSlashes_cases (s : List Char) : initialSlashes s = 0 ∨ initialSlashes s = 1 ∨ initialSlashes s = 2 := by
  by_cases h : s.head? = some '/'
  · exact Or.inr (initialSlashes_of_rooted h)
  · cases s with
    | nil => exact Or.inl rfl
    | cons c r =>
      have : c ≠ '/' := by simpa using h
      simp [initialSlashes, this]

theorem initialSlashes_replicate_append (k : Nat) (hk : k = 0 ∨ k = 1 ∨ k = 2) (r : List Char)
    (hr : r.head? ≠ some '/') :
    initialSlashes (List.replicate k '/' ++ r) = k := by
  cases r with
  | nil => rcases hk with rfl | rfl | rfl <;> rfl
  | cons x xs =>
    have : x ≠ '/' := by simpa using hr
    rcases hk with rfl | rfl | rfl <;> simp [initialSlashes, List.replicate, this]

/-- `h` rules out `/` ++ `/x`, whose root is `//` -/
theorem initialSlashes_append (a b : List Char) (ha : a.head? = some '/')
    (h : a.getLast? = some '/' → b.head? ≠ some '/') : initialSlashes (a ++ b) = initialSlashes a := by
  -- `initialSlashes` looks at three characters: `a` of length 1, 2, at least 3
  match a, ha, h with
  | [c0], ha, h =>
    obtain rfl : c0 = '/' := by simpa using ha
    cases b with
    | nil => rfl
    | cons y ys =>
      have : y ≠ '/' := by simpa using h rfl
      simp [initialSlashes, this]
  | [c0, c1], ha, h =>
    obtain rfl : c0 = '/' := by simpa using ha
    by_cases h1 : c1 = '/'
    · subst h1
      cases b with
      | nil => rfl
      | cons y ys =>
        have : y ≠ '/' := by simpa using h rfl
        simp [initialSlashes, this]
    · simp [initialSlashes, h1]
  | c0 :: c1 :: c2 :: t, _, _ => rfl

theorem normLoop_skip_empties (rooted : Bool) (k : Nat) (l acc : List (List Char)) :
    normLoop rooted acc (List.replicate k [] ++ l) = normLoop rooted acc l := by
  induction k with
  | zero => simp
  | succ n ih => simp [List.replicate_succ, normLoop, ih]

theorem normLoop_append (rooted : Bool) (l1 l2 acc : List (List Char)) :
    normLoop rooted acc (l1 ++ l2) = normLoop rooted (normLoop rooted acc l1) l2 := by
  induction l1 generalizing acc with
  | nil => simp [normLoop]
  | cons c cs ih =>
    simp only [List.cons_append, normLoop]
    split
    · exact ih _
    · split
      · exact ih _
      · exact ih _

/-- the invariant of `new_comps` (reversed): every element has no `/` and passed the loop's push test on what lies
below it — so it is a clean component or, in a relative path only, a `..` at the bottom or on a `..` -/
def GoodStack (rooted : Bool) : List (List Char) → Prop
  | [] => True
  | c :: rest => ('/' ∉ c ∧ ¬ (c = [] ∨ c = dot) ∧
      (c ≠ dotdot ∨ (rooted = false ∧ rest = []) ∨ rest.head? = some dotdot)) ∧ GoodStack rooted rest

theorem GoodStack.tail {rooted : Bool} {acc : List (List Char)} (h : GoodStack rooted acc) :
    GoodStack rooted acc.tail := by
  cases acc with
  | nil => exact h
  | cons c r => exact h.2

theorem GoodStack.of_append {rooted : Bool} (a b : List (List Char)) (h : GoodStack rooted (a ++ b)) :
    GoodStack rooted b := by
  induction a with
  | nil => exact h
  | cons x xs ih => exact ih h.2

theorem GoodStack.slashFree {rooted : Bool} {acc : List (List Char)} (h : GoodStack rooted acc) :
    ∀ c ∈ acc, SlashFreeNE c := by
  induction acc with
  | nil => exact fun _ hc => nomatch hc
  | cons x xs ih =>
    obtain ⟨⟨hsl, hne, _⟩, hxs⟩ := h
    exact List.forall_mem_cons.2 ⟨⟨fun e => hne (Or.inl e), hsl⟩, ih hxs⟩

theorem GoodStack.clean_of_rooted {acc : List (List Char)} (h : GoodStack true acc) : Clean acc := by
  induction acc with
  | nil => exact fun _ hc => nomatch hc
  | cons x xs ih =>
    obtain ⟨⟨hsl, hne, hpush⟩, hxs⟩ := h
    refine List.forall_mem_cons.2 ⟨⟨fun e => hne (Or.inl e), hsl, fun e => hne (Or.inr e), ?_⟩, ih hxs⟩
    -- a `..` would sit on a `..`, and what lies below is clean
    rcases hpush with hx | ⟨hf, _⟩ | hx
    · exact hx
    · cases hf
    · cases xs with
      | nil => cases hx
      | cons d r => exact absurd (Option.some.inj hx) (ih hxs d List.mem_cons_self).2.2.2

theorem goodStack_append_clean (rooted : Bool) (a b : List (List Char)) (ha : Clean a) (hb : GoodStack rooted b) :
    GoodStack rooted (a ++ b) := by
  induction a with
  | nil => exact hb
  | cons x xs ih =>
    obtain ⟨hne, hsl, hnd, hndd⟩ := ha x List.mem_cons_self
    exact ⟨⟨hsl, fun e => e.elim hne hnd, Or.inl hndd⟩, ih fun c hc => ha c (List.mem_cons_of_mem _ hc)⟩

theorem goodStack_of_clean (rooted : Bool) (acc : List (List Char)) (h : Clean acc) : GoodStack rooted acc :=
  List.append_nil acc ▸ goodStack_append_clean rooted acc [] h trivial

theorem normLoop_good (rooted : Bool) (cs acc : List (List Char)) (hacc : GoodStack rooted acc)
    (hcs : ∀ c ∈ cs, '/' ∉ c) : GoodStack rooted (normLoop rooted acc cs) := by
  induction cs generalizing acc with
  | nil => exact hacc
  | cons c cs ih =>
    have hcs' : ∀ c ∈ cs, '/' ∉ c := fun d hd => hcs d (List.mem_cons_of_mem _ hd)
    unfold normLoop
    split
    · exact ih acc hacc hcs'
    · rename_i h1
      split
      · rename_i h2
        exact ih _ ⟨⟨hcs c List.mem_cons_self, h1, h2⟩, hacc⟩ hcs'
      · exact ih _ hacc.tail hcs'

theorem normLoop_fixed (rooted : Bool) (l acc : List (List Char)) (h : GoodStack rooted (l.reverse ++ acc)) :
    normLoop rooted acc l = l.reverse ++ acc := by
  induction l generalizing acc with
  | nil => simp [normLoop]
  | cons c cs ih =>
    have h' : GoodStack rooted (cs.reverse ++ (c :: acc)) := by simpa using h
    obtain ⟨⟨_, h1, h2⟩, _⟩ := GoodStack.of_append _ _ h'
    rw [normLoop, if_neg h1, if_pos h2, ih _ h']
    simp

theorem normLoop_joinSlash (rooted : Bool) (cs acc : List (List Char)) (h : GoodStack rooted (cs.reverse ++ acc)) :
    normLoop rooted acc (splitSlash (joinSlash cs)) = cs.reverse ++ acc := by
  by_cases hcs : cs = []
  · subst hcs; rfl
  · rw [splitSlash_joinSlash cs hcs fun c hc => (h.slashFree c (by simp [hc])).2, normLoop_fixed rooted cs acc h]

theorem normpath_fixed (k : Nat) (hk : k = 0 ∨ k = 1 ∨ k = 2) (cs : List (List Char))
    (hgood : GoodStack (k != 0) cs.reverse) (hne : List.replicate k '/' ++ joinSlash cs ≠ []) :
    normpath (List.replicate k '/' ++ joinSlash cs) = List.replicate k '/' ++ joinSlash cs := by
  have hsf : ∀ c ∈ cs, SlashFreeNE c := fun c hc => hgood.slashFree c (by simpa using hc)
  have hk' : initialSlashes (List.replicate k '/' ++ joinSlash cs) = k :=
    initialSlashes_replicate_append k hk _ (joinSlash_head_ne_slash cs hsf)
  unfold normpath
  rw [if_neg hne]
  simp only [hk', splitSlash_replicate_append, normLoop_skip_empties]
  rw [normLoop_joinSlash _ cs [] (by simpa using hgood)]
  simp [hne]

theorem normLoop_splitSlash_good (rooted : Bool) (s : List Char) :
    GoodStack rooted (normLoop rooted [] (splitSlash s)) :=
  normLoop_good _ (splitSlash s) [] trivial (splitSlash_mem_noslash s)

theorem normpath_eq_join (s : List Char) (hs : s ≠ []) :
    normpath s =
      (if List.replicate (initialSlashes s) '/' ++
          joinSlash (normLoop (initialSlashes s != 0) [] (splitSlash s)).reverse = [] then dot
        else List.replicate (initialSlashes s) '/' ++
          joinSlash (normLoop (initialSlashes s != 0) [] (splitSlash s)).reverse) := by
  simp [normpath, hs]

theorem normpath_dot : normpath dot = dot := by decide

theorem normpath_idem (s : List Char) : normpath (normpath s) = normpath s := by
  by_cases hs : s = []
  · subst hs
    rw [show normpath [] = dot from rfl, normpath_dot]
  · rw [normpath_eq_join s hs]
    split
    · exact normpath_dot
    · rename_i hne
      exact normpath_fixed _ (initialSlashes_cases s) _ (by simpa using normLoop_splitSlash_good _ s) hne

theorem normpath_render (k : Nat) (hk : k = 1 ∨ k = 2) (cs : List (List Char)) (hcl : Clean cs) :
    normpath (render k cs) = render k cs := by
  have hk0 : (k != 0) = true := by rcases hk with rfl | rfl <;> rfl
  have hne : List.replicate k '/' ++ joinSlash cs ≠ [] := by
    rcases hk with rfl | rfl <;> simp [List.replicate]
  exact normpath_fixed k (by omega) cs (by rw [hk0]; exact goodStack_of_clean _ _ hcl.reverse) hne

theorem normpath_eq_render (s : List Char) (h : s.head? = some '/') :
    normpath s = render (initialSlashes s) (normLoop true [] (splitSlash s)).reverse := by
  have hk := initialSlashes_of_rooted h
  have hb : (initialSlashes s != 0) = true := by rcases hk with h | h <;> simp [h]
  rw [normpath_eq_join s (by intro e; simp [e] at h), hb, if_neg]
  · rfl
  · rcases hk with h | h <;> simp [h, List.replicate]

theorem render_nil (k : Nat) : render k [] = List.replicate k '/' := by simp [render, joinSlash]

theorem render_append (k : Nat) (cs0 rel : List (List Char)) (h0 : cs0 ≠ []) (hr : rel ≠ []) :
    render k (cs0 ++ rel) = render k cs0 ++ '/' :: joinSlash rel := by
  simp [render, joinSlash_append cs0 rel h0 hr]

theorem render_head (k : Nat) (hk : k = 1 ∨ k = 2) (cs : List (List Char)) : (render k cs).head? = some '/' := by
  rcases hk with rfl | rfl <;> rfl

/-- the form in which locations are dict keys -/
def Normal (p : Path) : Prop := normpath p = p

theorem Spec.AbsNormal.normal {p : Path} (h : AbsNormal p) : Normal p := by
  obtain ⟨k, cs, hk, hcl, rfl⟩ := h
  exact normpath_render k hk cs hcl

theorem Spec.AbsNormal.head {p : Path} (h : AbsNormal p) : p.head? = some '/' := by
  obtain ⟨k, cs, hk, _, rfl⟩ := h
  exact render_head k hk cs

/-- left inverse of `render k` on clean lists, whence `render_inj` -/
def compsOf (p : Path) : List (List Char) := (splitSlash p).filter (fun c => c ≠ [])

theorem compsOf_render (k : Nat) (cs : List (List Char)) (hcl : Clean cs) : compsOf (render k cs) = cs := by
  unfold compsOf render
  rw [splitSlash_replicate_append, List.filter_append, List.filter_eq_nil_iff.2 (by simp), List.nil_append]
  by_cases hcs : cs = []
  · subst hcs; rfl
  · rw [splitSlash_joinSlash cs hcs fun c hc => (hcl c hc).2.1, List.filter_eq_self]
    exact fun c hc => by simpa using (hcl c hc).1

theorem compsOf_append_slash (a b : Path) : compsOf (a ++ '/' :: b) = compsOf a ++ compsOf b := by
  rw [compsOf, splitSlash_append_slash, List.filter_append]
  rfl

theorem initialSlashes_render (k : Nat) (hk : k = 1 ∨ k = 2) (cs : List (List Char)) (hcl : Clean cs) :
    initialSlashes (render k cs) = k :=
  initialSlashes_replicate_append k (by omega) _ (joinSlash_head_ne_slash cs hcl.slashFree)

theorem render_inj {k k' : Nat} {cs cs' : List (List Char)} (hk : k = 1 ∨ k = 2) (hk' : k' = 1 ∨ k' = 2)
    (hcl : Clean cs) (hcl' : Clean cs') (h : render k cs = render k' cs') : k = k' ∧ cs = cs' := by
  constructor
  · rw [← initialSlashes_render k hk cs hcl, ← initialSlashes_render k' hk' cs' hcl', h]
  · rw [← compsOf_render k cs hcl, ← compsOf_render k' cs' hcl', h]

theorem Spec.Relocated.absNormal {old new p q : Path} (h : Relocated old new p q) : AbsNormal q := by
  obtain ⟨_, _, rel, k', cs1, _, hk', _, hrel, hcl1, _, _, _, rfl⟩ := h
  exact ⟨k', _, hk', hcl1.append hrel, rfl⟩

theorem Spec.Relocated.inj {old new p p' q : Path} (h : Relocated old new p q) (h' : Relocated old new p' q) :
    p = p' := by
  obtain ⟨k, cs0, rel, k', cs1, hk, hk', hcl0, hrel, hcl1, rfl, rfl, rfl, rfl⟩ := h
  obtain ⟨j, ds0, rel', j', ds1, hj, hj', hdl0, hrel', hdl1, ho, rfl, hn, hq⟩ := h'
  obtain ⟨rfl, rfl⟩ := render_inj hk hj hcl0 hdl0 ho
  obtain ⟨rfl, rfl⟩ := render_inj hk' hj' hcl1 hdl1 hn
  rw [List.append_cancel_left (render_inj hk' hk' (hcl1.append hrel) (hcl1.append hrel') hq).2]

theorem rstripSlash_replicate (k : Nat) : rstripSlash (List.replicate k '/') = [] := by
  induction k with
  | zero => rfl
  | succ n ih => simp [List.replicate_succ, rstripSlash, ih]

theorem rstripSlash_append_ne (s : List Char) (x : Char) (hx : x ≠ '/') : rstripSlash (s ++ [x]) = s ++ [x] := by
  induction s with
  | nil => simp [rstripSlash, hx]
  | cons c cs ih =>
    simp only [List.cons_append, rstripSlash, ih]
    simp

theorem rstripSlash_append_slash (s : List Char) : rstripSlash (s ++ ['/']) = rstripSlash s := by
  induction s with
  | nil => simp [rstripSlash]
  | cons c cs ih => simp only [List.cons_append, rstripSlash, ih]

theorem rstripSlash_prefix (s : List Char) : rstripSlash s <+: s := by
  induction s with
  | nil => exact List.nil_prefix
  | cons x xs ih =>
    simp only [rstripSlash]
    split
    · exact List.nil_prefix
    · exact List.cons_prefix_cons.2 ⟨rfl, ih⟩

theorem rstripSlash_render (k : Nat) (cs : List (List Char)) (hcl : Clean cs) :
    rstripSlash (render k cs) = if cs = [] then [] else render k cs := by
  by_cases hcs : cs = []
  · subst hcs; simp [render_nil, rstripSlash_replicate]
  · rw [if_neg hcs]
    obtain ⟨s, x, hs, hx⟩ := joinSlash_eq_append_last cs hcs hcl.slashFree
    have : render k cs = (List.replicate k '/' ++ s) ++ [x] := by simp [render, hs]
    rw [this, rstripSlash_append_ne _ _ hx]

theorem lstripSlash_of_head (s : List Char) (h : s.head? ≠ some '/') : lstripSlash s = s := by
  cases s with
  | nil => rfl
  | cons c cs =>
    have : c ≠ '/' := by simpa using h
    simp [lstripSlash, this]

theorem lstripSlash_replicate_append (k : Nat) (s : List Char) :
    lstripSlash (List.replicate k '/' ++ s) = lstripSlash s := by
  induction k with
  | zero => simp
  | succ n ih => simp [List.replicate_succ, lstripSlash, ih]

/-- the part of a location that `change_offset_rewriter` keeps: drop the old offset, strip the slashes -/
theorem strip_old_prefix (k : Nat) (cs0 rel : List (List Char)) (hcl0 : Clean cs0) (hrel : Clean rel) :
    lstripSlash ((render k (cs0 ++ rel)).drop (rstripSlash (render k cs0)).length) = joinSlash rel := by
  have hhead := joinSlash_head_ne_slash rel hrel.slashFree
  rw [rstripSlash_render k cs0 hcl0]
  by_cases h0 : cs0 = []
  · subst h0
    simp only [if_true, List.length_nil, List.drop_zero, List.nil_append]
    rw [render, lstripSlash_replicate_append, lstripSlash_of_head _ hhead]
  · rw [if_neg h0]
    by_cases hr : rel = []
    · subst hr
      simp [joinSlash, lstripSlash]
    · rw [render_append k cs0 rel h0 hr, List.drop_left]
      simp [lstripSlash, lstripSlash_of_head _ hhead]

theorem normpath_pjoin (new : Path) (rel : List (List Char)) (hnew : new.head? = some '/') (hrel : Clean rel) :
    normpath (pjoin new (joinSlash rel)) =
      render (initialSlashes new) ((normLoop true [] (splitSlash new)).reverse ++ rel) := by
  have hhead := joinSlash_head_ne_slash rel hrel.slashFree
  have hne : new ≠ [] := by intro e; simp [e] at hnew
  -- what the component loop does on the relative part, starting from the stack left by `new`
  have hrest := normLoop_joinSlash true rel _
    (goodStack_append_clean true _ _ hrel.reverse (normLoop_splitSlash_good true new))
  -- `new ++ X` keeps the root of `new`; the loop is to run through `new`, then through the relative part
  have hjoin : ∀ X : Path, (new.getLast? = some '/' → X.head? ≠ some '/') →
      normLoop true [] (splitSlash (new ++ X)) =
        normLoop true (normLoop true [] (splitSlash new)) (splitSlash (joinSlash rel)) →
      normpath (new ++ X) = render (initialSlashes new) ((normLoop true [] (splitSlash new)).reverse ++ rel) := by
    intro X hX hl
    rw [normpath_eq_render (new ++ X) (by rw [List.head?_append, hnew]; rfl), initialSlashes_append new X hnew hX, hl,
      hrest]
    simp
  unfold pjoin
  rw [if_neg hhead]
  by_cases hl : new.getLast? = some '/'
  · -- `new = new' ++ "/"`: the empty last component of `new` is skipped by the loop
    rw [if_pos (Or.inr hl)]
    refine hjoin _ (fun _ => hhead) ?_
    obtain ⟨new', rfl⟩ := List.getLast?_eq_some_iff.1 hl
    rw [List.append_assoc, List.singleton_append, splitSlash_append_slash, splitSlash_append_slash, normLoop_append,
      normLoop_append]
    rfl
  · rw [if_neg (not_or.2 ⟨hne, hl⟩)]
    refine hjoin _ (fun h => absurd h hl) ?_
    rw [splitSlash_append_slash, normLoop_append]

/-- what `change_offset_rewriter` does: with `render k' cs1` the normal form of the (absolute) new offset, a location
`rel` below the old offset goes to `rel` below the new one -/
theorem rewriteLoc_spec (old new : Path) (k : Nat) (cs0 : List (List Char)) (hcl0 : Clean cs0)
    (hold : normpath (if old = [] then ['/'] else old) = render k cs0) (hnew : new.head? = some '/') :
    ∃ k' cs1, (k' = 1 ∨ k' = 2) ∧ Clean cs1 ∧ normpath new = render k' cs1 ∧
      ∀ rel, Clean rel → rewriteLoc (offsetLen old) new (render k (cs0 ++ rel)) = render k' (cs1 ++ rel) := by
  refine ⟨_, _, initialSlashes_of_rooted hnew, (normLoop_splitSlash_good true new).clean_of_rooted.reverse,
    normpath_eq_render new hnew, fun rel hrel => ?_⟩
  unfold rewriteLoc offsetLen
  rw [hold, strip_old_prefix k cs0 rel hcl0 hrel, normpath_pjoin new rel hnew hrel]

theorem headToLastSlash_noslash (c : List Char) (h : '/' ∉ c) : headToLastSlash c = [] := by
  induction c with
  | nil => rfl
  | cons x xs ih =>
    have hx : x ≠ '/' := fun e => h (by simp [e])
    have hxs : '/' ∉ xs := fun e => h (by simp [e])
    simp [headToLastSlash, ih hxs, hx]

theorem headToLastSlash_append_slash (a c : List Char) (h : '/' ∉ c) :
    headToLastSlash (a ++ '/' :: c) = a ++ ['/'] := by
  induction a with
  | nil => simp [headToLastSlash, headToLastSlash_noslash c h]
  | cons x xs ih => simp [headToLastSlash, ih]

theorem headToLastSlash_prefix (p : List Char) : headToLastSlash p <+: p := by
  induction p with
  | nil => exact List.nil_prefix
  | cons x xs ih =>
    simp only [headToLastSlash]
    split
    · exact List.cons_prefix_cons.2 ⟨rfl, ih⟩
    · split
      · exact List.cons_prefix_cons.2 ⟨rfl, List.nil_prefix⟩
      · exact List.nil_prefix

theorem dirname_prefix (p : List Char) : dirname p <+: p := by
  unfold dirname
  simp only
  split
  · exact (rstripSlash_prefix _).trans (headToLastSlash_prefix p)
  · exact headToLastSlash_prefix p

theorem dirname_length_le (p : List Char) : (dirname p).length ≤ p.length := (dirname_prefix p).length_le

theorem dirname_eq_self (p : List Char) (h : ¬ (dirname p).length < p.length) : dirname p = p :=
  (dirname_prefix p).eq_of_length (Nat.le_antisymm (dirname_length_le p) (Nat.le_of_not_lt h))

theorem dirname_render (k : Nat) (hk : k = 1 ∨ k = 2) (cs : List (List Char)) (hcl : Clean cs) :
    dirname (render k cs) = render k cs.dropLast := by
  rcases List.eq_nil_or_concat cs with rfl | ⟨init, c, rfl⟩
  · rcases hk with rfl | rfl <;> decide
  · rw [List.concat_eq_append] at hcl ⊢
    rw [List.dropLast_concat]
    have hcns : '/' ∉ c := (hcl c (by simp)).2.1
    unfold dirname
    simp only
    by_cases hi : init = []
    · -- a single component under the root: the head is all slashes and stays
      subst hi
      have hr : render k ([] ++ [c]) = List.replicate (k - 1) '/' ++ '/' :: c := by rcases hk with rfl | rfl <;> rfl
      have hall : List.replicate (k - 1) '/' ++ ['/'] = List.replicate k '/' := by rcases hk with rfl | rfl <;> rfl
      rw [hr, headToLastSlash_append_slash _ _ hcns, hall, render_nil]
      simp
    · -- otherwise the head is the parent and a slash, not all slashes: `rstrip` would leave nothing of those
      have hP := rstripSlash_render k init fun x hx => hcl x (List.mem_append_left _ hx)
      rw [if_neg hi] at hP
      have hnotall : render k init ++ ['/'] ≠ List.replicate (render k init ++ ['/']).length '/' := by
        intro heq
        have := rstripSlash_replicate (render k init ++ ['/']).length
        rw [← heq, rstripSlash_append_slash, hP] at this
        exact absurd (this ▸ render_head k hk init) (by simp)
      rw [render_append k init [c] hi (List.cons_ne_nil _ _), show joinSlash [c] = c from rfl,
        headToLastSlash_append_slash _ _ hcns, if_pos ⟨by simp, hnotall⟩, rstripSlash_append_slash, hP]

/-! The specification's `ProperAncestor` is the transitive closure of the model's `dirname` (the root, its own parent,
apart). -/

theorem Spec.ProperAncestor.absNormal {a p : Path} (h : ProperAncestor a p) : AbsNormal a := by
  obtain ⟨k, cs, n, hk, hcl, _, _, rfl⟩ := h
  exact ⟨k, _, hk, hcl.take n, rfl⟩

theorem properAncestor_dirname_self {q : Path} (hq : AbsNormal q) (h : dirname q ≠ q) :
    ProperAncestor (dirname q) q := by
  obtain ⟨k, cs, hk, hcl, rfl⟩ := hq
  rw [dirname_render k hk cs hcl, List.dropLast_eq_take] at h ⊢
  refine ⟨k, cs, _, hk, hcl, rfl, Nat.sub_lt (Nat.pos_of_ne_zero fun h0 => h ?_) Nat.one_pos, rfl⟩
  rw [List.eq_nil_of_length_eq_zero h0]
  rfl

theorem Spec.ProperAncestor.parent {p q : Path} (h : ProperAncestor p q) : ProperAncestor (dirname p) q := by
  obtain ⟨k, cs, n, hk, hcl, rfl, hn, rfl⟩ := h
  exact ⟨k, cs, n - 1, hk, hcl, rfl, Nat.lt_of_le_of_lt (Nat.sub_le _ _) hn, by
    rw [dirname_render k hk _ (hcl.take n), List.dropLast_take hn]⟩

theorem Spec.ProperAncestor.induction {S : Path → Prop} {p q : Path} (h : ProperAncestor p q) (hq : S q)
    (hS : ∀ x, AbsNormal x → S x → S (dirname x)) : S p := by
  obtain ⟨k, cs, n, hk, hcl, rfl, _, rfl⟩ := h
  -- from `cs` down to any leading run of it, one component at a time
  have down : ∀ suf pre, cs = pre ++ suf → S (render k pre) := by
    intro suf
    induction suf with
    | nil => intro pre hpre; rwa [← List.append_nil pre, ← hpre]
    | cons a suf ih =>
      intro pre hpre
      have hpre' : cs = (pre ++ [a]) ++ suf := by rw [hpre, List.append_assoc]; rfl
      have hcl' : Clean (pre ++ [a]) := fun x hx => hcl x (hpre' ▸ List.mem_append_left _ hx)
      have := hS _ ⟨k, _, hk, hcl', rfl⟩ (ih _ hpre')
      rwa [dirname_render k hk _ hcl', List.dropLast_concat] at this
  exact down _ _ (List.take_append_drop n cs).symm

end Pkgcore.C22
