import Pkgcore.Proofs.C17Chain
/-!
`applyCmd` is a guard, the `decref` loop of the displaced choice point and the `fwd` of the operation's own entry
(`applyCmd_add`, `applyCmd_remove`, `applyCmd_replace`), so a successful one is an `Outcome` (`apply_outcome`), which
`backtrack` undoes; and since `fwd` respects `Sim` and the `decref` loop does not depend on the order of the blocker
list (`decrefAll_perm`), `applyCmd` respects `Same` (`apply_same`).
-/
namespace Pkgcore.C17
open List

/-- when `decref.apply` does not raise -/
def DecrefOk (s : State) (c b : Nat) : Prop :=
  b ∈ s.refcnt ∧ (b ∈ s.refcnt.erase b ∨ b ∈ s.limiters) ∧ (c, b) ∈ s.revb

instance (s : State) (c b : Nat) : Decidable (DecrefOk s c b) := by unfold DecrefOk; infer_instance

theorem decrefOk_congr {s t : State} (h : Sim s t) (c b : Nat) : DecrefOk s c b ↔ DecrefOk t c b := by
  unfold DecrefOk; rw [h.refcnt.mem_iff, (h.refcnt.erase b).mem_iff, h.limiters.mem_iff, h.revb.mem_iff]

/-- `fwd` reads `U` for `incref` only: here, and in the lemmas on the `decref` loop that go through this one, any `U`
will do -/
theorem decrefApply_eq (U : Univ) (s : State) (c b : Nat) :
    decrefApply s c b = if DecrefOk s c b then some (fwd U s (.decref c b)) else none := by
  unfold decrefApply DecrefOk fwd
  simp only [push, removeLimiter]
  by_cases h1 : b ∈ s.refcnt
  · by_cases h2 : b ∈ s.refcnt.erase b
    · by_cases h3 : (c, b) ∈ s.revb <;> simp [h1, h2, h3]
    · by_cases h4 : b ∈ s.limiters
      · by_cases h3 : (c, b) ∈ s.revb <;> simp [h1, h2, h3, h4]
      · simp [h1, h2, h4]
  · simp [h1]

theorem decrefApply_some (U : Univ) {s s1 : State} {c b : Nat} (h : decrefApply s c b = some s1) :
    Pre s (.decref c b) ∧ s1 = fwd U s (.decref c b) := by
  rw [decrefApply_eq U] at h
  split at h
  · exact ⟨⟨‹DecrefOk s c b›.1, ‹DecrefOk s c b›.2.2⟩, (Option.some.inj h).symm⟩
  · cases h

theorem decrefAll_chain (U : Univ) {s s1 : State} {c : Nat} {bs : List Nat} (h : decrefAll s c bs = some s1) :
    Chain U s (bs.map (.decref c)) s1 := by
  induction bs generalizing s with
  | nil => cases h; exact .nil _
  | cons b bs ih =>
    obtain ⟨a, h1, h2⟩ := Option.bind_eq_some_iff.mp h
    obtain ⟨hp, rfl⟩ := decrefApply_some U h1
    exact .cons hp (ih h2)

theorem decrefAll_frame (U : Univ) {s m : State} {c : Nat} {bs : List Nat} (h : decrefAll s c bs = some m) :
    m.slots = s.slots ∧ m.choices = s.choices := by
  induction bs generalizing s with
  | nil => cases h; exact ⟨rfl, rfl⟩
  | cons b bs ih =>
    obtain ⟨a, h1, h2⟩ := Option.bind_eq_some_iff.mp h
    obtain ⟨-, rfl⟩ := decrefApply_some U h1
    exact ih (s := fwd U s (.decref c b)) h2

theorem decrefAll_setslots (U : Univ) (s : State) (X : List Nat) (c : Nat) (bs : List Nat) :
    decrefAll { s with slots := X } c bs = (decrefAll s c bs).map fun s' => { s' with slots := X } := by
  induction bs generalizing s with
  | nil => rfl
  | cons b bs ih =>
    have : decrefApply { s with slots := X } c b = (decrefApply s c b).map fun s' => { s' with slots := X } := by
      rw [decrefApply_eq U, decrefApply_eq U]
      show (if DecrefOk s c b then _ else _) = _
      split <;> rfl
    simp only [decrefAll, this]
    cases decrefApply s c b with
    | none => rfl
    | some a => exact ih a

theorem removePkgBlockers_setslots (U : Univ) (s : State) (X : List Nat) (c : Nat) :
    removePkgBlockers { s with slots := X } c = (removePkgBlockers s c).map ({ · with slots := X }) :=
  decrefAll_setslots U s X c _

/-- `add_op` / `replace_op` without `force` hand the conflicts back instead of slotting the package -/
def refused (U : Univ) (s : State) (p : Nat) (f : Bool) : Bool := !(conflicts U s p).isEmpty && !f

theorem refused_force (U : Univ) (s : State) (p : Nat) : refused U s p true = false := by
  rw [refused, Bool.not_true, Bool.and_false]

theorem fillSlotting_eq (U : Univ) (s : State) (p : Nat) (f : Bool) :
    fillSlotting U s p f = (if refused U s p f then s else { s with slots := s.slots ++ [p] }, conflicts U s p) := by
  rw [refused, ← Bool.not_or]
  simp only [fillSlotting]
  cases (conflicts U s p).isEmpty || f <;> rfl

theorem applyCmd_add (U : Univ) (s : State) (c p : Nat) (f : Bool) :
    applyCmd U s (.add c p f) =
      some (if refused U s p f then (s, conflicts U s p) else (fwd U s (.add c p f), [])) := by
  simp only [applyCmd, fillSlotting_eq, ← refused.eq_def]
  cases refused U s p f <;> rfl

theorem occupants_of_not_refused (U : Univ) {s : State} {p : Nat} (h : refused U s p false = false) :
    occupants U s p = [] := by
  have : conflicts U s p = [] := by simpa [refused] using h
  exact List.map_eq_nil_iff.mp (List.append_eq_nil_iff.mp this).2

theorem sameSlot_self (U : Univ) (p : Nat) : sameSlot U p p = true := by simp [sameSlot]

theorem sameSlot_symm (U : Univ) (p q : Nat) : sameSlot U p q = sameSlot U q p := by
  unfold sameSlot
  rw [BEq.comm (a := U.pkgKey q), BEq.comm (a := U.pkgSlot q)]

theorem not_mem_of_not_refused (U : Univ) {s : State} {p : Nat} (h : refused U s p false = false) : p ∉ s.slots := by
  intro hp
  have : p ∈ occupants U s p := List.mem_filter.mpr ⟨hp, sameSlot_self U p⟩
  rw [occupants_of_not_refused U h] at this; cases this

theorem occupants_single (U : Univ) {s : State} {p old : Nat} (h : occupants U s p = [old]) :
    old ∈ s.slots ∧ (p = old ∨ p ∉ s.slots) := by
  have ho : old ∈ occupants U s p := by rw [h]; exact List.mem_singleton_self old
  refine ⟨(List.mem_filter.mp ho).1, ?_⟩
  by_cases hp : p ∈ s.slots
  · have : p ∈ occupants U s p := List.mem_filter.mpr ⟨hp, sameSlot_self U p⟩
    rw [h] at this; exact .inl (List.mem_singleton.mp this)
  · exact .inr hp

theorem applyCmd_remove (U : Univ) (s : State) (c p : Nat) :
    applyCmd U s (.remove c p) =
      if p ∈ s.slots ∧ (s.choices.lookup p).isSome then
        (removePkgBlockers s c).map fun m => (fwd U m (.remove c p), [])
      else none := by
  simp only [applyCmd, removeSlotting]
  by_cases hp : p ∈ s.slots
  · simp only [hp, if_true, true_and, Option.bind_some]
    rw [removePkgBlockers_setslots U]
    cases hd : removePkgBlockers s c with
    | none => simp
    | some m =>
      obtain ⟨f1, f2⟩ := decrefAll_frame U hd
      simp only [Option.map_some, Option.bind_some, delChoice, f2]
      split
      · simp [fwd, push, f1, f2]
      · rfl
  · simp [hp]

theorem applyCmd_replace (U : Univ) {s : State} {p old oldc : Nat} (c : Nat) (f : Bool)
    (hocc : occupants U s p = [old]) (hl : s.choices.lookup old = some oldc) :
    applyCmd U s (.replace c p f) =
      (removePkgBlockers s oldc).bind fun m =>
        if refused U { m with slots := s.slots.filter (· != old) } p f then
          (backtrack U { m with slots := s.slots.filter (· != old) ++ [old] } s.plan.length).map
            (·, conflicts U { m with slots := s.slots.filter (· != old) } p)
        else some (fwd U m (.replace c p f old oldc), []) := by
  have ho : old ∈ s.slots := (occupants_single U hocc).1
  simp only [applyCmd, conflictingSlot, hocc, List.head?_cons, Option.bind_some, removeSlotting, if_pos ho, hl]
  rw [removePkgBlockers_setslots U]
  cases hd : removePkgBlockers s oldc with
  | none => rfl
  | some m =>
    obtain ⟨f1, f2⟩ := decrefAll_frame U hd
    simp only [Option.map_some, Option.bind_some, fillSlotting_eq, ← refused.eq_def, refused_force,
      Bool.false_eq_true, if_false]
    cases hr : refused U { m with slots := s.slots.filter (· != old) } p f
    · simp [delChoice, f2, hl, fwd, push, setChoice, f1]
    · simp

theorem replace_occupant (U : Univ) {s : State} (i : Inv s) {c p : Nat} {f : Bool}
    (ha : applicable U s (.replace c p f) = true) :
    ∃ old oldc, occupants U s p = [old] ∧ s.choices.lookup old = some oldc := by
  obtain ⟨old, hocc⟩ := List.length_eq_one_iff.mp (beq_iff_eq.mp ha)
  exact ⟨old, _, hocc, (Option.some_get ((i.dom old).mp (occupants_single U hocc).1)).symm⟩

/-- the refused branch of `replace_op.apply`: put the old package back, roll the `decref`s back -/
theorem replace_refused (U : Univ) {s m : State} {old oldc : Nat} (i : Inv s) (ho : old ∈ s.slots)
    (hm : removePkgBlockers s oldc = some m) :
    ∃ s'', backtrack U { m with slots := s.slots.filter (· != old) ++ [old] } s.plan.length = some s'' ∧
      Sim s'' s ∧ s''.plan = s.plan := by
  obtain ⟨f1, -⟩ := decrefAll_frame U hm
  have ch := decrefAll_chain U hm
  refine Outcome.undo ⟨_, m, ch, { Sim.refl m with slots := ?_ }, rfl⟩ i
  rw [f1]
  exact perm_filter_ne_append (i.count_slot ho)

theorem outcome_one (U : Univ) {s : State} (e : Entry) (h : Pre s e) : Outcome U s (fwd U s e) :=
  ⟨[e], _, .cons h (.nil _), Sim.refl _, rfl⟩

theorem outcome_loop (U : Univ) {s m : State} {c : Nat} {bs : List Nat} (e : Entry) (hm : decrefAll s c bs = some m)
    (he : Pre m e) : Outcome U s (fwd U m e) :=
  ⟨_, _, (decrefAll_chain U hm).append (.cons he (.nil _)), Sim.refl _, rfl⟩

theorem apply_outcome (U : Univ) {s s' : State} {c : Cmd} {out : List Conf} (i : Inv s)
    (ha : applicable U s c = true) (h : applyCmd U s c = some (s', out)) : Outcome U s s' := by
  cases c with
  | add c p f =>
    rw [applyCmd_add] at h
    cases hr : refused U s p f
    all_goals
      rw [hr] at h
      obtain ⟨rfl, -⟩ := Prod.mk.inj (Option.some.inj h)
    · refine outcome_one U (.add c p f) ?_
      cases f
      · exact not_mem_of_not_refused U hr
      · show p ∉ s.slots; simpa [applicable] using ha
    · exact ⟨[], s, .nil s, Sim.refl s, rfl⟩
  | hardref r =>
    obtain ⟨rfl, -⟩ := Prod.mk.inj (Option.some.inj h)
    exact outcome_one U (.hardref r) trivial
  | backref c p =>
    obtain ⟨rfl, -⟩ := Prod.mk.inj (Option.some.inj h)
    exact outcome_one U (.backref c p) trivial
  | incref c b =>
    obtain ⟨rfl, -⟩ := Prod.mk.inj (Option.some.inj h)
    exact outcome_one U (.incref c b) trivial
  | decref c b =>
    obtain ⟨s1, h1, h2⟩ := Option.map_eq_some_iff.mp h
    obtain ⟨rfl, -⟩ := Prod.mk.inj h2
    obtain ⟨hp, rfl⟩ := decrefApply_some U h1
    exact outcome_one U (.decref c b) hp
  | remove c p =>
    rw [applyCmd_remove] at h
    split at h
    · rename_i hc
      obtain ⟨m, hm, e⟩ := Option.map_eq_some_iff.mp h
      obtain ⟨rfl, -⟩ := Prod.mk.inj e
      obtain ⟨f1, f2⟩ := decrefAll_frame U hm
      exact outcome_loop U (.remove c p) hm ⟨f1 ▸ hc.1, by rw [f2]; simpa [applicable] using ha⟩
    · cases h
  | replace c p f =>
    obtain ⟨old, oldc, hocc, hl⟩ := replace_occupant U i ha
    obtain ⟨ho, hpo⟩ := occupants_single U hocc
    rw [applyCmd_replace U c f hocc hl] at h
    obtain ⟨m, hm, h⟩ := Option.bind_eq_some_iff.mp h
    split at h
    · obtain ⟨s'', hb, hs''⟩ := replace_refused U i ho hm
      rw [hb] at h
      obtain ⟨rfl, -⟩ := Prod.mk.inj (Option.some.inj h)
      exact ⟨[], s, .nil s, hs''⟩
    · obtain ⟨rfl, -⟩ := Prod.mk.inj (Option.some.inj h)
      obtain ⟨f1, f2⟩ := decrefAll_frame U hm
      exact outcome_loop U _ hm ⟨f1 ▸ ho, f2 ▸ hl, f1 ▸ hpo⟩

theorem decrefApply_congr (U : Univ) {s t : State} (h : Sim s t) (c b : Nat) :
    OSim (decrefApply s c b) (decrefApply t c b) := by
  rw [decrefApply_eq U, decrefApply_eq U]
  exact .ite (decrefOk_congr h c b) (.of_sim (fwd_congr U h _)) trivial

theorem decrefAll_congr (U : Univ) {s t : State} (h : Sim s t) (c : Nat) (bs : List Nat) :
    OSim (decrefAll s c bs) (decrefAll t c bs) := by
  induction bs generalizing s t with
  | nil => exact h
  | cons b bs ih => exact (decrefApply_congr U h c b).bind fun _ _ hab => ih hab

theorem mem_erase_erase {l : List Nat} {x y : Nat} (h : y ≠ x) : y ∈ (l.erase x).erase y ↔ y ∈ l.erase y := by
  rw [List.erase_comm]; exact List.mem_erase_of_ne h

theorem decrefOk_fwd_ne (U : Univ) (s : State) (c : Nat) {x y : Nat} (h : y ≠ x) :
    DecrefOk (fwd U s (.decref c x)) c y ↔ DecrefOk s c y := by
  have m2 : (c, y) ∈ s.revb.erase (c, x) ↔ (c, y) ∈ s.revb := List.mem_erase_of_ne (by simp [h])
  have m3 : y ∈ s.limiters.filter (· != x) ↔ y ∈ s.limiters := by simp [List.mem_filter, h]
  unfold DecrefOk fwd
  simp only [List.mem_erase_of_ne h, mem_erase_erase h, m2]
  by_cases hx : x ∈ s.refcnt.erase x <;> simp [hx, m3]

/-- two `decref`s of one choice point commute: neither changes whether the other succeeds (`decrefOk_fwd_ne`),
`erase` commutes with `erase` in `refcnt` and `revb`, and the two limiter lists — each blocker filtered out or not
according to its own last reference — have the same `count`s -/
theorem decref_swap (U : Univ) (s : State) (c x y : Nat) :
    OSim ((decrefApply s c x).bind fun s => decrefApply s c y)
      ((decrefApply s c y).bind fun s => decrefApply s c x) := by
  by_cases hxy : x = y
  · subst hxy; exact OSim.refl _
  have hyx : y ≠ x := fun e => hxy e.symm
  simp only [decrefApply_eq U]
  -- unless both succeed, both sides are `none`
  by_cases hx : DecrefOk s c x <;> by_cases hy : DecrefOk s c y <;>
    simp [hx, hy, decrefOk_fwd_ne U s c hxy, decrefOk_fwd_ne U s c hyx, OSim]
  refine { Sim.refl s with limiters := ?_, revb := ?_, refcnt := ?_ }
  · simp only [fwd, push, mem_erase_erase hyx, mem_erase_erase hxy]
    -- unless both last references go, the two limiter lists are equal
    by_cases ex : x ∈ s.refcnt.erase x <;> by_cases ey : y ∈ s.refcnt.erase y <;> simp [ex, ey]
    rw [List.perm_iff_count]; intro a
    simp only [count_filter']
    by_cases h1 : a = x <;> by_cases h2 : a = y <;> simp [h1, h2]
  · simp only [fwd, push]; rw [List.erase_comm]
  · simp only [fwd, push]; rw [List.erase_comm]

theorem decrefAll_perm (U : Univ) (c : Nat) {bs bs' : List Nat} (hp : bs ~ bs') :
    ∀ s t, Sim s t → OSim (decrefAll s c bs) (decrefAll t c bs') := by
  induction hp with
  | nil => intro s t h; exact h
  | cons x _ ih => intro s t h; exact (decrefApply_congr U h c x).bind fun a b hab => ih a b hab
  | swap x y l =>
    intro s t h
    have h1 : OSim (decrefAll s c (y :: x :: l)) (decrefAll s c (x :: y :: l)) := by
      simp only [decrefAll, ← Option.bind_assoc]
      exact (decref_swap U s c y x).bind fun a b hab => decrefAll_congr U hab c l
    exact h1.trans (decrefAll_congr U h c (x :: y :: l))
  | trans _ _ ih1 ih2 => intro s t h; exact (ih1 s s (Sim.refl s)).trans (ih2 s t h)

theorem blockersOf_perm {s t : State} (h : Sim s t) (c : Nat) : blockersOf s c ~ blockersOf t c :=
  (h.revb.filter _).map _

theorem removePkgBlockers_congr (U : Univ) {s t : State} (h : Sim s t) (c : Nat) :
    OSim (removePkgBlockers s c) (removePkgBlockers t c) :=
  decrefAll_perm U c (blockersOf_perm h c) s t h

theorem refused_congr (U : Univ) {s t : State} (h : Sim s t) (p : Nat) (f : Bool) :
    refused U s p f = refused U t p f := by
  have : conflicts U s p ~ conflicts U t p := ((h.limiters.filter _).map _).append ((h.slots.filter _).map _)
  rw [refused, refused, this.isEmpty_eq]

theorem applicable_congr (U : Univ) {s t : State} (h : Sim s t) (c : Cmd) : applicable U s c = applicable U t c := by
  cases c with
  | add c p f => simp only [applicable, h.slots.contains_eq]
  | remove c p => simp only [applicable, h.choices p]
  | replace c p f => simp only [applicable, occupants, (h.slots.filter _).length_eq]
  | _ => rfl

theorem removePkgBlockers_same (U : Univ) {s t m : State} (h : Same s t) (c : Nat)
    (hm : removePkgBlockers s c = some m) :
    ∃ m', removePkgBlockers t c = some m' ∧ Same m m' := by
  have hp := blockersOf_perm h.sim c
  obtain ⟨m', hm', hs⟩ := (hm ▸ removePkgBlockers_congr U h.sim c).some_left
  refine ⟨m', hm', same_iff.mpr ⟨hs, ?_⟩⟩
  rw [(decrefAll_chain U hm).plan, (decrefAll_chain U hm').plan]
  simp only [List.length_append, List.length_map, hp.length_eq, h.plan]

theorem apply_same (U : Univ) {s t s' : State} {c : Cmd} {out : List Conf} (h : Same s t)
    (is : Inv s) (ha : applicable U s c = true) (hs : applyCmd U s c = some (s', out)) :
    ∃ t' out', applyCmd U t c = some (t', out') ∧ Same s' t' := by
  cases c with
  | add c p f =>
    rw [applyCmd_add] at hs ⊢
    rw [← refused_congr U h.sim p f]
    cases hr : refused U s p f
    all_goals
      rw [hr] at hs
      obtain ⟨rfl, -⟩ := Prod.mk.inj (Option.some.inj hs)
    · exact ⟨_, _, rfl, fwd_same U h _⟩
    · exact ⟨_, _, rfl, h⟩
  | hardref r =>
    obtain ⟨rfl, -⟩ := Prod.mk.inj (Option.some.inj hs)
    exact ⟨_, _, rfl, fwd_same U h (.hardref r)⟩
  | backref c p =>
    obtain ⟨rfl, -⟩ := Prod.mk.inj (Option.some.inj hs)
    exact ⟨_, _, rfl, fwd_same U h (.backref c p)⟩
  | incref c b =>
    obtain ⟨rfl, -⟩ := Prod.mk.inj (Option.some.inj hs)
    exact ⟨_, _, rfl, fwd_same U h (.incref c b)⟩
  | decref c b =>
    simp only [applyCmd, decrefApply_eq U, ← decrefOk_congr h.sim c b] at hs ⊢
    split at hs
    · rename_i hd
      obtain ⟨rfl, -⟩ := Prod.mk.inj (Option.some.inj hs)
      exact ⟨_, _, by rw [if_pos hd]; rfl, fwd_same U h _⟩
    · cases hs
  | remove c p =>
    rw [applyCmd_remove] at hs ⊢
    split at hs
    · rename_i hc
      obtain ⟨m, hm, e⟩ := Option.map_eq_some_iff.mp hs
      obtain ⟨rfl, -⟩ := Prod.mk.inj e
      obtain ⟨m', hm', hmm⟩ := removePkgBlockers_same U h c hm
      exact ⟨_, _, by rw [if_pos ⟨h.slots.mem_iff.mp hc.1, h.choices p ▸ hc.2⟩, hm']; rfl, fwd_same U hmm _⟩
    · cases hs
  | replace c p f =>
    obtain ⟨old, oldc, hocc, hl⟩ := replace_occupant U is ha
    have hocct : occupants U t p = [old] := ((h.slots.filter (sameSlot U p)).symm.trans (.of_eq hocc)).eq_singleton
    rw [applyCmd_replace U c f hocc hl] at hs
    rw [applyCmd_replace U c f hocct (h.choices old ▸ hl)]
    obtain ⟨m, hm, hs⟩ := Option.bind_eq_some_iff.mp hs
    obtain ⟨m', hm', hmm⟩ := removePkgBlockers_same U h oldc hm
    have hX : Sim { m with slots := s.slots.filter (· != old) } { m' with slots := t.slots.filter (· != old) } :=
      { hmm.sim with slots := h.slots.filter _ }
    rw [hm', Option.bind_some, ← refused_congr U hX p f]
    split at hs
    · -- refused on either side: both are back where they started
      rename_i hr
      obtain ⟨s'', hs1, hs2, hs3⟩ := replace_refused U is (occupants_single U hocc).1 hm
      obtain ⟨t'', ht1, ht2, ht3⟩ := replace_refused U (is.of_sim h.sim) (occupants_single U hocct).1 hm'
      rw [hs1] at hs
      obtain ⟨rfl, -⟩ := Prod.mk.inj (Option.some.inj hs)
      exact ⟨t'', _, by rw [if_pos hr, ht1]; rfl,
        same_iff.mpr ⟨(hs2.trans h.sim).trans ht2.symm, by rw [hs3, ht3]; exact h.plan⟩⟩
    · rename_i hr
      obtain ⟨rfl, -⟩ := Prod.mk.inj (Option.some.inj hs)
      exact ⟨_, _, by rw [if_neg hr], fwd_same U hmm _⟩

end Pkgcore.C17
