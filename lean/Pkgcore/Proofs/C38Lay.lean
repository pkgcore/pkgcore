import Pkgcore.Spec.C38
/-! The text format of one line.  `scan` and `Segs.render` are inverse on well-formed layouts; `NoComment` with its
cons/append laws describes `_COMMENT_RE`; together they give `Lay`, the layouts-with-comment that a line is read back as
(`lay_iff`), and `tokens_body`: `_parse`, which cuts the line one character before the `#`, sees the same tokens. -/
namespace Pkgcore.C38
open Pkgcore.C38.Spec

theorem hash_not_space : isSpace '#' = false := by decide

theorem space_is_space : isSpace ' ' = true := by decide

theorem nl_is_space : isSpace '\n' = true := by decide

theorem blank_nil : Blank [] := fun _ => List.not_mem_nil.elim

theorem blank_cons {c : Char} {ws : Str} (hc : isSpace c = true) (h : Blank ws) : Blank (c :: ws) :=
  fun x hx => (List.mem_cons.1 hx).elim (fun e => e ▸ hc) (h x)

theorem blank_append {a b : Str} (ha : Blank a) (hb : Blank b) : Blank (a ++ b) :=
  fun c hc => (List.mem_append.1 hc).elim (ha c) (hb c)

theorem blank_space : Blank [' '] := fun _ hc => List.mem_singleton.1 hc ▸ space_is_space

/-- the layouts `scan` returns (`scan_wf`), on which it undoes `render` (`scan_of_wf`) -/
structure Segs.WF (s : Segs) : Prop where
  ws : ∀ it ∈ s.items, Blank it.1
  tok : ∀ it ∈ s.items, it.2 ≠ [] ∧ ∀ c ∈ it.2, isSpace c = false
  sep : ∀ it ∈ s.items.tail, it.1 ≠ []
  trail : Blank s.trail

theorem Segs.wf_cons {ws tok : Str} {rest : List (Str × Str)} {trail : Str} :
    Segs.WF ⟨(ws, tok) :: rest, trail⟩ ↔
      Blank ws ∧ (tok ≠ [] ∧ ∀ c ∈ tok, isSpace c = false) ∧ (∀ it ∈ rest.head?, it.1 ≠ []) ∧
        Segs.WF ⟨rest, trail⟩ := by
  constructor
  · intro h
    exact ⟨h.ws _ List.mem_cons_self, h.tok _ List.mem_cons_self, fun it hit => h.sep it (List.mem_of_mem_head? hit),
      fun it hit => h.ws it (List.mem_cons_of_mem _ hit), fun it hit => h.tok it (List.mem_cons_of_mem _ hit),
      fun it hit => h.sep it (List.mem_of_mem_tail hit), h.trail⟩
  · rintro ⟨hws, htok, hsep, h⟩
    refine ⟨List.forall_mem_cons.2 ⟨hws, h.ws⟩, List.forall_mem_cons.2 ⟨htok, h.tok⟩, ?_, h.trail⟩
    intro it hit
    cases rest with
    | nil => cases hit
    | cons r rs => exact (List.mem_cons.1 hit).elim (fun e => e ▸ hsep r rfl) (h.sep it)

theorem Segs.wf_nil {trail : Str} : Segs.WF ⟨[], trail⟩ ↔ Blank trail :=
  ⟨fun h => h.trail,
    fun h => ⟨fun _ => List.not_mem_nil.elim, fun _ => List.not_mem_nil.elim, fun _ => List.not_mem_nil.elim, h⟩⟩

theorem Segs.render_cons (ws tok : Str) (rest : List (Str × Str)) (trail : Str) :
    Segs.render ⟨(ws, tok) :: rest, trail⟩ = ws ++ (tok ++ Segs.render ⟨rest, trail⟩) := by
  simp only [Segs.render, List.flatMap_cons, List.append_assoc]

/-- what `scan` does with a whitespace character in front -/
def Segs.addBlank (ws : Str) (s : Segs) : Segs :=
  match s.items with
  | [] => ⟨[], ws ++ s.trail⟩
  | (w, tok) :: rest => ⟨(ws ++ w, tok) :: rest, s.trail⟩

/-- what `scan` does with any other character in front -/
def Segs.addChar (c : Char) (s : Segs) : Segs :=
  match s.items with
  | ([], tok) :: rest => ⟨([], c :: tok) :: rest, s.trail⟩
  | items => ⟨([], [c]) :: items, s.trail⟩

theorem scan_cons_space (c : Char) (cs : Str) (hc : isSpace c = true) : scan (c :: cs) = (scan cs).addBlank [c] := by
  rw [scan]; simp only [hc, if_true]; rfl

theorem scan_cons_nonspace (c : Char) (cs : Str) (hc : isSpace c = false) : scan (c :: cs) = (scan cs).addChar c := by
  rw [scan]; simp only [hc, Bool.false_eq_true, if_false]; rfl

theorem Segs.render_addBlank (ws : Str) (s : Segs) : (s.addBlank ws).render = ws ++ s.render := by
  obtain ⟨items, trail⟩ := s
  match items with
  | [] => rfl
  | (w, tok) :: rest => simp only [Segs.addBlank, Segs.render_cons, List.append_assoc]

theorem Segs.render_addChar (c : Char) (s : Segs) : (s.addChar c).render = c :: s.render := by
  obtain ⟨items, trail⟩ := s
  match items with
  | [] => rfl
  | ([], tok) :: rest => rfl
  | (_ :: _, tok) :: rest => rfl

theorem Segs.wf_addBlank {ws : Str} {s : Segs} (hws : Blank ws) (h : s.WF) : (s.addBlank ws).WF := by
  obtain ⟨items, trail⟩ := s
  match items, h with
  | [], h => exact Segs.wf_nil.2 (blank_append hws h.trail)
  | (w, tok) :: rest, h =>
    obtain ⟨hw, r⟩ := Segs.wf_cons.1 h
    exact Segs.wf_cons.2 ⟨blank_append hws hw, r⟩

theorem Segs.wf_addChar {c : Char} {s : Segs} (hc : isSpace c = false) (h : s.WF) : (s.addChar c).WF := by
  have hc' : ([c] : Str) ≠ [] ∧ ∀ x ∈ [c], isSpace x = false :=
    ⟨List.cons_ne_nil _ _, fun x hx => List.mem_singleton.1 hx ▸ hc⟩
  obtain ⟨items, trail⟩ := s
  match items, h with
  | [], h => exact Segs.wf_cons.2 ⟨blank_nil, hc', nofun, h⟩
  | ([], tok) :: rest, h =>
    obtain ⟨hw, ⟨_, hns⟩, r⟩ := Segs.wf_cons.1 h
    exact Segs.wf_cons.2 ⟨hw, ⟨List.cons_ne_nil _ _, List.forall_mem_cons.2 ⟨hc, hns⟩⟩, r⟩
  | (x :: w, tok) :: rest, h =>
    exact Segs.wf_cons.2 ⟨blank_nil, hc', fun it hit => Option.some.inj hit ▸ List.cons_ne_nil x w, h⟩

theorem scan_render (b : Str) : (scan b).render = b := by
  induction b with
  | nil => rfl
  | cons c cs ih =>
    cases hc : isSpace c with
    | true => rw [scan_cons_space c cs hc, Segs.render_addBlank, ih]; rfl
    | false => rw [scan_cons_nonspace c cs hc, Segs.render_addChar, ih]

theorem scan_wf (b : Str) : (scan b).WF := by
  induction b with
  | nil => exact Segs.wf_nil.2 blank_nil
  | cons c cs ih =>
    cases hc : isSpace c with
    | true => rw [scan_cons_space c cs hc]; exact Segs.wf_addBlank (blank_cons hc blank_nil) ih
    | false => rw [scan_cons_nonspace c cs hc]; exact Segs.wf_addChar hc ih

theorem Segs.addBlank_nil (s : Segs) : s.addBlank [] = s := by
  obtain ⟨_ | _, _⟩ := s <;> rfl

theorem Segs.addBlank_cons (c : Char) (cs : Str) (s : Segs) : (s.addBlank cs).addBlank [c] = s.addBlank (c :: cs) := by
  obtain ⟨_ | _, _⟩ := s <;> rfl

theorem scan_blank_append (ws : Str) (hws : Blank ws) (r : Str) : scan (ws ++ r) = (scan r).addBlank ws := by
  induction ws with
  | nil => rw [List.nil_append, Segs.addBlank_nil]
  | cons c cs ih =>
    rw [List.cons_append, scan_cons_space _ _ (hws c List.mem_cons_self),
      ih fun x hx => hws x (List.mem_cons_of_mem _ hx), Segs.addBlank_cons]

theorem scan_tok_append (t : Str) (hne : t ≠ []) (hns : ∀ c ∈ t, isSpace c = false) (r : Str)
    (hr : ∀ it ∈ (scan r).items.head?, it.1 ≠ []) :
    scan (t ++ r) = ⟨([], t) :: (scan r).items, (scan r).trail⟩ := by
  induction t with
  | nil => exact absurd rfl hne
  | cons c cs ih =>
    rw [List.cons_append, scan_cons_nonspace _ _ (hns c List.mem_cons_self)]
    cases cs with
    | cons d ds => rw [ih (List.cons_ne_nil _ _) fun x hx => hns x (List.mem_cons_of_mem _ hx)]; rfl
    | nil =>
      rw [List.nil_append]
      generalize scan r = s at hr
      obtain ⟨items, trail⟩ := s
      match items, hr with
      | [], _ => rfl
      | ([], tok) :: rest, hr => exact absurd rfl (hr _ rfl)
      | (x :: w, tok) :: rest, _ => rfl

theorem scan_of_wf (s : Segs) (h : s.WF) : scan s.render = s := by
  obtain ⟨items, trail⟩ := s
  induction items with
  | nil =>
    have := scan_blank_append trail h.trail []
    rwa [List.append_nil, show (scan []).addBlank trail = ⟨[], trail ++ []⟩ from rfl, List.append_nil] at this
  | cons it rest ih =>
    obtain ⟨ws, tok⟩ := it
    obtain ⟨hws, htok, hsep, hrest⟩ := Segs.wf_cons.1 h
    rw [Segs.render_cons, scan_blank_append ws hws,
      scan_tok_append tok htok.1 htok.2 _ (by rw [ih hrest]; exact hsep), ih hrest]
    simp only [Segs.addBlank, List.append_nil]

theorem scan_append_space (x : Str) (c : Char) (hc : isSpace c = true) :
    scan (x ++ [c]) = ⟨(scan x).items, (scan x).trail ++ [c]⟩ := by
  have h := scan_wf x
  have hx : Segs.render ⟨(scan x).items, (scan x).trail ++ [c]⟩ = x ++ [c] := by
    conv => rhs; rw [← scan_render x]
    simp only [Segs.render, List.append_assoc]
  rw [← hx]
  exact scan_of_wf _ ⟨h.ws, h.tok, h.sep, blank_append h.trail (blank_cons hc blank_nil)⟩

theorem getLast?_append_of_ne_nil {β : Type u} {a b : List β} (h : b ≠ []) : (a ++ b).getLast? = b.getLast? := by
  rw [List.getLast?_append, List.getLast?_eq_some_getLast h]; rfl

/-- whether a `#` right after the string `a` would start a comment; `st` answers for the empty `a` -/
def endState (st : Bool) (a : Str) : Bool :=
  match a.getLast? with
  | none => st
  | some c => isSpace c

theorem endState_cons (st : Bool) (c : Char) (cs : Str) : endState st (c :: cs) = endState (isSpace c) cs := by
  cases cs with
  | nil => rfl
  | cons d ds => rw [endState, endState, List.getLast?_cons_cons, List.getLast?_eq_some_getLast (List.cons_ne_nil d ds)]

theorem endState_append_ne (st : Bool) (a b : Str) (hb : b ≠ []) : endState st (a ++ b) = endState st b := by
  rw [endState, endState, getLast?_append_of_ne_nil hb]

theorem endState_of_all (st : Bool) {t : Str} {b : Bool} (h : ∀ c ∈ t, isSpace c = b) (hne : t ≠ []) :
    endState st t = b := by
  rw [endState, List.getLast?_eq_some_getLast hne]; exact h _ (List.getLast_mem hne)

/-- `_COMMENT_RE` finds nothing in `s` when the search starts in state `st` -/
def NoComment (st : Bool) (s : Str) : Prop := splitCommentAux st s = (s, [])

theorem noComment_cons {st : Bool} {c : Char} {cs : Str} :
    NoComment st (c :: cs) ↔ ¬ (c = '#' ∧ st = true) ∧ NoComment (isSpace c) cs := by
  unfold NoComment
  rw [splitCommentAux]
  split
  next h => simp [h]
  next h =>
    simp only [h, not_false_eq_true, true_and, Prod.mk.injEq, List.cons.injEq]
    exact ⟨fun e => Prod.ext e.1 e.2, fun e => e ▸ ⟨rfl, rfl⟩⟩

theorem noComment_append {st : Bool} {a b : Str} :
    NoComment st (a ++ b) ↔ NoComment st a ∧ NoComment (endState st a) b := by
  induction a generalizing st with
  | nil => exact ⟨fun h => ⟨rfl, h⟩, fun h => h.2⟩
  | cons c cs ih => rw [List.cons_append, noComment_cons, noComment_cons, ih, endState_cons, and_assoc]

theorem noComment_blank {ws : Str} (h : Blank ws) (st : Bool) : NoComment st ws := by
  induction ws generalizing st with
  | nil => rfl
  | cons c cs ih =>
    have hc := h c List.mem_cons_self
    refine noComment_cons.2 ⟨fun e => ?_, ih (fun x hx => h x (List.mem_cons_of_mem _ hx)) _⟩
    rw [e.1, hash_not_space] at hc
    cases hc

theorem noComment_tok {t : Str} (hns : ∀ c ∈ t, isSpace c = false) (st : Bool) :
    NoComment st t ↔ (st = true → t.head? ≠ some '#') := by
  induction t generalizing st with
  | nil => exact ⟨fun _ _ => nofun, fun _ => rfl⟩
  | cons c cs ih =>
    rw [noComment_cons, hns c List.mem_cons_self, ih fun x hx => hns x (List.mem_cons_of_mem _ hx)]
    cases st <;> simp

/-- `hst`: in state `false` a first token standing right at the start may begin with `#` and no comment is found, so
the layout must then begin with whitespace.  A line starts in state `true`; for the items after the first the induction
has the right disjunct from `WF.sep`. -/
theorem noComment_render (s : Segs) (h : s.WF) {st : Bool} (hst : st = true ∨ ∀ it ∈ s.items.head?, it.1 ≠ []) :
    NoComment st s.render ↔ ∀ it ∈ s.items, it.2.head? ≠ some '#' := by
  obtain ⟨items, trail⟩ := s
  induction items generalizing st with
  | nil => exact ⟨fun _ _ => List.not_mem_nil.elim, fun _ => noComment_blank h.trail st⟩
  | cons it rest ih =>
    obtain ⟨ws, tok⟩ := it
    obtain ⟨hws, htok, hsep, hrest⟩ := Segs.wf_cons.1 h
    have hst' : endState st ws = true := by
      cases ws with
      | nil => exact hst.elim id fun h' => absurd rfl (h' _ rfl)
      | cons c cs => exact endState_of_all st hws (List.cons_ne_nil _ _)
    rw [Segs.render_cons, noComment_append, noComment_append, hst', endState_of_all _ htok.2 htok.1,
      noComment_tok htok.2, ih hrest (Or.inr hsep), List.forall_mem_cons]
    simp [noComment_blank hws st]

theorem render_last_nonspace (s : Segs) (h : s.WF) (hne : s.items ≠ []) (ht : s.trail = []) :
    ∃ c, s.render.getLast? = some c ∧ isSpace c = false := by
  have htok := h.tok _ (List.getLast_mem hne)
  refine ⟨_, ?_, htok.2 _ (List.getLast_mem htok.1)⟩
  have e : s.render = (s.items.dropLast.flatMap (fun it => it.1 ++ it.2) ++ (s.items.getLast hne).1)
      ++ (s.items.getLast hne).2 := by
    conv => lhs; rw [Segs.render, ht, ← List.dropLast_concat_getLast hne]
    simp only [List.flatMap_append, List.flatMap_singleton, List.append_nil, List.append_assoc]
  rw [e, getLast?_append_of_ne_nil htok.1, List.getLast?_eq_some_getLast htok.1]

theorem endState_render {s : Segs} (h : s.WF) :
    endState true s.render = true ↔ (s.items ≠ [] → s.trail ≠ []) := by
  by_cases ht : s.trail = []
  · by_cases hne : s.items = []
    · simp [Segs.render, ht, hne, endState]
    · obtain ⟨c, hc, hsp⟩ := render_last_nonspace s h hne ht
      simp [endState, hc, hsp, ht, hne]
  · rw [Segs.render, endState_append_ne _ _ _ ht, endState_of_all _ h.trail ht]
    simp [ht]

/-- what `_COMMENT_RE.search` returns -/
theorem splitCommentAux_iff {st : Bool} {r b c : Str} :
    splitCommentAux st r = (b, c) ↔
      r = b ++ c ∧ NoComment st b ∧ (c = [] ∨ (c.head? = some '#' ∧ endState st b = true)) := by
  constructor
  · intro h
    induction r generalizing st b c with
    | nil => cases h; exact ⟨rfl, rfl, Or.inl rfl⟩
    | cons x xs ih =>
      rw [splitCommentAux] at h
      split at h
      next hc => cases h; exact ⟨rfl, rfl, Or.inr ⟨by rw [hc.1]; rfl, hc.2⟩⟩
      next hc =>
        cases h
        obtain ⟨h1, h2, h3⟩ := ih rfl
        exact ⟨congrArg (x :: ·) h1, noComment_cons.2 ⟨hc, h2⟩,
          h3.imp_right fun h => ⟨h.1, by rw [endState_cons]; exact h.2⟩⟩
  · rintro ⟨rfl, hb, hc⟩
    induction b generalizing st with
    | nil =>
      rcases hc with rfl | ⟨h1, h2⟩
      · rfl
      · obtain ⟨xs, rfl⟩ := List.head?_eq_some_iff.1 h1
        rw [List.nil_append, splitCommentAux, if_pos ⟨rfl, h2⟩]
    | cons x xs ih =>
      obtain ⟨hx, hxs⟩ := noComment_cons.1 hb
      rw [endState_cons] at hc
      rw [List.cons_append, splitCommentAux, if_neg hx, ih hxs hc]

/-- the layouts-with-comment that are read back as themselves: well formed, no token looks like a comment, and a
comment is separated from the last token -/
structure Lay (s : Segs) (c : Str) : Prop where
  wf : s.WF
  heads : ∀ it ∈ s.items, it.2.head? ≠ some '#'
  comment : c = [] ∨ (c.head? = some '#' ∧ (s.items ≠ [] → s.trail ≠ []))

/-- `_COMMENT_RE` and `_TOKEN_RE` read `raw` as the layout `s` followed by the comment `c` exactly when `raw` is
written that way and `Lay s c` -/
theorem lay_iff {raw : Str} {s : Segs} {c : Str} :
    splitComment raw = (s.render, c) ∧ scan s.render = s ↔ raw = s.render ++ c ∧ Lay s c := by
  constructor
  · rintro ⟨h1, h2⟩
    have hwf : s.WF := h2 ▸ scan_wf s.render
    obtain ⟨hr, hb, hc⟩ := splitCommentAux_iff.1 h1
    exact ⟨hr, hwf, (noComment_render s hwf (Or.inl rfl)).1 hb,
      hc.imp_right fun h => ⟨h.1, (endState_render hwf).1 h.2⟩⟩
  · rintro ⟨rfl, hwf, hh, hc⟩
    exact ⟨splitCommentAux_iff.2 ⟨rfl, (noComment_render s hwf (Or.inl rfl)).2 hh,
      hc.imp_right fun h => ⟨h.1, (endState_render hwf).2 h.2⟩⟩, scan_of_wf s hwf⟩

theorem lay_scan (raw : Str) : Lay (scan (splitComment raw).1) (splitComment raw).2 :=
  (lay_iff.1 ⟨by rw [scan_render], by rw [scan_render]⟩).2

theorem Lay.tok {s : Segs} {c : Str} (h : Lay s c) : ∀ it ∈ s.items, Tok it.2 :=
  fun it hit => ⟨(h.wf.tok it hit).1, (h.wf.tok it hit).2, h.heads it hit⟩

/-- the text `_parse` tokenises stops one character before the `#`; that character, if there is one, is whitespace -/
theorem tokens_body (raw : Str) :
    tokens (if (splitComment raw).2.isEmpty then raw else (splitComment raw).1.dropLast)
      = tokens (splitComment raw).1 := by
  obtain ⟨h1, _, h3⟩ := splitCommentAux_iff.1 (Prod.eta (splitComment raw)).symm
  split
  next hc => rw [List.isEmpty_iff.1 hc, List.append_nil] at h1; rw [← h1]
  next hc =>
    rcases h3 with h | ⟨_, hend⟩
    · rw [h] at hc; exact absurd rfl hc
    · cases hb : (splitComment raw).1.getLast? with
      | none => rw [List.getLast?_eq_none_iff.1 hb]; rfl
      | some c =>
        rw [endState, hb] at hend
        obtain ⟨ys, hys⟩ := List.getLast?_eq_some_iff.1 hb
        rw [hys, List.dropLast_concat, tokens, tokens, scan_append_space ys c hend]

end Pkgcore.C38
