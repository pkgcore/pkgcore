import Pkgcore.Proofs.C49
/-!
# C49 — generated metadata accumulates eclass values as PMS requires

`run`/`inheritAll`/`loadFinish`/`metadata` are the hand translation of `inherit()`, `__load_ebuild()`,
`__dump_metadata_keys()` and `_update_metadata` (after the `fix:` commit); `Spec.*` is the PMS description over the
ebuild/eclass tree.  All theorems hold for arbitrary trees: any nesting depth, any number of statements, eclasses
sourced several times.
-/
namespace Pkgcore.C49
open Pkgcore.C49.Spec

/-- **accumulated keys**: after sourcing the ebuild, an accumulated variable holds the ebuild's *own*
value (its own statements, whatever the eclasses did to the variable), and its `E_` accumulator holds the
own values of all sourced eclasses — directly or indirectly inherited, each time it is sourced — in the
order their sourcing completes, empty ones skipped, separated by single blanks -/
theorem accumulated_eq_concat_in_source_order (A : List Str) (tree : List Stmt) (v : Str) (hv : v ∈ A) :
    (run A 0 [] tree St.init).vars v = own v tree none ∧
    (run A 0 [] tree St.init).acc v = eclassValue v tree := by
  have f := run_facts A 0 [] tree St.init
  refine ⟨f.accVar v hv, ?_⟩
  rw [f.accE v hv]
  rfl

example : kDEPEND ∈ accBase := by decide +kernel

/-- **other keys take the final value**: a variable that is not accumulated ends up with what the last
statement touching it — in the ebuild or in any eclass, in the order bash executes them — left in it -/
theorem other_keys_take_final_value (A : List Str) (tree : List Stmt) (v : Str) (hv : v ∉ A) :
    (run A 0 [] tree St.init).vars v = plainValue v tree :=
  (run_facts A 0 [] tree St.init).plainVar v hv

example : "DESCRIPTION".toList ∉ accBase ++ accExtra := by decide +kernel

/-- **INHERITED names every eclass sourced**, directly or indirectly, in the order the sourcing completes;
INHERIT lists the eclasses the ebuild itself names -/
theorem inherited_names_all (A : List Str) (tree : List Stmt) :
    (run A 0 [] tree St.init).inherited = (sourced tree).map (·.1) ∧
    (run A 0 [] tree St.init).direct = directInherits tree := by
  have f := run_facts A 0 [] tree St.init
  exact ⟨by simpa [St.init] using f.inh, by simpa [St.init] using f.dirs⟩

/-- **DEFINED_PHASES lists exactly the phase functions the ebuild or its eclasses define** (a function
defined by `EXPORT_FUNCTIONS` counts), `-` (the empty list) exactly when there is none -/
theorem defined_phases_exact (e : EapiInfo) (tree : List Stmt) (p : Str) :
    (run e.accumulated 0 [] tree St.init).funcs = definedFuncs tree ∧
    (p ∈ (metadata e tree).definedPhases ↔ ∃ f, (f, p) ∈ e.phases ∧ f ∈ definedFuncs tree) := by
  have f := run_facts e.accumulated 0 [] tree St.init
  have hf : (run e.accumulated 0 [] tree St.init).funcs = definedFuncs tree := by
    rw [definedFuncs_eq, f.fns]; simp [St.init]
  refine ⟨hf, ?_⟩
  unfold metadata
  simp only [mem_sortStrs, List.mem_eraseDups, List.mem_map, List.mem_filter, hf]
  constructor
  · rintro ⟨⟨f', p'⟩, ⟨hm, hc⟩, rfl⟩
    exact ⟨f', hm, by simpa using hc⟩
  · rintro ⟨f', hm, hc⟩
    exact ⟨(f', p), ⟨hm, by simpa using hc⟩, rfl⟩

/-- **a phase made default through `EXPORT_FUNCTIONS` is a defined phase function, wherever the call stands**:
if any eclass sourced for the ebuild (directly or through nested inherits; `me` is that eclass) executes
`EXPORT_FUNCTIONS … f …` and `f` is a phase function of the EAPI, its phase is in DEFINED_PHASES.  There is
no hypothesis about `<eclass>_f`: it may be defined before the call, after it (the traditional placement of
`EXPORT_FUNCTIONS` right after the EAPI check), in another file, or not at all -/
theorem exported_phase_is_defined (e : EapiInfo) (tree : List Stmt) (me : Str) (ps : List Str) (f p : Str)
    (hx : (me, Stmt.export ps) ∈ flat [] tree) (hf : f ∈ ps) (hp : (f, p) ∈ e.phases) :
    p ∈ (metadata e tree).definedPhases := by
  refine ((defined_phases_exact e tree p).2).2 ⟨f, hp, ?_⟩
  rw [definedFuncs_eq, List.mem_flatMap]
  exact ⟨(me, Stmt.export ps), hx, by simpa [defsOf] using hf⟩

/-- the eclass exports `src_compile` *before* defining `early_src_compile`, nested below another eclass -/
example : ("early".toList, Stmt.export ["src_compile".toList]) ∈
    flat [] [.inherit [("outer".toList, [.inherit [("early".toList,
      [.export ["src_compile".toList], .func "early_src_compile".toList])]])]] := by
  simp [flat, flatEcls]

/-- the value a metadata key has when `__load_ebuild` is through is the one PMS gives it -/
theorem loadFinish_eq_keyValue (e : EapiInfo) (tree : List Stmt) (hR : kRDEPEND ∈ e.accumulated)
    (hD : kDEPEND ∈ e.accumulated) (k : Str) :
    loadFinish e.accumulated e.rdependDefault (run e.accumulated 0 [] tree St.init) k = keyValue e tree k := by
  have hacc := accumulated_eq_concat_in_source_order e.accumulated tree
  unfold loadFinish keyValue
  dsimp only
  rw [rdependDefault_apply]
  by_cases hk : k ∈ e.accumulated
  · rw [if_pos hk, if_pos hk, (hacc k hk).1, (hacc k hk).2, (hacc _ hD).1]
  · rw [if_neg hk, if_neg hk, if_neg (fun h : k = kRDEPEND ∧ _ => hk (h.1 ▸ hR)),
      other_keys_take_final_value _ _ _ hk]

/-- **the whole metadata is what PMS prescribes**: every emitted key (accumulated keys incl. the EAPI 0–3
RDEPEND default applied to the ebuild's own DEPEND before the eclass values are added; plain keys;
whitespace normalised; empty values dropped), DEFINED_PHASES, INHERIT and INHERITED of the translated
code equal the tree-level description -/
theorem metadata_eq_spec (e : EapiInfo) (tree : List Stmt) (hR : kRDEPEND ∈ e.accumulated)
    (hD : kDEPEND ∈ e.accumulated) : metadata e tree = Spec.metadata e tree := by
  have hf := (defined_phases_exact e tree []).1
  obtain ⟨hin, hdir⟩ := inherited_names_all e.accumulated tree
  unfold metadata Spec.metadata
  simp only [hf, hin, hdir, dumpKey_pair, loadFinish_eq_keyValue e tree hR hD]
  rfl

example : kRDEPEND ∈ (eapiInfo ⟨"5", false, [], []⟩).accumulated ∧
    kDEPEND ∈ (eapiInfo ⟨"5", false, [], []⟩).accumulated := by decide +kernel

def magicNat : String → Option Nat
  | "0" => some 0 | "1" => some 1 | "2" => some 2 | "3" => some 3 | "4" => some 4
  | "5" => some 5 | "6" => some 6 | "7" => some 7 | "8" => some 8 | _ => none

/-- the tables generated from `pkgcore.ebuild.eapi` follow PMS: PROPERTIES/RESTRICT accumulate from EAPI 8;
REQUIRED_USE is a key from 4, BDEPEND from 7, IDEPEND from 8; `src_prepare`/`src_configure` are phases
from 2, `pkg_pretend` from 4; every EAPI 0–8 is present and has the nine always-present keys -/
theorem eapi_table_is_pms :
    Generated.C49.eapis.map (·.magic) = ["0", "1", "2", "3", "4", "5", "6", "7", "8"] ∧
    (Generated.C49.eapis.all fun r =>
      match magicNat r.magic with
      | none => false
      | some n =>
        r.accumulatePR == decide (n ≥ 8) &&
        r.keys.contains "REQUIRED_USE" == decide (n ≥ 4) &&
        r.keys.contains "BDEPEND" == decide (n ≥ 7) &&
        r.keys.contains "IDEPEND" == decide (n ≥ 8) &&
        (r.phases.map (·.1)).contains "src_prepare" == decide (n ≥ 2) &&
        (r.phases.map (·.1)).contains "src_configure" == decide (n ≥ 2) &&
        (r.phases.map (·.1)).contains "pkg_pretend" == decide (n ≥ 4) &&
        ["DEPEND", "RDEPEND", "PDEPEND", "IUSE", "RESTRICT", "PROPERTIES", "SLOT", "KEYWORDS", "DESCRIPTION"].all
          (fun k => r.keys.contains k) &&
        r.phases.all (fun p => "pkg_" ++ p.2 == p.1 || "src_" ++ p.2 == p.1)) = true := by
  decide +kernel

end Pkgcore.C49
