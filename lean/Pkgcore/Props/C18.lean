import Pkgcore.Proofs.C18
/-!
# C18 — merging places exactly the package contents on the live filesystem

`mergeContents` mirrors `pkgcore.fs.ops.merge_contents` (with `copyfile`, `do_link`, `ensure_perms`, `mkdir`, snakeoil's
`ensure_dirs`) over the abstract file system of `Model/C18.lean`; `Spec.Placed` is the property.
-/
namespace Pkgcore.C18
open Pkgcore.C18.Spec

/-- **Merging places exactly the contents** — for every well-formed pre-existing file system `pre`, every
contents set `es` (any size, any mix of directories, files with hard-link keys, symlinks, fifos, any names),
every process identity/umask and with or without an offset: if `merge_contents` returns normally, then every
entry is at its location with its type, data/target, mode, ownership and mtime; pre-existing directories keep
their inode and permissions; source inodes are hard-linked; no other path is created, changed or removed
(except missing parents, created as directories, and the `'#new'` temporaries, gone afterwards).

`_partial`: stated under `NoTmpClash` and `NoSymOverDir`; the full statement

    pre.WF → DistinctLocs es → TreeShaped es → HardlinkConsistent es → SymAtDirSolo pre es → RootGuard off pre es →
    mergeContents env off es pre = (s, .ok ()) → Placed pre es s.fs

is false of the model (and of the code): see the two counterexamples below (open findings
`C18-tmp-name-clash`, `C18-symlink-over-directory`).  The remaining hypotheses are well-formedness of the
inputs: a contents set is keyed by location (`DistinctLocs`), describes a tree (`TreeShaped`), entries of one
source inode carry the same bytes (`HardlinkConsistent`), a symlink under a directory entry has one name
(`SymAtDirSolo`), and a root that the merge itself creates is not also an entry (`RootGuard`). -/
theorem merge_places_contents_partial (env : Env) (off : Bool) (pre : Fs) (es : List Entry) (s : St)
    (hpre : pre.WF) (hdist : DistinctLocs es) (hclash : NoTmpClash es) (htree : TreeShaped es)
    (hsym : NoSymOverDir pre es) (hhl : HardlinkConsistent es) (hsolo : SymAtDirSolo pre es)
    (hroot : RootGuard off pre es)
    (h : mergeContents env off es pre = (s, .ok ())) : Placed pre es s.fs := by
  obtain ⟨c, m, hc⟩ := (merge_spec ⟨hpre, hclash, htree, hsym, hhl, hsolo⟩ hdist hroot).post h
  exact placed_of_mid m hc

/-! non-vacuity: a concrete merge that satisfies every hypothesis but `pre.WF` and succeeds — a directory kept, a
file replaced through its `'#new'` sibling, a second name hard-linked, a symlink and a missing parent created -/
example : (mergeContents exEnv true exEs exPre).2.isOk = true ∧
    DistinctLocs exEs ∧ NoTmpClash exEs ∧ TreeShaped exEs ∧ NoSymOverDir exPre exEs ∧ HardlinkConsistent exEs ∧
    SymAtDirSolo exPre exEs ∧ RootGuard true exPre exEs ∧
    placedFailures exPre exEs (mergeContents exEnv true exEs exPre).1.fs = [] := by decide +kernel

/-- **The driver evaluates the specification itself**: the clause list computed on the finitely many paths
present before or after is empty exactly when `Placed` (quantified over all paths) holds. -/
theorem frame_bounded_iff (pre : Fs) (es : List Entry) (fin : Fs) :
    Placed pre es fin ↔ placedFailures pre es fin = [] := by
  unfold placedFailures
  simp only [List.append_eq_nil_iff, Lib.ite_nil_iff, ← frame_bounded, ← parents_bounded, ← tmps_bounded]
  exact ⟨fun h => ⟨⟨⟨⟨⟨h.nondirs, h.dirs⟩, h.hardlinks⟩, h.frame⟩, h.parents⟩, h.tmps⟩,
    fun ⟨⟨⟨⟨⟨h1, h2⟩, h3⟩, h4⟩, h5⟩, h6⟩ => ⟨h1, h2, h3, h4, h5, h6⟩⟩

example : placedFailures exPre exEs exPre ≠ [] := by decide +kernel

/-- the full statement fails: contents with both `f#new` and `f`, where `f` exists — the entry `f#new` is used
as the temporary of `f` and is gone after a successful merge -/
theorem merge_places_contents_counterexample_tmpclash :
    ∃ (env : Env) (pre : Fs) (es : List Entry),
      DistinctLocs es ∧ TreeShaped es ∧ NoSymOverDir pre es ∧ HardlinkConsistent es ∧ SymAtDirSolo pre es ∧
      RootGuard true pre es ∧ (mergeContents env true es pre).2.isOk = true ∧
      ¬ Placed pre es (mergeContents env true es pre).1.fs := by
  refine ⟨⟨0o022, 0, 0⟩,
    ⟨[([], 1, ⟨.dir, 0o755, 0, 0, 0⟩), (["f"], 2, ⟨.file "78", 0o644, 0, 0, 1000⟩)], 3⟩,
    [⟨["f#new"], .reg "65" none, 0o644, 0, 0, 7⟩, ⟨["f"], .reg "6e" none, 0o644, 0, 0, 7⟩],
    by decide +kernel, by decide +kernel, by decide +kernel, by decide +kernel,
    by decide +kernel, by decide +kernel, by decide +kernel, ?_⟩
  rw [frame_bounded_iff]
  decide +kernel

/-- the full statement fails: a symlink entry whose location is an existing directory (and `<location>/<target>`
is a directory) is skipped, the merge still reports success -/
theorem merge_places_contents_counterexample_symoverdir :
    ∃ (env : Env) (pre : Fs) (es : List Entry),
      DistinctLocs es ∧ NoTmpClash es ∧ TreeShaped es ∧ HardlinkConsistent es ∧ SymAtDirSolo pre es ∧
      RootGuard true pre es ∧ (mergeContents env true es pre).2.isOk = true ∧
      ¬ Placed pre es (mergeContents env true es pre).1.fs := by
  refine ⟨⟨0o022, 0, 0⟩,
    ⟨[([], 1, ⟨.dir, 0o755, 0, 0, 0⟩), (["d"], 2, ⟨.dir, 0o755, 0, 0, 0⟩), (["t", "d"], 3, ⟨.dir, 0o755, 0, 0, 0⟩)], 4⟩,
    [⟨["d"], .sym "t", 0o777, 0, 0, 7⟩],
    by decide +kernel, by decide +kernel, by decide +kernel, by decide +kernel,
    by decide +kernel, by decide +kernel, by decide +kernel, ?_⟩
  rw [frame_bounded_iff]
  decide +kernel

/-! The abstract file system gives an object created inside a directory that carries `S_ISGID` the *directory's*
group (and a sub-directory the bit as well), as Linux does — so `merge_places_contents_partial` above, which
quantifies over every `pre`, states in particular that entries merged into a set-group-ID directory of a foreign
group end up with their **recorded** group: that is the work of the unconditional `lchown` of `ensure_perms`. -/

/-- **Group inheritance**: a file, symlink or fifo created at a free path whose parent is a set-group-ID directory of
group `g` belongs to group `g`, whatever the group of the creating process is; a directory as well, and it carries
the set-group-ID bit itself. -/
theorem sgid_dir_group_inherited (env : Env) (fs fs' : Fs) (p : Path) (g : Nat) (op : Op)
    (hg : fs.sgidParent p = some g)
    (hop : (∃ m, op = .creat p m) ∨ (∃ t, op = .symlink t p) ∨ (∃ m, op = .mkfifo p m) ∨ (∃ m, op = .mkdir p m))
    (hv : fs.view p = none) (hs : step env fs op = .ok fs') :
    ∃ j nd, fs'.view p = some (j, nd) ∧ nd.gid = g ∧ (nd.kind = .dir → nd.mode &&& 0o2000 ≠ 0) := by
  have hgid : newGid env fs p = g := by simp [newGid, hg]
  rcases hop with ⟨m, rfl⟩ | ⟨t, rfl⟩ | ⟨m, rfl⟩ | ⟨m, rfl⟩
  · obtain ⟨-, ⟨-, rfl⟩ | ⟨i, nd, d, hv', -⟩⟩ := step_creat_ok hs
    · exact ⟨fs.next, _, (Fs.view_alloc _ _ _ _).trans (if_pos rfl), hgid, by simp⟩
    · rw [hv] at hv'; cases hv'
  · obtain ⟨-, -, rfl⟩ := step_symlink_ok hs
    exact ⟨fs.next, _, (Fs.view_alloc _ _ _ _).trans (if_pos rfl), hgid, by simp⟩
  · obtain ⟨-, -, rfl⟩ := step_mkfifo_ok hs
    exact ⟨fs.next, _, (Fs.view_alloc _ _ _ _).trans (if_pos rfl), hgid, by simp⟩
  · obtain ⟨-, -, rfl⟩ := step_mkdir_ok hs
    refine ⟨fs.next, _, (Fs.view_alloc _ _ _ _).trans (if_pos rfl), hgid, fun _ => ?_⟩
    simp only [newDirMode, hg, Option.isSome_some, if_true]
    intro h0
    have h1 : ∀ k : Nat, (k ||| 0o2000) &&& 0o2000 = 0o2000 := by
      intro k
      apply Nat.eq_of_testBit_eq; intro i
      simp only [Nat.testBit_and, Nat.testBit_or]
      cases k.testBit i <;> cases (0o2000 : Nat).testBit i <;> rfl
    have h1 := h1 (m &&& 0o1777)
    rw [h0] at h1; exact absurd h1 (by decide)

/-- a root with the set-group-ID directory `games` (root:35, `02775`) holding a file of the previous build -/
def exSgidPre : Fs :=
  ⟨[([], 1, ⟨.dir, 0o755, 0, 0, 0⟩), (["games"], 2, ⟨.dir, 0o2775, 0, 35, 0⟩),
    (["score", "games"], 3, ⟨.file "6f6c64", 0o664, 0, 35, 1000⟩)], 4⟩
/-- entries recorded as `0:0` (the identity of the merging process) that go below `games`: a replaced file, a new
file, a symlink, a fifo, a sub-directory and a file below two parents that are not recorded -/
def exSgidEs : List Entry :=
  [⟨["games"], .dir, 0o2775, 0, 35, 9⟩, ⟨["score", "games"], .reg "6e6577" none, 0o644, 0, 0, 77⟩,
   ⟨["new", "games"], .reg "6e" none, 0o4711, 0, 0, 77⟩, ⟨["l", "games"], .sym "new" , 0o777, 0, 0, 8⟩,
   ⟨["p", "games"], .fifo, 0o600, 0, 0, 8⟩, ⟨["sub", "games"], .dir, 0o755, 0, 0, 8⟩,
   ⟨["f", "deep", "auto", "games"], .reg "" none, 0o644, 0, 0, 8⟩]

/-- non-vacuity for set-group-ID roots: the merge succeeds, every entry carries its recorded `0:0` although each
was *created* with group 35 (log: the `creat` is followed by `lchown … 0 0`), and the only path left with the
inherited group are the unrecorded parents `games/auto` (bit inherited) and `games/auto/deep` (snakeoil's `ensure_dirs`
re-applies `0750` to the last directory it makes below a set-group-ID one) -/
example : (mergeContents exEnv true exSgidEs exSgidPre).2.isOk = true ∧
    placedFailures exSgidPre exSgidEs (mergeContents exEnv true exSgidEs exSgidPre).1.fs = [] ∧
    ((mergeContents exEnv true exSgidEs exSgidPre).1.fs.view ["new", "games"]).map (·.2.gid) = some 0 ∧
    ((applyOp exEnv exSgidPre (.creat ["new", "games"] 0o644)).view ["new", "games"]).map (·.2.gid) = some 35 ∧
    ((mergeContents exEnv true exSgidEs exSgidPre).1.fs.view ["auto", "games"]).map (fun v => (v.2.gid, v.2.mode)) =
      some (35, 0o2750) ∧
    ((mergeContents exEnv true exSgidEs exSgidPre).1.fs.view ["deep", "auto", "games"]).map (fun v => (v.2.gid, v.2.mode)) =
      some (35, 0o750) := by decide +kernel

/-- **Frame**: a successful merge leaves every path alone that is not an entry location, a missing parent of
one, or the `'#new'` sibling of a replaced entry — stated for *all* paths, including their inode numbers (so
no unrelated file is modified through a shared inode either). -/
theorem merge_frame (env : Env) (off : Bool) (pre : Fs) (es : List Entry) (s : St)
    (hpre : pre.WF) (hdist : DistinctLocs es) (hclash : NoTmpClash es) (htree : TreeShaped es)
    (hsym : NoSymOverDir pre es) (hhl : HardlinkConsistent es) (hsolo : SymAtDirSolo pre es)
    (hroot : RootGuard off pre es)
    (h : mergeContents env off es pre = (s, .ok ())) :
    ∀ q : Path, q ∉ locs es → ¬ MissingParent pre es q → ¬ TouchedTmp pre es q → s.fs.view q = pre.view q :=
  fun q h1 h2 h3 =>
    (merge_places_contents_partial env off pre es s hpre hdist hclash htree hsym hhl hsolo hroot h).frame q ⟨h1, h2, h3⟩

example : Untouchable exPre exEs ["u"] ∧
    (mergeContents exEnv true exEs exPre).1.fs.view ["u"] = exPre.view ["u"] := by decide +kernel

/-- **Hard-link groups**: two regular entries with the same source `(dev, inode)` and the same
uid/gid/mode/mtime end up as two names of one inode. -/
theorem hardlink_groups (env : Env) (off : Bool) (pre : Fs) (es : List Entry) (s : St)
    (hpre : pre.WF) (hdist : DistinctLocs es) (hclash : NoTmpClash es) (htree : TreeShaped es)
    (hsym : NoSymOverDir pre es) (hhl : HardlinkConsistent es) (hsolo : SymAtDirSolo pre es)
    (hroot : RootGuard off pre es)
    (h : mergeContents env off es pre = (s, .ok ()))
    (a b : Entry) (ha : a ∈ es) (hb : b ∈ es) (hab : SameSourceInode a b) :
    ∃ i na nb, s.fs.view a.loc = some (i, na) ∧ s.fs.view b.loc = some (i, nb) := by
  have hp := merge_places_contents_partial env off pre es s hpre hdist hclash htree hsym hhl hsolo hroot h
  obtain ⟨hna, hnb⟩ := sameSourceInode_nondir hab
  obtain ⟨i, hi⟩ := hp.nondirs a ha hna
  obtain ⟨j, hj⟩ := hp.nondirs b hb hnb
  have := hp.hardlinks a ha b hb hab
  rw [hi, hj] at this
  simp only [Option.map_some, Option.some.injEq] at this
  exact ⟨i, _, _, hi, by rw [hj, this]⟩

example : SameSourceInode exEs[0] exEs[2] ∧
    ((mergeContents exEnv true exEs exPre).1.fs.view ["f", "d"]).map (·.1) =
    ((mergeContents exEnv true exEs exPre).1.fs.view ["g", "d"]).map (·.1) := by decide +kernel

/-- **The log is the trace**: the file system the model ends in is the replay, from `pre`, of the system calls it
logged (this is what the harness compares with the interposed `os.*` calls of the real merge) — for every
outcome that is `ok`. -/
theorem merge_log_consistent (env : Env) (off : Bool) (pre : Fs) (es : List Entry) (s : St)
    (hpre : pre.WF) (hdist : DistinctLocs es) (hclash : NoTmpClash es) (htree : TreeShaped es)
    (hsym : NoSymOverDir pre es) (hhl : HardlinkConsistent es) (hsolo : SymAtDirSolo pre es)
    (hroot : RootGuard off pre es)
    (h : mergeContents env off es pre = (s, .ok ())) :
    s.fs = run env pre (s.log.map Prod.fst) := by
  obtain ⟨ops, h1, h2, _⟩ :=
    (merge_spec (env := env) (off := off) ⟨hpre, hclash, htree, hsym, hhl, hsolo⟩ hdist hroot).1
  rw [h] at h1 h2
  simp only [List.nil_append] at h1
  rw [h1]; exact h2

example : (mergeContents exEnv true exEs exPre).1.log.length = 14 := by decide +kernel

end Pkgcore.C18
