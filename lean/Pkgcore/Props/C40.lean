import Pkgcore.Proofs.C40
/-!
# C40 — keywording requests only name valid, narrowed, not-yet-present arches

`matchPackages` mirrors `pkgcore.ebuild.keywording.match_packages` run to completion (yielded requests + final
exception), `suggested` mirrors `suggested_keywords`.
-/
namespace Pkgcore.C40
open Spec

/-- **only known arches**: when `cc_arches` are known arches (the caller's contract: the Bug binding filters CC
through `repo.known_arches`), every request yielded — for any repository (its ebuilds may carry keywords the
repository no longer knows), any request list, any sentinels, any option combination — names only arches known to
the repository. -/
theorem arches_known (repo : Repo) (o : Opts) (reqs : List Req)
    (hcc : ∀ k ∈ o.cc, k ∈ repo.known) :
    ∀ y ∈ (matchPackages repo o reqs).1, ∀ k ∈ y.2, k ∈ repo.known := by
  intro y hy
  obtain ⟨pkg, _, h⟩ := matchPackages_good repo o reqs y hy
  exact fun k hk => (h k hk).1 hcc

/-- **the narrowing options are honoured**: every yielded request belongs to a package of the repo and
* with `cc_arches` given (and outside the all-arches mode) names only arches among them;
* with `filter_arch` given names only arches among them, or — all-arches mode — stabilization candidates of the package;
* with `only_new` names no arch the package already carries (stable; for keywording also `~arch`), again up to the
  all-arches candidates. -/
theorem narrowing_honoured (repo : Repo) (o : Opts) (reqs : List Req) :
    ∀ y ∈ (matchPackages repo o reqs).1, ∃ pkg, repo.pkgs[y.1]? = some pkg ∧
      (o.cc ≠ [] → allarchesMode o = false → ∀ k ∈ y.2, k ∈ o.cc) ∧
      (o.filterArch ≠ [] → ∀ k ∈ y.2, k ∈ o.filterArch ∨ (allarchesMode o = true ∧ k ∈ suggested repo pkg true)) ∧
      (o.onlyNew = true → ∀ k ∈ y.2,
        (k ∉ pkg.keywords ∧ (o.stable = true ∨ ('~' :: k) ∉ pkg.keywords)) ∨
        (allarchesMode o = true ∧ k ∈ suggested repo pkg true)) := by
  intro y hy
  obtain ⟨pkg, hp, h⟩ := matchPackages_good repo o reqs y hy
  exact ⟨pkg, hp, fun hcc hm k hk => (h k hk).2.1 hcc hm, fun hf k hk => (h k hk).2.2.1 hf,
    fun hn k hk => (h k hk).2.2.2 hn⟩

/-- a test package: key, one-component version, KEYWORDS -/
def exPkg (key : String) (v : String) (kws : List String) : Pkg :=
  ⟨key.toList, ⟨[v.toList], none, []⟩, [], kws.map String.toList, false⟩
def exRepo : Repo :=
  ⟨["alpha", "amd64", "hppa"].map String.toList,
   [exPkg "test/mixed" "1" ["~alpha", "amd64", "~hppa"], exPkg "test/mixed" "2" ["~alpha", "~amd64", "hppa"],
    exPkg "test/mixed" "3" ["~alpha", "~amd64", "~hppa"]]⟩

/-- `=test/mixed-3 ~amd64 hppa` as a stabilization narrowed to `cc = [amd64]` yields exactly that package with
`[amd64]` -/
example : matchPackages exRepo ⟨true, ["amd64".toList], false, [], false⟩
    [⟨"=test/mixed-3".toList, ['='], false, [2], ["~amd64".toList, "hppa".toList]⟩] = ([(2, ["amd64".toList])], none) := by
  decide +kernel

/-- **no prefix keyword is ever suggested**, stabilizing or keywording -/
theorem no_prefix_in_suggestions (repo : Repo) (p : Pkg) (stable : Bool) :
    ∀ k ∈ suggested repo p stable, isPrefixKw k = false :=
  fun k hk => isPrefixKw_false.2 ((mem_suggested repo p stable k).1 hk).2

/-- **stabilization suggestions are exactly the arches testing here and stable on a version of the package** (never a
prefix keyword); if moreover the package does not list the arch as stable itself, that version is another one. -/
theorem stable_suggestions_testing_here_stable_elsewhere (repo : Repo) (p : Pkg)
    (hwp : WfKeywords p) (hwr : ∀ q ∈ repo.pkgs, WfKeywords q) (k : Str) :
    (k ∈ suggested repo p true ↔ StableCandidate repo p k) ∧
    (k ∈ suggested repo p true → k ∉ p.keywords → ∃ q ∈ repo.pkgs, q.key = p.key ∧ stableOn k q ∧ q.keywords ≠ p.keywords) := by
  refine ⟨suggested_stable_iff repo p hwp hwr k, fun hk hnot => ?_⟩
  obtain ⟨_, _, _, q, hq, hkey, hs⟩ := (suggested_stable_iff repo p hwp hwr k).1 hk
  exact ⟨q, hq, hkey, hs, fun e => hnot (e ▸ hs)⟩

example : suggested exRepo (exPkg "test/mixed" "3" ["~alpha", "~amd64", "~hppa"]) true = ["amd64".toList, "hppa".toList] := by decide +kernel

/-- **an arch that is not testing on the version is never a stabilization suggestion** — whatever else the version says
about it (`-arch`: marked broken, `arch`: already stable, `-*`, or nothing at all) and whatever the other versions carry. -/
theorem not_testing_here_never_stabilization_suggestion (repo : Repo) (p : Pkg)
    (hwp : WfKeywords p) (hwr : ∀ q ∈ repo.pkgs, WfKeywords q) (k : Str) (hk : ¬ testingOn k p) :
    k ∉ suggested repo p true :=
  fun h => hk ((suggested_stable_iff repo p hwp hwr k).1 h).2.2.1

/-- a release marked broken on `hppa` (`-hppa`) next to a version stable there: `hppa` is not suggested; same for a
binary-style `-*` package -/
example : suggested ⟨["alpha", "amd64", "hppa"].map String.toList,
    [exPkg "test/broken" "1" ["alpha", "amd64", "hppa"], exPkg "test/broken" "2" ["~alpha", "~amd64", "-hppa"]]⟩
    (exPkg "test/broken" "2" ["~alpha", "~amd64", "-hppa"]) true = ["alpha".toList, "amd64".toList] := by decide +kernel
example : suggested ⟨["alpha", "amd64", "hppa"].map String.toList,
    [exPkg "test/binary" "1" ["-*", "amd64", "hppa"], exPkg "test/binary" "2" ["-*", "~amd64", "-hppa"]]⟩
    (exPkg "test/binary" "2" ["-*", "~amd64", "-hppa"]) true = ["amd64".toList] := by decide +kernel

/-- **keywording suggestions are exactly the arches some version of the package has and this one does not mention** -/
theorem keywording_suggestions_present_elsewhere_missing_here (repo : Repo) (p : Pkg)
    (hwp : WfKeywords p) (hwr : ∀ q ∈ repo.pkgs, WfKeywords q) (k : Str) :
    k ∈ suggested repo p false ↔ KeywordCandidate repo p k :=
  suggested_keywording_iff repo p hwp hwr k

example : WfKeywords (exPkg "test/mixed" "3" ["~alpha", "amd64", "-hppa"]) := by
  intro x hx
  simp [exPkg] at hx
  rcases hx with rfl | rfl | rfl
  · exact Or.inr (Or.inl ⟨"alpha".toList, rfl, by decide +kernel, by decide +kernel, by decide +kernel⟩)
  · exact Or.inl ⟨by decide +kernel, by decide +kernel, by decide +kernel⟩
  · exact Or.inr (Or.inr ⟨"hppa".toList, rfl, by decide +kernel, by decide +kernel, by decide +kernel⟩)

/-- **what a `^` line repeats does not depend on the narrowing of the line above**: the list remembered for
`SAME_KEYWORDS` after a line is its cc-narrowed keyword list — the same for every `only_new`, `filter_arch` and
`allarches` setting, in particular never the all-arches candidates added to the yielded request. -/
theorem previous_independent_of_narrowing (repo : Repo) (o o' : Opts) (hcc : o.cc = o'.cc) (st : St) (r : Req)
    (idx : Nat) (pkg : Pkg) (kws : List Str) :
    ∃ s1 s2, tailStep repo o st r idx pkg kws = .next s1 ∧ tailStep repo o' st r idx pkg kws = .next s2 ∧
      s1.previous = s2.previous := by
  obtain ⟨s1, h1, p1, -⟩ := tailStep_spec repo o st r idx pkg kws
  obtain ⟨s2, h2, p2, -⟩ := tailStep_spec repo o' st r idx pkg kws
  refine ⟨s1, s2, h1, h2, ?_⟩
  rw [p1, p2]
  unfold ccStep
  rw [hcc]

/-- **`^` stands for exactly that list**: a line `^ extra…` (no other sentinel) expands to the remembered list of the
line above followed by its own extra keywords -/
theorem same_keywords_means_previous (repo : Repo) (o : Opts) (st : St) (r : Req) (pkg : Pkg) (prev : List Str)
    (hp : st.previous = some prev)
    (hsame : (r.written.map (lstrip ['~'])).contains ['^'] = true)
    (hno : (r.written.map (lstrip ['~'])).contains ['-'] = false ∧ (r.written.map (lstrip ['~'])).contains ['*'] = false) :
    expandSentinels repo o st r pkg = .kws (prev ++ (r.written.map (lstrip ['~'])).filter (· ≠ ['^'])) := by
  unfold expandSentinels
  simp only [hno.1, hno.2, hsame, hp, Bool.false_eq_true, if_false, Option.isNone_some, Bool.and_false, if_true,
    Option.getD_some]

example : (['^'] : Str) ∈ ([['^'], "amd64".toList] : List Str).map (lstrip ['~']) := by decide +kernel

/-- **specs a stabilization cannot act on are rejected**: in a stabilization, a line whose spec is not a plain `=cpv`
(another operator, `=…*`, or a slot) ends the run with `PackageInvalid` — nothing is yielded for it or after it —
unless an earlier line had already ended it. -/
theorem invalid_specs_rejected (repo : Repo) (o : Opts) (hstable : o.stable = true) (pre post : List Req) (r : Req)
    (hbad : r.op ≠ ['='] ∨ r.slotted = true) :
    matchPackages repo o (pre ++ r :: post) =
      match runLines repo o {} pre with
      | (st, some e) => (st.yields, some e)
      | (st, none) => (st.yields, some .packageInvalid) := by
  unfold matchPackages
  rw [runLines_append]
  rcases h : runLines repo o {} pre with ⟨st, _ | e⟩
  · simp only
    have hstep : stepLine repo o st r = .raise .packageInvalid := by
      unfold stepLine
      have : (o.stable && (decide (r.op ≠ ['=']) || r.slotted)) = true := by
        rcases hbad with h' | h' <;> simp [hstable, h']
      rw [if_pos this]
    simp only [runLines, hstep]
  · simp only

example : (matchPackages exRepo ⟨true, [], false, [], false⟩
    [⟨"test/mixed".toList, [], false, [0, 1, 2], ["amd64".toList]⟩]).2 = some .packageInvalid := by decide +kernel

end Pkgcore.C40
