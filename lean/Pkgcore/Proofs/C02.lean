import Pkgcore.Spec.C02
import Pkgcore.Proofs.C01
/-! C02 — `ver_cmp` on optional versions, the CPV operators and `atom.__cmp__` are the lexicographic order of the
canonical forms (`verCmpO_eq`, `cpvRich_eq`, `cpvEq_eq`, `atomCmp_eq`); `ver_hash_key` is equal exactly when the
canonical values are (`verHashKey_eq_iff`, piece by piece: the hashed tuple and `key` are equal on the same pairs of
versions).  In this order: versions and their hash key, CPVs, atoms, the operator texts, the sorted USE deps
(`sortUse_perm`), and last what holds of `compare` on any key. -/
namespace Pkgcore.C02
open Pkgcore.C01 Pkgcore.C01.Spec Pkgcore.C02.Spec Std

attribute [local instance] lexOrd

theorem verCmpO_eq (x y : VR) (hx : vrWF x) (hy : vrWF y) (hk : x.isSome = y.isSome) :
    verCmpO x y = some (compare (verCanon x) (verCanon y)) := by
  cases x with
  | none =>
    cases y with
    | none => rfl
    | some q => simp at hk
  | some p =>
    cases y with
    | none => simp at hk
    | some q =>
      obtain ⟨v1, r1⟩ := p
      obtain ⟨v2, r2⟩ := q
      simp only [verCmpO, verCanon]
      rw [verCmp_eq_pmsCmp_some, pmsCmp_eq_key _ _ _ _ hx hy]; rfl

theorem compK_eq_iff (a b : Str) : compK a = compK b ↔ compKey a = compKey b := by
  unfold compK compKey
  by_cases ha : a.head? = some '0' <;> by_cases hb : b.head? = some '0' <;> simp [ha, hb]

theorem map_compK_eq_iff (as bs : List Str) : as.map compK = bs.map compK ↔ as.map compKey = bs.map compKey :=
  Lib.map_eq_iff_of_eq_iff compK compKey compK_eq_iff as bs

theorem letterKey_inj (a b : Option Char) : letterKey a = letterKey b ↔ a = b := by
  cases a <;> cases b <;> simp [letterKey, Char.toNat_inj]

theorem rank_inj (s t : Suf) : rank s = rank t ↔ s = t := by
  cases s <;> cases t <;> decide

theorem sufPair_eq_iff (x y : Suf × Str) : (x.1, natOfDigits x.2) = (y.1, natOfDigits y.2) ↔ sufKey x = sufKey y := by
  simp only [sufKey, Prod.mk.injEq, rank_inj]

theorem map_suf_eq_iff (xs ys : List (Suf × Str)) :
    xs.map (fun x => (x.1, natOfDigits x.2)) = ys.map (fun x => (x.1, natOfDigits x.2)) ↔
      xs.map sufKey ++ [((0 : Int), (0 : Nat))] = ys.map sufKey ++ [(0, 0)] := by
  rw [Lib.map_eq_iff_of_eq_iff _ sufKey sufPair_eq_iff, List.append_left_inj]

/-- The two tuples read the same pieces of the version, so no well-formedness is needed. -/
theorem verHashKey_eq_iff (v1 v2 : Ver) (r1 r2 : Str) :
    verHashKey v1 r1 = verHashKey v2 r2 ↔ key v1 (some r1) = key v2 (some r2) := by
  simp only [verHashKey, key, VKey.mk.injEq, List.cons.injEq, CompK.int.injEq, Prod.mk.injEq, map_compK_eq_iff,
    letterKey_inj, map_suf_eq_iff, revNat, and_assoc]

theorem verHashKeyO_eq_iff (x y : VR) :
    verHashKeyO x = verHashKeyO y ↔ verCanon x = verCanon y := by
  cases x with
  | none => cases y <;> simp [verHashKeyO, verCanon]
  | some p =>
    cases y with
    | none => simp [verHashKeyO, verCanon]
    | some q =>
      simp only [verHashKeyO, verCanon, Option.some.injEq]
      exact verHashKey_eq_iff p.1 q.1 p.2 q.2

theorem cpvOrd_unfold (a b : Cpv) :
    cpvOrd a b =
      (compare a.cat b.cat).then ((compare a.pkg b.pkg).then (compare (verCanon a.vr) (verCanon b.vr))) := rfl

/-- `vt` tests the result of `ver_cmp`, `st` that of a string comparison.  `__le__` and `__ge__` use `<=`, `>=` on the
former and `<`, `>` on the latter: the two tests agree off `eq`, and strings are only compared when they differ. -/
theorem cpvRich_eq (vt st : Ordering → Bool) (hst : ∀ c, c ≠ .eq → st c = vt c) (a b : Cpv)
    (ha : Cpv.WF a) (hb : Cpv.WF b) (hk : SameKind a b) :
    cpvRich vt st a b = some (vt (cpvOrd a b)) := by
  unfold cpvRich
  rw [cpvOrd_unfold]
  by_cases hc : a.cat = b.cat
  · by_cases hp : a.pkg = b.pkg
    · simp only [hc, hp, if_true, compare_self, Ordering.eq_then, verCmpO_eq a.vr b.vr ha hb hk, Option.map_some]
    · have := mt compare_eq_iff_eq.1 hp
      simp only [hc, hp, if_true, if_false, compare_self, Ordering.eq_then]
      rw [then_of_ne_eq _ _ this, hst _ this]
  · simp only [hc, if_false]
    have := mt compare_eq_iff_eq.1 hc
    rw [then_of_ne_eq _ _ this, hst _ this]

theorem cpvstrEq_canon (a b : Cpv) (h : cpvstrEq a b = true) : cpvCanon a = cpvCanon b := by
  unfold cpvstrEq at h
  simp only [Bool.and_eq_true, beq_iff_eq] at h
  obtain ⟨⟨h1, h2⟩, h3⟩ := h
  unfold cpvCanon
  rw [h1, h2]
  cases ha : a.vr with
  | none =>
    cases hb : b.vr with
    | none => rfl
    | some q => simp [ha, hb] at h3
  | some p =>
    cases hb : b.vr with
    | none => simp [ha, hb] at h3
    | some q =>
      obtain ⟨v1, r1⟩ := p
      obtain ⟨v2, r2⟩ := q
      simp only [ha, hb, Bool.and_eq_true, beq_iff_eq] at h3
      simp [verCanon, key, revNat, h3.1, h3.2]

theorem cpvOrd_eq_iff (a b : Cpv) : cpvOrd a b = .eq ↔ cpvCanon a = cpvCanon b := compare_eq_iff_eq

theorem cpvEq_eq (a b : Cpv) (ha : Cpv.WF a) (hb : Cpv.WF b) : cpvEq a b = (cpvOrd a b == .eq) := by
  rw [Bool.eq_iff_iff, beq_iff_eq, cpvOrd_eq_iff]
  unfold cpvEq
  by_cases hs : cpvstrEq a b = true
  · rw [if_pos hs]; exact ⟨fun _ => cpvstrEq_canon a b hs, fun _ => rfl⟩
  rw [if_neg hs]
  by_cases hcp : a.cat = b.cat ∧ a.pkg = b.pkg
  · rw [if_pos hcp]
    simp only [cpvCanon, hcp.1, hcp.2, Prod.mk.injEq, true_and]
    by_cases hk : a.vr.isSome = b.vr.isSome
    · rw [verCmpO_eq a.vr b.vr ha hb hk]; exact beq_iff_eq.trans compare_eq_iff_eq
    · -- a versioned against an unversioned CPV: `ver_cmp` raises, and the canonical values differ
      cases h1 : a.vr <;> cases h2 : b.vr <;> simp_all [verCmpO, verCanon]
  · rw [if_neg hcp]
    exact ⟨fun h => (nomatch h), fun h => absurd ⟨congrArg Prod.fst h, congrArg (fun c => c.2.1) h⟩ hcp⟩

theorem pycmp_eq_compare {α : Type} [Ord α] (a b : Option α) : pycmp a b = compare a b := by
  cases a <;> cases b <;> rfl

theorem bool_cmp_not (a b : Bool) : (compare a b).swap = compare (!a) (!b) := by
  cases a <;> cases b <;> rfl

/-- the part of `atomCanon` that `atom.__cmp__` compares after the version -/
def tailCanon (a : Atom) : Bool × Bool × Bool × Str × Str × Str × Option (List Str) × Option Str :=
  (!a.blocks, a.strong, a.negate, orEmpty a.slot, orEmpty a.subslot, orEmpty a.slotOp, a.useAttr, a.repo)

theorem atomCmpTail_eq (a b : Atom) : atomCmpTail a b = compare (tailCanon a) (tailCanon b) := by
  simp only [atomCmpTail, tailCanon, orElse, ite_ne_eq_then, pycmp_eq_compare, bool_cmp_not, Lib.lex_pair]

theorem atomOrd_unfold (a b : Atom) :
    atomOrd a b = (compare a.cat b.cat).then ((compare a.pkg b.pkg).then ((compare a.opStr b.opStr).then
      ((compare (verCanon a.vr) (verCanon b.vr)).then (compare (tailCanon a) (tailCanon b))))) := rfl

/-- `if c: return c` with the rest of the function never raising -/
theorem ite_ne_eq_some_then (c d : Ordering) : (if c ≠ .eq then some c else some d) = some (c.then d) := by
  rw [← apply_ite some, ite_ne_eq_then]

theorem vr_isSome (a : Atom) : a.vr.isSome = !a.opStr.isEmpty := by
  unfold Atom.vr Atom.opStr
  cases a.vop with
  | none => rfl
  | some q => obtain ⟨o, _, _⟩ := q; cases o <;> rfl

theorem atomCmp_eq (a b : Atom) (ha : Atom.WF a) (hb : Atom.WF b) : atomCmp a b = some (atomOrd a b) := by
  unfold atomCmp
  rw [atomOrd_unfold, ← atomCmpTail_eq]
  by_cases h3 : compare a.opStr b.opStr = .eq
  · -- equal operator texts: both atoms have a version or neither has, so `ver_cmp` does not raise
    have hk : a.vr.isSome = b.vr.isSome := by rw [vr_isSome, vr_isSome, compare_eq_iff_eq.mp h3]
    simp only [verCmpO_eq a.vr b.vr ha hb hk, ite_ne_eq_some_then]
  · simp only [if_pos h3, then_of_ne_eq _ _ h3, ite_ne_eq_some_then]

theorem atomOrd_eq_iff (a b : Atom) : atomOrd a b = .eq ↔ atomCanon a = atomCanon b := compare_eq_iff_eq

/-- different spellings of one version or orders of the USE deps are equal, atoms differing in any single attribute
(incl. `!` vs `!!`, `negate_vers`, sub-slot, slot operator) are not -/
theorem atom_eq_iff_canon (a b : Atom) (ha : Atom.WF a) (hb : Atom.WF b) :
    atomEq a b = some true ↔ atomCanon a = atomCanon b := by
  rw [atomEq, atomCmp_eq a b ha hb, Option.map_some, Option.some.injEq, beq_iff_eq, atomOrd_eq_iff]

/-- `negate_vers` is part of the canonical form but is not hashed -/
theorem atomHashKey_of_canon (a b : Atom) (h : atomCanon a = atomCanon b) :
    atomHashKey a = atomHashKey b := by
  unfold atomCanon at h
  simp only [Prod.mk.injEq] at h
  obtain ⟨h1, h2, h3, h4, h5, h6, _, h8, h9, h10, h11, h12⟩ := h
  unfold atomHashKey
  rw [h1, h2, h3, (verHashKeyO_eq_iff a.vr b.vr).mpr h4, Bool.not_inj h5, h6, h8, h9, h10, h11, h12]

theorem nil_lt_opStr (o : Op) : compare ([] : Str) o.str = .lt := by cases o <;> rfl

theorem opStr_gt_nil (o : Op) : compare o.str ([] : Str) = .gt := by cases o <;> rfl

/-- a left inverse of `Op.str` -/
def Op.ofStr : Str → Op
  | ['<'] => .lt | ['<', '='] => .le | ['='] => .eq | ['=', '*'] => .glob | ['>', '='] => .ge | ['>'] => .gt
  | _ => .tilde

theorem opStr_inj (o p : Op) (h : o.str = p.str) : o = p := by
  have inv : ∀ q : Op, Op.ofStr q.str = q := fun q => by cases q <;> rfl
  rw [← inv o, h, inv p]

/-- the comparator that `sortUse` hands to `mergeSort` -/
def strLe (x y : Str) : Bool := compare x y != .gt

theorem strLe_iff (a b : Str) : strLe a b = true ↔ (compare a b).isLE :=
  bne_iff_ne.trans Ordering.isLE_iff_ne_gt.symm

theorem strLe_trans (a b c : Str) (h1 : strLe a b = true) (h2 : strLe b c = true) : strLe a c = true :=
  (strLe_iff a c).mpr (TransCmp.isLE_trans ((strLe_iff a b).mp h1) ((strLe_iff b c).mp h2))

theorem strLe_total (a b : Str) : (strLe a b || strLe b a) = true := by
  unfold strLe
  rw [OrientedCmp.eq_swap (cmp := compare) (a := b) (b := a)]
  cases compare a b <;> rfl

theorem strLe_antisymm (a b : Str) (h1 : strLe a b = true) (h2 : strLe b a = true) : a = b :=
  (LawfulEqCmp.compare_eq_iff_eq (cmp := (compare : Str → Str → Ordering))).mp
    (OrientedCmp.isLE_antisymm ((strLe_iff a b).mp h1) ((strLe_iff b a).mp h2))

theorem sortUse_perm (l1 l2 : List Str) (h : l1.Perm l2) : sortUse l1 = sortUse l2 := by
  unfold sortUse
  apply List.Perm.eq_of_pairwise (le := fun a b => strLe a b = true)
  · intro a b _ _ h1 h2; exact strLe_antisymm a b h1 h2
  · exact List.pairwise_mergeSort strLe_trans strLe_total l1
  · exact List.pairwise_mergeSort strLe_trans strLe_total l2
  · exact (List.mergeSort_perm l1 _).trans (h.trans (List.mergeSort_perm l2 _).symm)

theorem sortUse_idem (u : List Str) : sortUse (sortUse u) = sortUse u :=
  sortUse_perm _ _ (List.mergeSort_perm u _)

theorem atomCanon_use (a : Atom) {u u' : Option (List Str)} (h : u.map sortUse = u'.map sortUse) :
    atomCanon { a with use := u } = atomCanon { a with use := u' } := by
  simp only [atomCanon, Atom.useAttr, h]
  rfl

/-! What holds of any comparison that is `compare` of a key, as `cpvOrd` and `atomOrd` are. -/

theorem key_total_order {κ : Type} [Ord κ] [TransCmp (compare : κ → κ → Ordering)]
    [LawfulEqCmp (compare : κ → κ → Ordering)] (x y z : κ) :
    compare x x = .eq ∧ compare x y = (compare y x).swap ∧
    ((compare x y).isLE → (compare y z).isLE → (compare x z).isLE) ∧ (compare x y = .eq ↔ x = y) :=
  ⟨ReflCmp.compare_self, OrientedCmp.eq_swap, TransCmp.isLE_trans, compare_eq_iff_eq⟩

theorem consistent_of_key {κ : Type} [Ord κ] [OrientedCmp (compare : κ → κ → Ordering)]
    [LawfulEqCmp (compare : κ → κ → Ordering)] (x y : κ) (hashEq : Bool) (hh : x = y → hashEq = true) :
    Consistent (Obs.ofOrd (compare x y)) (Obs.ofOrd (compare y x)) hashEq := by
  have hh' : compare x y = .eq → hashEq = true := fun e => hh (compare_eq_iff_eq.mp e)
  rw [OrientedCmp.eq_swap (cmp := compare) (a := y)]
  unfold Consistent
  revert hh'; cases compare x y <;> cases hashEq <;> decide

theorem ofOrd_trichotomy (c : Ordering) :
    ((Obs.ofOrd c).lt = true ∧ (Obs.ofOrd c).eq = false ∧ (Obs.ofOrd c).gt = false) ∨
    ((Obs.ofOrd c).lt = false ∧ (Obs.ofOrd c).eq = true ∧ (Obs.ofOrd c).gt = false) ∨
    ((Obs.ofOrd c).lt = false ∧ (Obs.ofOrd c).eq = false ∧ (Obs.ofOrd c).gt = true) := by
  cases c <;> decide

end Pkgcore.C02
