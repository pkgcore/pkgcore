import Pkgcore.Spec.C05
import Pkgcore.Proofs.C04
/-! C05 — the order behind `vInter`.  After the model-free facts about lexicographic pairs, convex sets and prefixes it
needs: a version with its revision is a point `PK` of a lexicographic order, and `LT`/`LE` on points are what `pmsCmp`
and `verCmp` compute (`pmsCmp_eq_PK`, `verCmp_eq_PK`); `below v` lies under every revision of `v` and `above v r` is the
revision after `v-r` (`below_LT`, `LT_above`, `strict_between`); the glob `=*` is a point when it carries a revision
and otherwise a convex set `GlobV` of version values (`verGlobMatch_iff`, `globV_convex`). -/
namespace Pkgcore.C05
open Pkgcore.C01 Pkgcore.C01.Spec Pkgcore.C04 Pkgcore.C04.Spec Pkgcore.C05.Spec Std
open Pkgcore.C02 (Str verHashKey CompK compK)

-- `compare` on nested pairs (C01's `key`; here `VKT` and the values of `PK`) is the lexicographic order, as in
-- Proofs/C01.lean
attribute [local instance] lexOrd

section order
variable {α β : Type} [Ord α] [Ord β]

def Convex (S : α → Prop) : Prop :=
  ∀ x y z, S x → S z → (compare x y).isLE → (compare y z).isLE → S y

/-- `onSnd`, `onFst`: the two ways `GlobV` is put together, each keeping convexity in the lexicographic order -/
def onSnd (g : α) (S : β → Prop) (p : α × β) : Prop := g = p.1 ∧ S p.2

def onFst (S : α → Prop) (p : α × β) : Prop := S p.1

theorem pair_lt_of_fst_lt (a b : α) (x y : β) (h : compare a b = .lt) : compare (a, x) (b, y) = .lt := by
  rw [Lib.lex_pair, h]; rfl

theorem pair_fst_isLE (a b : α) (x y : β) (h : (compare (a, x) (b, y)).isLE) : (compare a b).isLE := by
  rw [Lib.lex_pair] at h
  exact Ordering.isLE_left_of_isLE_then h

theorem convex_onFst {S : α → Prop} (h : Convex S) : Convex (onFst S : α × β → Prop) :=
  fun x y z hx hz h1 h2 => h x.1 y.1 z.1 hx hz (pair_fst_isLE _ _ _ _ h1) (pair_fst_isLE _ _ _ _ h2)

variable [LawfulEqOrd α]

theorem pair_same_fst (a : α) (x y : β) : compare (a, x) (a, y) = compare x y := by
  rw [Lib.lex_pair, ReflCmp.compare_self (cmp := (compare : α → α → Ordering))]; rfl

theorem pair_lt_fst_of_ne (a b : α) (x y : β) (h : compare (a, x) (b, y) = .lt) (hne : a ≠ b) :
    compare a b = .lt := by
  rw [Lib.lex_pair] at h
  cases hc : compare a b
  · rfl
  · exact absurd ((LawfulEqCmp.compare_eq_iff_eq (cmp := (compare : α → α → Ordering))).mp hc) hne
  · rw [hc] at h; simp [Ordering.then] at h

variable [TransOrd α]

theorem pair_sandwich (a b : α) (x y z : β) (h1 : (compare (a, x) (b, y)).isLE) (h2 : (compare (b, y) (a, z)).isLE) :
    b = a := by
  have e1 := pair_fst_isLE a b x y h1
  have e2 := pair_fst_isLE b a y z h2
  have := OrientedCmp.isLE_antisymm (cmp := (compare : α → α → Ordering)) e2 e1
  exact (LawfulEqCmp.compare_eq_iff_eq (cmp := (compare : α → α → Ordering))).mp this

theorem convex_eq (g : α) : Convex (g = ·) := fun x y z hx hz h1 h2 => by
  subst hx; subst hz
  exact (LawfulEqCmp.compare_eq_iff_eq (cmp := (compare : α → α → Ordering))).mp (OrientedCmp.isLE_antisymm h1 h2)

theorem convex_onSnd (g : α) {S : β → Prop} (h : Convex S) : Convex (onSnd g S) := by
  rintro ⟨x1, x2⟩ ⟨y1, y2⟩ ⟨z1, z2⟩ ⟨hx, sx⟩ ⟨hz, sz⟩ h1 h2
  simp only at hx hz
  subst hx; subst hz
  have : y1 = g := pair_sandwich g y1 x2 y2 z2 h1 h2
  subst this
  rw [pair_same_fst] at h1 h2
  exact ⟨rfl, h x2 y2 z2 sx sz h1 h2⟩

theorem convex_prefix (P : List α) : Convex (P <+: ·) := by
  induction P with
  | nil => exact fun _ _ _ _ _ _ _ => List.nil_prefix
  | cons p P ih =>
    rintro _ Y _ ⟨X', rfl⟩ ⟨Z', rfl⟩ h1 h2
    cases Y with
    | nil => simp [List.compare_cons_nil] at h1
    | cons q Y =>
      simp only [List.cons_append, List.compare_cons_cons] at h1 h2
      -- the heads are squeezed between two copies of `p`
      have hpq : p = q :=
        (LawfulEqCmp.compare_eq_iff_eq (cmp := (compare : α → α → Ordering))).mp
          (OrientedCmp.isLE_antisymm (cmp := (compare : α → α → Ordering))
            (Ordering.isLE_left_of_isLE_then h1) (Ordering.isLE_left_of_isLE_then h2))
      subst hpq
      rw [ReflCmp.compare_self (cmp := (compare : α → α → Ordering))] at h1 h2
      rw [List.cons_prefix_cons]
      exact ⟨rfl, ih _ Y _ (List.prefix_append _ _) (List.prefix_append _ _) h1 h2⟩

end order

theorem list_compare_append_left {α : Type} [Ord α] [ReflOrd α] (p a b : List α) :
    compare (p ++ a) (p ++ b) = compare a b := by
  induction p with
  | nil => rfl
  | cons x p ih =>
    simp only [List.cons_append, List.compare_cons_cons, ih]
    rw [ReflCmp.compare_self (cmp := (compare : α → α → Ordering))]; rfl

theorem prefix_of_prefix_concat {α : Type} (P A : List α) (s : α) (h : P <+: A ++ [s]) (hs : s ∉ P) : P <+: A := by
  rcases List.prefix_concat_iff.mp h with rfl | h
  · exact absurd (by simp) hs
  · exact h

abbrev VKT := Nat × List CompKey × Nat × List (Int × Nat)

/-- the PMS value of a version without its revision (the first four components of C01's `key`, the suffix keys closed
by the sentinel `(0, 0)` as there) -/
def VK (v : Ver) : VKT :=
  (natOfDigits (v.comps.headD []), v.comps.tail.map compKey, letterKey v.letter, v.sufs.map sufKey ++ [(0, 0)])

/-- a version with revision as a point of the order -/
def PK (x : Ver × Str) : VKT × Nat := (VK x.1, natOfDigits x.2)

abbrev Pt := Ver × Str

/-- the PMS order on points, read off the key `PK`: strict, and `LE` weak (these are not core's `LT`/`LE` classes) -/
def LT (a b : Pt) : Prop := compare (PK a) (PK b) = .lt
def LE (a b : Pt) : Prop := (compare (PK a) (PK b)).isLE = true

/-- the bound of a range operator: `LT` for the strict ones (`<`, `>`), `LE` for `<=`, `>=` -/
def Rel (strict : Bool) (a b : Pt) : Prop := if strict then LT a b else LE a b

instance (a b : Pt) : Decidable (LT a b) := by unfold LT; infer_instance
instance (a b : Pt) : Decidable (LE a b) := by unfold LE; infer_instance
instance (s : Bool) (a b : Pt) : Decidable (Rel s a b) := by unfold Rel; infer_instance

theorem key_compare_regroup (v v' : Ver) (r r' : Rev) :
    compare (key v r) (key v' r') = (compare (VK v) (VK v')).then (compare (revNat r) (revNat r')) := by
  simp only [key, VK, Lib.lex_pair, Ordering.then_assoc]

theorem pmsCmp_eq_PK (v v' : Ver) (r r' : Str) (h : WF v) (h' : WF v') :
    pmsCmp v (some r) v' (some r') = compare (PK (v, r)) (PK (v', r')) := by
  rw [pmsCmp_eq_key _ _ _ _ h h', key_compare_regroup]; rfl

theorem pmsCmp_none_eq_VK (v v' : Ver) (h : WF v) (h' : WF v') :
    pmsCmp v none v' none = compare (VK v) (VK v') := by
  rw [pmsCmp_eq_key _ _ _ _ h h', key_compare_regroup]
  simp [revNat]

theorem pmsCmp_none_eq_iff_VK (v v' : Ver) (h : WF v) (h' : WF v') :
    pmsCmp v none v' none = .eq ↔ VK v = VK v' := by
  rw [pmsCmp_none_eq_VK v v' h h']
  exact LawfulEqCmp.compare_eq_iff_eq (cmp := (compare : VKT → VKT → Ordering))

theorem verCmp_eq_PK (va vb : Ver) (ra rb : Str) (ha : WF va) (hb : WF vb) :
    verCmp va (some ra) vb (some rb) = compare (PK (va, ra)) (PK (vb, rb)) := by
  rw [verCmp_eq_pmsCmp_some, pmsCmp_eq_PK va vb ra rb ha hb]

theorem verCmp_none_eq_iff_VK (v v' : Ver) (h : WF v) (h' : WF v') :
    (verCmp v none v' none == .eq) = true ↔ VK v = VK v' := by
  rw [verCmp_eq_pmsCmp_none, beq_iff_eq]
  exact pmsCmp_none_eq_iff_VK v v' h h'

theorem PK_eq_iff {a b : Pt} : compare (PK a) (PK b) = .eq ↔ PK a = PK b :=
  LawfulEqCmp.compare_eq_iff_eq (cmp := (compare : VKT × Nat → VKT × Nat → Ordering))

theorem LE_refl (a : Pt) : LE a a := by
  unfold LE
  rw [ReflCmp.compare_self (cmp := (compare : VKT × Nat → VKT × Nat → Ordering))]
  rfl

theorem LE_of_LT {a b : Pt} (h : LT a b) : LE a b := by
  unfold LT at h
  unfold LE
  rw [h]
  rfl

theorem LE_trans {a b c : Pt} (h1 : LE a b) (h2 : LE b c) : LE a c := TransCmp.isLE_trans h1 h2

theorem LT_of_LT_of_LE {a b c : Pt} (h1 : LT a b) (h2 : LE b c) : LT a c := TransCmp.lt_of_lt_of_isLE h1 h2

theorem LT_of_LE_of_LT {a b c : Pt} (h1 : LE a b) (h2 : LT b c) : LT a c := TransCmp.lt_of_isLE_of_lt h1 h2

theorem LT_trans {a b c : Pt} (h1 : LT a b) (h2 : LT b c) : LT a c := TransCmp.lt_trans h1 h2

theorem LT_irrefl (a : Pt) : ¬ LT a a := by
  unfold LT
  rw [ReflCmp.compare_self (cmp := (compare : VKT × Nat → VKT × Nat → Ordering))]
  decide

theorem not_LT {a b : Pt} : ¬ LT a b ↔ LE b a := by
  unfold LT LE
  rw [OrientedCmp.eq_swap (cmp := (compare : VKT × Nat → VKT × Nat → Ordering)) (a := PK b) (b := PK a)]
  cases compare (PK a) (PK b) <;> simp [Ordering.swap, Ordering.isLE]

theorem not_LE {a b : Pt} : ¬ LE a b ↔ LT b a := Decidable.not_iff_comm.mp not_LT

theorem LE_total (a b : Pt) : LE a b ∨ LT b a := (Decidable.em (LE a b)).imp_right not_LE.mp

theorem LE_of_Rel {s : Bool} {a b : Pt} (h : Rel s a b) : LE a b := by
  cases s
  · exact h
  · exact LE_of_LT h

theorem Rel_of_LT {s : Bool} {a b : Pt} (h : LT a b) : Rel s a b := by
  cases s
  · exact LE_of_LT h
  · exact h

theorem Rel_of_Rel_of_LE {s : Bool} {a b c : Pt} (h1 : Rel s a b) (h2 : LE b c) : Rel s a c := by
  cases s
  · exact LE_trans h1 h2
  · exact LT_of_LT_of_LE h1 h2

theorem Rel_of_LE_of_Rel {s : Bool} {a b c : Pt} (h1 : LE a b) (h2 : Rel s b c) : Rel s a c := by
  cases s
  · exact LE_trans h1 h2
  · exact LT_of_LE_of_LT h1 h2

theorem not_Rel {s : Bool} {a b : Pt} : ¬ Rel s a b ↔ Rel (!s) b a := by
  cases s
  · exact not_LE
  · exact not_LT

theorem LT_sameV {a b : Pt} (h : VK a.1 = VK b.1) : LT a b ↔ natOfDigits a.2 < natOfDigits b.2 := by
  unfold LT PK
  rw [h, pair_same_fst]
  exact Nat.compare_eq_lt

theorem LE_sameV {a b : Pt} (h : VK a.1 = VK b.1) : LE a b ↔ natOfDigits a.2 ≤ natOfDigits b.2 := by
  unfold LE PK
  rw [h, pair_same_fst]
  exact Nat.isLE_compare

theorem sandwich_VK {a y c : Pt} (h1 : LE a y) (h2 : LE y c) (h : VK a.1 = VK c.1) : VK y.1 = VK a.1 := by
  unfold LE PK at h1 h2
  rw [← h] at h2
  exact pair_sandwich _ _ _ _ _ h1 h2

theorem LT_of_VK_ne {a b : Pt} (r r' : Str) (h : LT a b) (hne : VK a.1 ≠ VK b.1) : LT (a.1, r) (b.1, r') := by
  unfold LT PK at *
  exact pair_lt_of_fst_lt _ _ _ _ (pair_lt_fst_of_ne _ _ _ _ h hne)

theorem natOfDigits_toDigits (n : Nat) : natOfDigits (Nat.toDigits 10 n) = n :=
  Nat.ofDigitChars_ten_toDigits

theorem below_LT (v : Ver) (r : Str) : LT (below v) (v, r) := by
  apply pair_lt_of_fst_lt
  simp only [below, VK, Lib.lex_pair]
  rw [ReflCmp.compare_self (cmp := (compare : Nat → Nat → Ordering)),
    ReflCmp.compare_self (cmp := (compare : List CompKey → List CompKey → Ordering)),
    ReflCmp.compare_self (cmp := (compare : Nat → Nat → Ordering))]
  simp only [Ordering.eq_then, List.map_append, List.append_assoc]
  rw [list_compare_append_left]
  rfl

theorem LT_above (v : Ver) (r : Str) : LT (v, r) (above v r) := by
  simp only [LT, PK, above, natOfDigits_toDigits]
  rw [pair_same_fst]
  exact Nat.compare_eq_lt.mpr (Nat.lt_succ_self _)

theorem above_VK (v : Ver) (r : Str) : VK (above v r).1 = VK v := rfl

theorem below_WF (v : Ver) (h : WF v) : WF (below v).1 := h

theorem above_WF (v : Ver) (r : Str) (h : WF v) : WF (above v r).1 := h

theorem strict_between (L H : Pt) (h : LT L H) (gap : VK L.1 = VK H.1 → natOfDigits L.2 + 1 < natOfDigits H.2) :
    LT (above L.1 L.2) H := by
  by_cases hv : VK L.1 = VK H.1
  · apply (LT_sameV (a := above L.1 L.2) (b := H) hv).mpr
    simp only [above, natOfDigits_toDigits]
    exact gap hv
  · exact LT_of_VK_ne _ H.2 h hv

theorem sentinel_not_mem (xs : List (Suf × Str)) : ((0 : Int), (0 : Nat)) ∉ xs.map sufKey := by
  intro h
  simp only [List.mem_map] at h
  obtain ⟨x, _, hx⟩ := h
  simp only [sufKey, Prod.mk.injEq] at hx
  exact rank_ne_zero _ hx.1

theorem compK_prefix_iff (as bs : List Str) : as.map compK <+: bs.map compK ↔ as.map compKey <+: bs.map compKey :=
  Lib.map_prefix_iff_of_eq_iff compK compKey C02.compK_eq_iff as bs

/-- the sentinel is no suffix key, so it does not affect "is a prefix" -/
theorem suf_prefix_iff (xs ys : List (Suf × Str)) :
    (xs.map fun x => (x.1, natOfDigits x.2)) <+: (ys.map fun x => (x.1, natOfDigits x.2)) ↔
      xs.map sufKey <+: ys.map sufKey ++ [((0 : Int), (0 : Nat))] := by
  rw [Lib.map_prefix_iff_of_eq_iff _ sufKey C02.sufPair_eq_iff]
  exact ⟨fun h => h.trans (List.prefix_append _ _), fun h => prefix_of_prefix_concat _ _ _ h (sentinel_not_mem _)⟩

/-- the values of the versions matched by the revision-less glob `=gv*`: everything up to the last written
component is equal, the component list that is written last is a prefix -/
def GlobV (gv : Ver) : VKT → Prop :=
  onSnd (VK gv).1 <|
    if gv.sufs ≠ [] then onSnd (VK gv).2.1 (onSnd (VK gv).2.2.1 (gv.sufs.map sufKey <+: ·))
    else if gv.letter ≠ none then onSnd (VK gv).2.1 (onFst ((VK gv).2.2.1 = ·))
    else onFst ((VK gv).2.1 <+: ·)

theorem globV_convex (gv : Ver) : Convex (GlobV gv) := by
  unfold GlobV
  split
  · exact convex_onSnd _ (convex_onSnd _ (convex_onSnd _ (convex_prefix _)))
  · split
    · exact convex_onSnd _ (convex_onSnd _ (convex_onFst (convex_eq _)))
    · exact convex_onSnd _ (convex_onFst (convex_prefix _))

theorem globV_between (gv : Ver) {x y z : Pt} (mx : GlobV gv (VK x.1)) (mz : GlobV gv (VK z.1)) (h1 : LE x y)
    (h2 : LE y z) : GlobV gv (VK y.1) :=
  globV_convex gv _ _ _ mx mz (pair_fst_isLE _ _ _ _ h1) (pair_fst_isLE _ _ _ _ h2)

theorem globV_below (gv v : Ver) (h : GlobV gv (VK v)) : GlobV gv (VK (below v).1) := by
  simp only [GlobV, below, VK, List.map_append] at h ⊢
  -- only the suffixes of `v` have changed, by one more at the end
  refine And.intro h.1 ?_
  have h2 := h.2
  revert h2
  split
  · exact fun h2 => ⟨h2.1, h2.2.1, ((prefix_of_prefix_concat _ _ _ h2.2.2 (sentinel_not_mem _)).trans
      (List.prefix_append _ _)).trans (List.prefix_append _ _)⟩
  · split <;> exact id

/-- the glob `=gv-rgr*` against `v-r` on order keys.  Read off the body, not off C04's `verGlobMatch_vtoks` as
`glob_own` and `glob_linear` are: the order lives on `key`, whose pieces (`compKey`, `sufKey` with its sentinel) are
not those of `VTok`. -/
theorem verGlobMatch_iff (gv : Ver) (gr : Str) (v : Ver) (r : Str) (hg : WF gv) (hv : WF v) :
    verGlobMatch gv gr v r = true ↔ if natOfDigits gr ≠ 0 then PK (gv, gr) = PK (v, r) else GlobV gv (VK v) := by
  obtain ⟨n1, _⟩ := hg
  obtain ⟨n2, _⟩ := hv
  unfold verGlobMatch PK GlobV onSnd onFst VK verHashKey
  cases hc1 : gv.comps with
  | nil => exact absurd hc1 n1
  | cons a as =>
    cases hc2 : v.comps with
    | nil => exact absurd hc2 n2
    | cons b bs =>
      have sufNe : ((gv.sufs.map fun x => (x.1, natOfDigits x.2)) ≠ []) ↔ gv.sufs ≠ [] := by simp
      simp only [List.headD_cons, List.tail_cons, sufNe]
      -- the three tests of `verGlobMatch` in its order; each `simp only` moves equalities and prefixes to the keys
      by_cases h1 : natOfDigits gr = 0
      · by_cases h2 : gv.sufs = []
        · by_cases h3 : gv.letter = none
          · simp only [h1, h2, h3, ne_eq, not_true_eq_false, if_false, beq_iff_eq, take_eq_iff_prefix,
              List.cons_prefix_cons, CompK.int.injEq, compK_prefix_iff]
          · simp only [h1, h2, h3, ne_eq, not_true_eq_false, not_false_eq_true, if_false, if_true,
              Bool.and_eq_true, beq_iff_eq, List.cons.injEq, CompK.int.injEq, C02.map_compK_eq_iff, C02.letterKey_inj,
              and_assoc]
        · simp only [h1, ne_eq, not_true_eq_false, if_false, h2, not_false_eq_true, if_true,
            Bool.and_eq_true, beq_iff_eq, List.cons.injEq, CompK.int.injEq, C02.map_compK_eq_iff, C02.letterKey_inj,
            take_eq_iff_prefix, suf_prefix_iff, and_assoc]
      · simp only [ne_eq, h1, not_false_eq_true, if_true, Bool.and_eq_true, beq_iff_eq, List.cons.injEq,
          CompK.int.injEq, C02.map_compK_eq_iff, C02.letterKey_inj, C02.map_suf_eq_iff, Prod.mk.injEq, and_assoc]

theorem glob_rev (gv : Ver) (gr : Str) (v : Ver) (r : Str) (hg : WF gv) (hv : WF v) (hr : natOfDigits gr ≠ 0) :
    verGlobMatch gv gr v r = true ↔ PK (gv, gr) = PK (v, r) := by
  rw [verGlobMatch_iff gv gr v r hg hv, if_pos hr]

theorem glob_norev (gv : Ver) (gr : Str) (v : Ver) (r : Str) (hg : WF gv) (hv : WF v) (hr : natOfDigits gr = 0) :
    verGlobMatch gv gr v r = true ↔ GlobV gv (VK v) := by
  rw [verGlobMatch_iff gv gr v r hg hv, if_neg (not_not_intro hr)]

theorem glob_own (gv : Ver) (gr : Str) : verGlobMatch gv gr gv gr = true :=
  (verGlobMatch_vtoks gv gr gv gr).mpr (List.prefix_refl _)

theorem glob_linear (g1 : Ver) (r1 : Str) (g2 : Ver) (r2 : Str) (v : Ver) (r : Str)
    (h1 : verGlobMatch g1 r1 v r = true) (h2 : verGlobMatch g2 r2 v r = true) :
    verGlobMatch g1 r1 g2 r2 = true ∨ verGlobMatch g2 r2 g1 r1 = true := by
  simp only [verGlobMatch_vtoks] at *
  exact List.prefix_or_prefix_of_prefix h1 h2

end Pkgcore.C05
