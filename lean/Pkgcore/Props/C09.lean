import Pkgcore.Proofs.C09Eval
import Pkgcore.Proofs.C09Parse
/-!
# C09 — dependency strings round-trip; USE evaluation preserves meaning

* `parse`/`parseLoop` mirror `DepSet.parse` (token level), `renderL` mirrors `stringify_boolean`,
  `evaluateDepset` mirrors `DepSet.evaluate_depset` + `evaluate_conditionals`.
* `Spec.wfL` is the grammar of raw trees, `Spec.collapseL` the normal form the parser builds,
  `Spec.satTopAbs` / `Spec.satTopPMS` the two readings of a structure under a flag set.
* the parser theorems are for an arbitrary operator table — where the table's entries matter, one satisfying `OpsStd`
  (all call-site tables do: `operator_tables_standard`) —, with or without SRC_URI renames, and an arbitrary
  `element_func` acceptance `okEl`.
-/
namespace Pkgcore.C09
open Pkgcore.C09.Spec

/-- **Every string of the grammar parses, to the collapsed form of its tree**: rendering any well-formed
raw tree list (any depth, any width; single-child groups and same-kind nesting allowed) and parsing the
tokens gives `collapseL ts`. -/
theorem parse_render (ops : Ops) (ren : Bool) (okEl : Tok → Option Tok → Bool) (hstd : OpsStd ops)
    (ts : List Dep) (h : wfL ops ren okEl ts = true) :
    parse ops ren okEl (renderL ts) = some (collapseL ts) := by
  have := run_render.2 ts h [] [] [] _ (fun _ => by simp) (.done _)
  rw [List.append_nil] at this
  exact parseLoop_of_run this

/-- the REQUIRED_USE operator table, as `ebuild_src` builds it -/
def ruOps : Ops := [("||".toList, .node .or), ([], .node .and), ("^^".toList, .node .justOne), ("??".toList, .node .atMostOne)]

/-- `|| ( || ( x? ( a ) ) !y? ( ?? ( b ) ) ) c` -/
def exampleTree : List Dep :=
  [.grp .or [.grp .or [.cond false ['x'] [.leaf ['a'] none]], .cond true ['y'] [.grp .atMostOne [.leaf ['b'] none]]],
   .leaf ['c'] none]

example : wfL ruOps false (fun _ _ => true) exampleTree = true := by decide +kernel
example : collapseL exampleTree ≠ exampleTree := by decide +kernel
example : opsFor "REQUIRED_USE" = some ruOps := by decide +kernel

/-- **What `DepSet.parse` returns is a well-formed tree in collapsed normal form**, for every token list. -/
theorem parse_output_wellformed (ops : Ops) (ren : Bool) (okEl : Tok → Option Tok → Bool) (hstd : OpsStd ops)
    (toks : List Tok) (ts : List Dep) (h : parse ops ren okEl toks = some ts) :
    wfL ops ren okEl ts = true ∧ collapseL ts = ts :=
  run_built hstd (run_of_parseLoop toks [] [] ts h) .nil fun e he => by simp at he

/-- **Round trip**: every token list that parses renders back to tokens that parse to the *same* structure
(hence to an equal `DepSet`, whose `__eq__` compares the sets of top-level nodes). -/
theorem render_parse_roundtrip (ops : Ops) (ren : Bool) (okEl : Tok → Option Tok → Bool) (hstd : OpsStd ops)
    (toks : List Tok) (ts : List Dep) (h : parse ops ren okEl toks = some ts) :
    parse ops ren okEl (renderL ts) = some ts := by
  obtain ⟨hw, hc⟩ := parse_output_wellformed ops ren okEl hstd toks ts h
  rw [parse_render ops ren okEl hstd ts hw, hc]

example : parse ruOps false (fun _ _ => true)
    ["||".toList, "(".toList, "x?".toList, "(".toList, "a".toList, ")".toList, "(".toList, "b".toList, ")".toList, ")".toList]
    = some [.grp .or [.cond false ['x'] [.leaf ['a'] none], .leaf ['b'] none]] := by decide +kernel

/-- with SRC_URI renames: `x? ( u -> n ) v` -/
example : parse [] true (fun _ _ => true)
    ["x?".toList, "(".toList, "u".toList, "->".toList, "n".toList, ")".toList, "v".toList]
    = some [.cond false ['x'] [.leaf ['u'] (some ['n'])], .leaf ['v'] none] := by decide +kernel

/-- **The parser's collapsing of single-child and/or groups does not change the meaning** (absent reading,
every flag set and valuation): together with `parse_render`, a string means what its grammar tree means. -/
theorem collapse_preserves_meaning (F : Tok → Bool) (T : Present) (ts : List Dep) :
    satTopAbs F T (collapseL ts) = satTopAbs F T ts := by
  unfold satTopAbs
  rw [(collapse_sat F T).2]

/-- **Unbalanced parentheses are rejected**, for every token list, operator table and element class. -/
theorem reject_unbalanced (ops : Ops) (ren : Bool) (okEl : Tok → Option Tok → Bool) (toks : List Tok)
    (h : balanced toks = false) : parse ops ren okEl toks = none :=
  parse_eq_none_of_no_run fun _ hr => by
    rw [balanced, show depthAfter toks 0 = some 0 from run_depth hr] at h
    cases h

example : balanced ["(".toList, "a".toList, ")".toList, ")".toList] = false := by decide +kernel
example : balanced ["x?".toList, "(".toList, "a".toList] = false := by decide +kernel

/-- **A conditional or operator token that is not immediately followed by `(` is rejected** … -/
theorem reject_unfollowed_operator (ops : Ops) (ren : Bool) (okEl : Tok → Option Tok → Bool) (hstd : OpsStd ops)
    (toks : List Tok) (h : openersFollowed ops toks = false) : parse ops ren okEl toks = none :=
  parse_eq_none_of_no_run fun _ hr => Bool.false_ne_true (h.symm.trans (run_openers hstd hr))

/-- … in particular **a dangling operator / conditional at the end of the string**. -/
theorem reject_dangling (ops : Ops) (ren : Bool) (okEl : Tok → Option Tok → Bool) (hstd : OpsStd ops)
    (pre : List Tok) (k : Tok) (h : isOpener ops k = true) : parse ops ren okEl (pre ++ [k]) = none :=
  reject_unfollowed_operator ops ren okEl hstd _ (openersFollowed_dangling pre k h)

example : isOpener ruOps "||".toList = true ∧ isOpener ruOps "!x?".toList = true ∧ isOpener [] "x?".toList = true := by
  decide +kernel
example : openersFollowed ruOps ["x?".toList, "a".toList] = false := by decide +kernel

/-- **An empty group `( )` is rejected** wherever it stands. -/
theorem reject_empty_group (ops : Ops) (ren : Bool) (okEl : Tok → Option Tok → Bool) (toks : List Tok)
    (h : noEmptyGroup toks = false) : parse ops ren okEl toks = none :=
  parse_eq_none_of_no_run fun _ hr => Bool.false_ne_true (h.symm.trans (run_noEmpty hr).1)

example : noEmptyGroup ["a".toList, "x?".toList, "(".toList, ")".toList] = false := by decide +kernel

/-- **The evaluated structure is conditional-free.** -/
theorem evaluate_cond_free (F : Tok → Bool) (ts : List Dep) : hasCondL (evaluateDepset F ts) = false := by
  unfold evaluateDepset
  split
  · rw [finish_force]
    refine hasCondL_eq_false.mpr fun x hx => ?_
    obtain ⟨c, _, hx⟩ := mem_evalList.mp hx
    exact hasCondL_eq_false.mp (hasCondL_evalNode F c _) x hx
  · rename_i h
    simpa using h

/-- **Evaluation preserves meaning** (absent reading): for every structure, every flag set `F`, every
valuation `T` of the elements — and whatever flag set `F'` the result is later read under, since it has no
conditionals left — the evaluated structure is satisfied iff the original, read under `F`, is.  A group
emptied by conditionals is absent, which at the top level and inside an all-of means satisfied. -/
theorem evaluate_preserves_absent (F F' : Tok → Bool) (T : Present) (ts : List Dep) :
    satTopAbs F' T (evaluateDepset F ts) = satTopAbs F T ts := by
  unfold evaluateDepset satTopAbs
  split
  · rw [finish_force]
    exact ((eval_rep F F' T).2 ts .depset).all (Or.inl rfl)
  · rename_i h
    rw [(condFree_flags F' F T).2 ts (by simpa using h)]

example : evaluateDepset (fun _ => false) exampleTree
    = [.grp .atMostOne [.leaf ['b'] none], .leaf ['c'] none] := by decide +kernel
example : evaluateDepset (fun f => f == ['x'] || f == ['y']) exampleTree
    = [.leaf ['a'] none, .leaf ['c'] none] := by decide +kernel

/-- **The absent reading is the literal PMS 8.2 reading on tame structures** (no group that can be emptied
stands directly inside `||`, `^^`, `??`). -/
theorem absent_eq_pms_of_tame (F : Tok → Bool) (T : Present) (ts : List Dep) (h : tameL ts = true) :
    satTopAbs F T ts = satTopPMS F T ts := by
  unfold satTopAbs satTopPMS
  rw [((tame_sat F T).2 ts h).1]

example : tameL exampleTree = false := by decide +kernel
example : tameL [.grp .or [.cond false ['x'] [.leaf ['a'] none, .cond true ['y'] [.leaf ['b'] none]],
    .grp .and [.leaf ['c'] none, .cond false ['z'] [.leaf ['d'] none]]]] = true := by decide +kernel

/- Full statement (false of the model, see the counterexample below; open finding
   C09-emptied-group-nested-in-anyof):
     ∀ F F' T ts, satTopPMS F' T (evaluateDepset F ts) = satTopPMS F T ts -/
/-- **Evaluation preserves meaning under the literal PMS reading** — for tame structures. -/
theorem evaluate_preserves_sat_partial (F F' : Tok → Bool) (T : Present) (ts : List Dep) (h : tameL ts = true) :
    satTopPMS F' T (evaluateDepset F ts) = satTopPMS F T ts := by
  rw [← absent_eq_pms_of_tame F' T _ (tameL_evaluateDepset F ts h), ← absent_eq_pms_of_tame F T ts h]
  exact evaluate_preserves_absent F F' T ts

/-- `|| ( || ( x? ( a ) y? ( b ) ) c )` with no flag on and no element present: the evaluated structure is `c`
(not satisfied), while PMS counts the emptied inner any-of as matched (satisfied). -/
theorem evaluate_preserves_sat_counterexample :
    let ts : List Dep := [.grp .or [.grp .or [.cond false ['x'] [.leaf ['a'] none], .cond false ['y'] [.leaf ['b'] none]],
      .leaf ['c'] none]]
    let F : Tok → Bool := fun _ => false
    let T : Present := fun _ _ => false
    evaluateDepset F ts = [.leaf ['c'] none] ∧ satTopPMS F T (evaluateDepset F ts) = false ∧ satTopPMS F T ts = true := by
  decide +kernel

/-- Members spliced into a parent keep their multiplicity: `^^ ( a x? ( a ) b )` with `x` on evaluates to `^^ ( a a b )`
— `a` counts twice, so `{a}` does not satisfy it, exactly as it does not satisfy the original read under `x` —
whereas the de-duplicated `^^ ( a b )` would be satisfied by `{a}`.  (`evaluate_preserves_absent` covers every such
structure; this instance records why the model's `finish` appends and never merges equal members.) -/
theorem evaluate_keeps_repeated_members :
    let ts : List Dep := [.grp .justOne [.leaf ['a'] none, .cond false ['x'] [.leaf ['a'] none], .leaf ['b'] none]]
    let F : Tok → Bool := fun f => f == ['x']
    let T : Present := fun k _ => k == ['a']
    evaluateDepset F ts = [.grp .justOne [.leaf ['a'] none, .leaf ['a'] none, .leaf ['b'] none]]
      ∧ satTopAbs F T ts = false ∧ satTopAbs F T (evaluateDepset F ts) = false
      ∧ satTopAbs F T [.grp .justOne [.leaf ['a'] none, .leaf ['b'] none]] = true := by
  decide +kernel

/-- every group class has its `_evaluate_collapsible` / `_evaluate_wipe_empty` in the generated table, and
they are what the proofs use: and/or are collapsible and wiped when empty, `^^`/`??` neither -/
theorem class_table_complete (k : Kind) :
    (Generated.C09.classFlags.lookup k.className).isSome = true ∧ collapsible k = wipes k ∧ wipeEmpty k = wipes k :=
  ⟨by rw [classFlags_lookup]; rfl, collapsible_eq_wipes k, wipeEmpty_eq_wipes k⟩

/-- every operator table `ebuild_src` hands to `DepSet.parse` names the group classes by the text
`stringify_boolean` prints for them (the hypothesis `OpsStd` of the theorems above) -/
theorem operator_tables_standard (attr : String) (ops : Ops) (h : opsFor attr = some ops) : OpsStd ops := by
  apply opsStd_of_check
  have hall : (Generated.C09.operatorTables.all fun e =>
      match opsFor e.1 with
      | some o => opsStdB o
      | none => false) = true := by decide +kernel
  have hmem : ∃ t, (attr, t) ∈ Generated.C09.operatorTables := by
    unfold opsFor at h
    cases hl : Generated.C09.operatorTables.lookup attr with
    | none => simp [hl] at h
    | some t => exact ⟨t, Lib.mem_of_lookup_eq_some hl⟩
  obtain ⟨t, ht⟩ := hmem
  have := List.all_eq_true.mp hall _ ht
  simp only [h] at this
  exact this

example : (opsFor "DEPEND").isSome ∧ (opsFor "SRC_URI") = some [] ∧ (opsFor "REQUIRED_USE_EAPI4").isSome := by
  decide +kernel

/-- `stringify_boolean` opens a group of each class with the text the model renders -/
theorem render_open_table (kind : Kind) :
    (Generated.C09.renderOpen.lookup kind.className).map String.toList
      = some (if kind = .and then tkOpen else kind.sym ++ [' '] ++ tkOpen) := by
  cases kind <;> decide +kernel

end Pkgcore.C09
