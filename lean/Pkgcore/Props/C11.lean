import Pkgcore.Proofs.C11
import Pkgcore.Proofs.C11Line
/-!
# C11 — stacked USE configuration = apply every applicable entry in the order given

`applyChunk`/`render` mirror `incremental_chunked`, `build` mirrors `_build_cp_atom_payload`,
`update`/`addGlobal`/`merge`/`optimize`/`renderPkg` mirror `ChunkedDataDict` (`freeze`/`clone` are the identity).  A
package is its key and its match function `m`; `MatchOk` says that `AlwaysTrue` and version-less atoms of the package's
key match it, `m rk` (in the dict theorems `m 0` and `m (cpKid key)`) that so does the restriction `build` is called
with.
-/
namespace Pkgcore.C11
open Pkgcore.C11.Spec

/-- **One entry**: after `incremental_chunked` has applied a chunk, a flag is on iff the chunk adds it, or the
chunk says nothing about it (`-flag`, `-*`, `-PREFIX_*` all "say off") and it was on before. -/
theorem chunk_application_is_spec (s : TSet) (c : Chunk) (x : Tok) :
    x ∈ applyChunk s c ↔ (verdict c x = some true ∨ (verdict c x = none ∧ x ∈ s)) :=
  mem_applyChunk s c x

example : applyChunk ["foo_a".toList, "foobar".toList, "z".toList] ⟨0, true, ["foo_*".toList], ["foo_b".toList]⟩
    = ["foobar".toList, "z".toList, "foo_b".toList] := by decide +kernel

/-- **A sequence of entries applied in order**: a flag is on iff the last applicable entry speaking about it
switches it on, or none does and it was on initially — for every sequence, package and initial set. -/
theorem render_is_last_writer (m : Nat → Bool) (seq : List Chunk) (s : TSet) (x : Tok) :
    x ∈ render m seq s ↔ holds m seq s x = true :=
  mem_render m seq s x

/-- **Collapsing preserves the rendered set**: the chunks `_build_cp_atom_payload` returns render, for every
package (match function consistent with `simple`) and every initial set, exactly what the original sequence
renders — whatever mix of global, version-less and version specific entries, `-*` and `-PREFIX_*` it has. -/
theorem collapse_preserves_render (m : Nat → Bool) (rk : Nat) (seq : List Chunk) (hm : MatchOk m seq)
    (hrk : m rk = true) (s : TSet) (x : Tok) :
    x ∈ render m (build rk seq) s ↔ x ∈ render m seq s :=
  render_congr m _ _ (build_stands m hrk seq hm).2 s x

/-- `*/* a`, `*/* -* b`  ↦  one chunk `-* b` (the defect of the pinned tree: `a` survived) -/
example : build 0 [⟨0, true, [], ["a".toList]⟩, ⟨0, true, ["*".toList], ["b".toList]⟩]
    = [⟨0, true, ["*".toList], ["b".toList]⟩] := by decide +kernel
/-- `*/* x`, `=c/p-1 -x`, `>=c/p-1 x` keeps all three -/
example : build 9 [⟨0, true, [], ["x".toList]⟩, ⟨2, false, ["x".toList], []⟩, ⟨3, false, [], ["x".toList]⟩]
    = [⟨9, true, [], ["x".toList]⟩, ⟨2, false, ["x".toList], []⟩, ⟨3, false, [], ["x".toList]⟩] := by decide +kernel

/-- **A dict renders its flat history applied in order**: `render_pkg` of any dict that can be built gives, for
every package, the set obtained by applying the applicable entries of its history one after the other. -/
theorem history_render_is_flat (cpKid : Tok → Nat) (d : CDD) (h : List Entry) (hb : Built cpKid d h)
    (key : Tok) (m : Nat → Bool) (h0 : m 0 = true) (hk : m (cpKid key) = true) (hm : MatchOk m (relevant key h))
    (pre : List Tok) (x : Tok) :
    x ∈ renderPkg d key m pre ↔ holds m (relevant key h) (pre.foldl sAdd []) x = true := by
  unfold renderPkg
  rw [mem_render, holds_iff, holds_iff, ((built_inv cpKid hb).getList key m h0 hk hm).2 x]

/-- **… however the entries were grouped**: two dicts built by any operations (`update_from_stream`, `add_global`,
`merge` of dicts built the same way, `optimize`; `freeze`/`clone` being the identity) from the same flat history
render the same set for every package and every `pre_defaults`. -/
theorem history_independent_of_grouping (cpKid : Tok → Nat) (d d' : CDD) (h : List Entry)
    (hb : Built cpKid d h) (hb' : Built cpKid d' h) (key : Tok) (m : Nat → Bool) (h0 : m 0 = true)
    (hk : m (cpKid key) = true) (hm : MatchOk m (relevant key h)) (pre : List Tok) (x : Tok) :
    x ∈ renderPkg d key m pre ↔ x ∈ renderPkg d' key m pre :=
  (history_render_is_flat cpKid d h hb key m h0 hk hm pre x).trans
    (history_render_is_flat cpKid d' h hb' key m h0 hk hm pre x).symm

/-- a history with a merge and an optimize: `*/* a`; merge (`=c/p-1 -a`, `*/* -* b`); `c/p c`; optimize -/
example : ∃ d, Built (fun _ => 1) d
    [⟨none, ⟨0, true, [], ["a".toList]⟩⟩, ⟨some "c/p".toList, ⟨2, false, ["a".toList], []⟩⟩,
     ⟨none, ⟨0, true, ["*".toList], ["b".toList]⟩⟩, ⟨some "c/p".toList, ⟨1, true, [], ["c".toList]⟩⟩] := by
  have h1 := Built.update (cpKid := fun _ => 1) ⟨none, ⟨0, true, [], ["a".toList]⟩⟩ Built.empty
  have h2 := Built.update (cpKid := fun _ => 1) ⟨none, ⟨0, true, ["*".toList], ["b".toList]⟩⟩
    (Built.update ⟨some "c/p".toList, ⟨2, false, ["a".toList], []⟩⟩ Built.empty)
  exact ⟨_, Built.optimize (Built.update ⟨some "c/p".toList, ⟨1, true, [], ["c".toList]⟩⟩ (Built.merge h1 h2))⟩

/-! ## User `package.use` lines: `package_use_splitter` and the one chunk `domain.pkg_use` makes of a line

`splitUse` mirrors the generator in `package_use_splitter` (outer loop with `start_idx`, inner loop with `use_expand`
and `buffer`), `lineChunk` is `split_negations(stable_unique(tokens))`.  The specification of a line is its tokens —
each rewritten by the `NAME:` section it stands in — applied left to right (`ltr ∘ rewrite`). -/

/-- **Section-wise rewriting**: tokens before the first `NAME:` are unchanged, every value of a section becomes
`name_value` / `-name_value` / `-name_*`, headers vanish — whatever follows. -/
theorem rewrite_sectionwise (pre vals rest : List Tok) (hdr : Tok) (hh : isSection hdr = true)
    (hp : (pre.all fun t => !isSection t) = true) (hv : (vals.all fun t => !isSection t) = true) :
    rewrite (pre ++ hdr :: (vals ++ rest))
      = pre ++ vals.map (expandTok (sectionName hdr)) ++ rewriteFrom (some (sectionName hdr)) rest := by
  unfold rewrite
  rw [rewriteFrom_append none pre _ hp, rewriteFrom_section hh, rewriteFrom_append _ vals rest hv]
  have h1 : pre.map (inPart none) = pre := by simp [show inPart none = id from rfl]
  have h2 : inPart (some (sectionName hdr)) = expandTok (sectionName hdr) := rfl
  rw [h1, h2, List.append_assoc]

/-- `a -b FOO: x -y -* BAR: z` -/
example : rewrite ["a".toList, "-b".toList, "FOO:".toList, "x".toList, "-y".toList, "-*".toList, "BAR:".toList, "z".toList]
    = ["a".toList, "-b".toList, "foo_x".toList, "-foo_y".toList, "-foo_*".toList, "bar_z".toList] := by decide +kernel

/-- **What the splitter hands on** is the rewritten line minus the tokens a later `-*` of the same part overrides:
in the plain head everything before the last `-*`, in a section the values before its last `-*` (look-ahead
specification `splitSpec`; the code keeps a start index and a buffer). -/
theorem splitter_eq_spec (valid : Tok → Bool) (toks out : List Tok) (h : splitUse valid toks = some out) :
    out = splitSpec toks := by
  rw [splitUse_eq] at h
  split at h
  · exact (Option.some.inj h).symm
  · cases h

/-- **… and it rejects a line exactly when a (long form) token is not a valid flag name.** -/
theorem splitter_accepts_iff (valid : Tok → Bool) (toks : List Tok) :
    (splitUse valid toks).isSome = (checkedFrom none toks).all fun t => valid (lstripDash t) := by
  rw [splitUse_eq]
  cases (checkedFrom none toks).all fun t => valid (lstripDash t) <;> rfl

/-- **No token is invented, duplicated or moved**: the output is a subsequence of the rewritten line. -/
theorem splitter_output_sublist (valid : Tok → Bool) (toks out : List Tok) (h : splitUse valid toks = some out) :
    out.Sublist (rewrite toks) := by
  rw [splitter_eq_spec valid toks out h]
  exact splitSpecFrom_sublist toks none

/- Full statement (false of the model, see the counterexample):
     ∀ valid toks out s x, splitUse valid toks = some out → (x ∈ ltr out s ↔ x ∈ ltr (rewrite toks) s) -/
/-- **The dropped tokens do not matter**: applied left to right, the splitter's output and the whole rewritten line
give the same set from every initial set — for every line whose section names do not start with `-`. -/
theorem splitter_preserves_meaning_partial (valid : Tok → Bool) (toks out : List Tok) (hn : plainNames toks = true)
    (h : splitUse valid toks = some out) (s : TSet) (x : Tok) :
    x ∈ ltr out s ↔ x ∈ ltr (rewrite toks) s := by
  rw [splitter_eq_spec valid toks out h]
  exact render_congr _ _ _ (fun y => lastTok_splitSpecFrom toks y none nofun hn) s x

/-- `-FOO: a -*`: the header makes `a` the *negative* `-foo_a`, which the splitter drops before `--foo_*` -/
theorem splitter_preserves_meaning_counterexample :
    let toks : List Tok := ["-FOO:".toList, "a".toList, "-*".toList]
    splitUse (fun _ => true) toks = some ["--foo_*".toList] ∧
    ltr ["--foo_*".toList] ["foo_a".toList] = ["foo_a".toList] ∧ ltr (rewrite toks) ["foo_a".toList] = [] := by
  decide +kernel

/-- `x c -* y FOO: q p -* r BAR: s`: everything before the plain `-*` and the values before the section's `-*` go -/
example : splitUse (fun _ => true) ["x".toList, "c".toList, "-*".toList, "y".toList, "FOO:".toList, "q".toList,
      "p".toList, "-*".toList, "r".toList, "BAR:".toList, "s".toList]
    = some ["-*".toList, "y".toList, "-foo_*".toList, "foo_r".toList, "bar_s".toList] := by decide +kernel

/- Full statement (false of the model — open finding C11-inline-order-lost):
     ∀ toks s x, x ∈ applyChunk s (lineChunk kid simple toks) ↔ x ∈ ltr toks s -/
/-- **A line stored as one chunk**: `domain.pkg_use` keeps of a line only (negatives, positives).  Applying that
chunk equals applying the tokens in order for every line in which no token switches a flag on that a later token
switches off again (`orderFree`). -/
theorem line_chunk_is_ltr_partial (kid : Nat) (simple : Bool) (toks : List Tok) (h : orderFree toks = true)
    (s : TSet) (x : Tok) :
    x ∈ applyChunk s (lineChunk kid simple toks) ↔ x ∈ ltr toks s := by
  rw [mem_applyChunk, verdict_lineChunk, ← lastTok_orderFree kid simple toks x h]
  unfold ltr
  rw [mem_render, holds_iff]
  rfl

/-- `a -a`: read as a chunk (remove `a`, then add `a`) the flag stays on -/
theorem line_chunk_counterexample :
    applyChunk [] (lineChunk 0 true ["a".toList, "-a".toList]) = ["a".toList] ∧ ltr ["a".toList, "-a".toList] [] = [] := by
  decide +kernel

example : orderFree ["-*".toList, "y".toList, "-foo_*".toList, "foo_r".toList, "bar_s".toList] = true := by
  decide +kernel
example : orderFree ["x".toList, "c".toList, "-*".toList, "y".toList] = false := by decide +kernel

/-- **A user `package.use` line, end to end**: the chunk the domain stores for an accepted line whose output is
order-free applies like the line's tokens, each rewritten by its section, applied in the order written. -/
theorem package_use_line_partial (valid : Tok → Bool) (kid : Nat) (simple : Bool) (toks out : List Tok)
    (h : splitUse valid toks = some out) (hn : plainNames toks = true) (hf : orderFree out = true)
    (s : TSet) (x : Tok) :
    x ∈ applyChunk s (lineChunk kid simple out) ↔ x ∈ ltr (rewrite toks) s := by
  rw [line_chunk_is_ltr_partial kid simple out hf s x]
  exact splitter_preserves_meaning_partial valid toks out hn h s x

end Pkgcore.C11
