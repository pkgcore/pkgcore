import Pkgcore.Spec.C46
/-!
# C46 — membership in what is removed, and the scenario with unreadable packages blanked

`mem_removed` characterises what is removed, which is where the property theorems about `removed` start;
`needed_saved` puts the files that must be kept into `saving`.  The second part compares a run with the same run on
`visible i`: when argument validation does not raise, no unreadable package was looked at, so blanking them changes
nothing (`removed_visible`).  Last `run` and `leftAfter`, the command with its argument validation (`run_eq_some`,
`leftAfter_eq`).
-/
namespace Pkgcore.C46
open Spec

theorem mem_removed (i : Input) (f : String) :
    f ∈ removed i ↔ f ∈ names i ∧ f ∈ targetFiles i ∧ f ∉ saving i ∧ passes i f = true := by
  unfold removed
  simp only [List.mem_filter, List.mem_mergeSort, List.mem_eraseDups, Bool.and_eq_true, List.contains_eq_mem,
    Bool.not_eq_true', decide_eq_true_eq, decide_eq_false_iff_not, and_assoc]

theorem mem_targetFiles {i : Input} {f : String} (hr : i.opts.hasRestrict = true) :
    f ∈ targetFiles i ↔ f ∈ i.selected ∧ ∃ p ∈ i.repo, p.targeted = true := by
  rw [targetFiles, if_pos hr, ← List.any_eq_true]
  by_cases ht : i.repo.any (·.targeted) = true
  · rw [if_pos ht]
    exact (and_iff_left ht).symm
  · rw [if_neg ht]
    exact ⟨nofun, fun h => absurd h.2 ht⟩

theorem passesFilters_of_passes (i : Input) (f : String) (h : passes i f = true) : passesFilters i f := by
  unfold passes at h
  cases hf : i.files.find? (·.name = f) with
  | none => simp [hf] at h
  | some fi =>
    simp only [hf, Bool.and_eq_true] at h
    have hm := List.mem_of_find?_eq_some hf
    have hn : fi.name = f := by simpa using List.find?_some hf
    refine ⟨fi, hm, hn, ?_, ?_⟩
    · intro t ht
      rw [ht] at h
      simpa using h.1
    · intro s hs
      rw [hs] at h
      simpa using h.2

theorem needed_saved (i : Input) (f : String) (h : needed i f) : f ∈ saving i := by
  unfold saving
  simp only [List.mem_append]
  rcases h with ⟨ho, l, hl, hf⟩ | ⟨ho, p, hp, hf⟩ | ⟨ho, p, hp, hr, hf⟩ | ⟨ho, p, hp, hx, hf⟩
  · left; left; left
    unfold installedDist
    rw [if_pos ho, List.mem_flatten]
    exact ⟨l, hl, hf⟩
  · left; left; right
    unfold existsDist scans
    rw [List.mem_append]
    left
    simp only [ho, Bool.or_true, if_true]
    exact List.flatMap_def ▸ List.mem_flatMap.2 ⟨p, hp, hf⟩
  · right
    unfold restrictedDist scans
    simp only [ho, Bool.true_or, if_true]
    exact List.flatMap_def ▸ List.mem_flatMap.2 ⟨p, List.mem_filter.2 ⟨hp, hr⟩, hf⟩
  · left; right
    unfold excludesDist
    rw [if_pos ho]
    exact List.flatMap_def ▸ List.mem_flatMap.2 ⟨p, List.mem_filter.2 ⟨hp, hx⟩, hf⟩

theorem filter_map_of_fix {α : Type} (q : α → Bool) (g : α → α) (l : List α)
    (h : ∀ p ∈ l, q (g p) = q p ∧ (q p = true → g p = p)) : (l.map g).filter q = l.filter q := by
  induction l with
  | nil => rfl
  | cons a l ih =>
    have ha := h a (by simp)
    have ih' := ih (fun p hp => h p (by simp [hp]))
    simp only [List.map_cons, List.filter_cons, ha.1]
    cases hq : q a with
    | false => simpa using ih'
    | true => simp [ha.2 hq, ih']

/-- what `visible` does to one package -/
def blank (p : RepoPkg) : RepoPkg := if p.broken then { p with distfiles := [] } else p

theorem visible_repo (i : Input) : (visible i).repo = i.repo.map blank := rfl

theorem blank_targeted (p : RepoPkg) : (blank p).targeted = p.targeted := by
  unfold blank
  split <;> rfl

theorem blank_excluded (p : RepoPkg) : (blank p).excluded = p.excluded := by
  unfold blank
  split <;> rfl

/-- argument validation did not raise, so a package that is read is not unreadable -/
theorem blank_of_touched {i : Input} (h : aborts i = false) {p : RepoPkg} (hp : p ∈ i.repo)
    (ht : touched i p = true) : blank p = p := by
  unfold blank
  cases hb : p.broken with
  | false => rfl
  | true =>
    have := List.any_eq_false.1 h p hp
    rw [hb, ht] at this
    exact absurd rfl this

theorem visible_eq_of_scans (i : Input) (h : aborts i = false) (hs : scans i = true) : visible i = i := by
  have hnb : ∀ p ∈ i.repo, blank p = p := fun p hp => blank_of_touched h hp (by rw [touched, hs]; rfl)
  have h2 : i.repo.map blank = i.repo := by
    conv => rhs; rw [← List.map_id i.repo]
    exact List.map_congr_left hnb
  show { i with repo := i.repo.map blank } = i
  rw [h2]

theorem targetFiles_visible (i : Input) : targetFiles (visible i) = targetFiles i := by
  unfold targetFiles
  rw [show (visible i).repo.any (·.targeted) = i.repo.any (·.targeted) by
    rw [visible_repo, List.any_map]; exact congrArg (List.any i.repo) (funext blank_targeted)]
  rfl

theorem excludesDist_visible (i : Input) (h : aborts i = false) : excludesDist (visible i) = excludesDist i := by
  unfold excludesDist
  rw [show (visible i).opts.hasExclude = i.opts.hasExclude from rfl]
  cases hx : i.opts.hasExclude with
  | false => rfl
  | true =>
    rw [if_pos rfl, if_pos rfl, visible_repo, filter_map_of_fix (·.excluded) blank i.repo]
    intro p hp
    -- the packages the exclusion restriction matches are read
    exact ⟨blank_excluded p, fun hpe => blank_of_touched h hp (by rw [touched, hx, hpe, Bool.or_comm (scans i)]; rfl)⟩

theorem saving_of_no_scan {i : Input} (h : scans i = false) : saving i = installedDist i ++ excludesDist i := by
  simp only [saving, existsDist, restrictedDist, h, (Bool.or_eq_false_iff.1 h).2, Bool.and_false, Bool.false_eq_true,
    if_false, List.append_nil]

theorem removed_visible (i : Input) (h : aborts i = false) : removed (visible i) = removed i := by
  cases hs : scans i with
  | true => rw [visible_eq_of_scans i h hs]
  | false =>
    -- no scan of the repository: only the packages the exclusion restriction matches are read
    unfold removed
    rw [saving_of_no_scan hs, saving_of_no_scan (i := visible i) hs, excludesDist_visible i h, targetFiles_visible]
    rfl

theorem run_eq_some {i : Input} {r : List String} : run i = some r ↔ aborts i = false ∧ removed i = r := by
  unfold run
  cases aborts i <;> simp

theorem leftAfter_eq (i : Input) : leftAfter i = if aborts i then names i else left i := by
  unfold leftAfter run
  cases aborts i <;> rfl

end Pkgcore.C46
