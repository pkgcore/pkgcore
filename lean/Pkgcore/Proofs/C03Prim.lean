import Pkgcore.Spec.C03
import Pkgcore.Proofs.C01Lex
/-!
# C03 — character classes and the string primitives of the parser

After a list fact that core lacks: every piece of a rendered atom is described by the set of characters it is
made of, always in the form `nameChars extra s` ("alphanumeric or one of `extra`"); that a delimiter does not occur in
a piece is then `not_mem_of_nameChars`, and inclusions between classes are `nameChars_mono` with a `decide`d list
inclusion.
Then the primitives (`breakOn` = `find`, `breakOnLast` = `rsplit`, `breakDColon` = `find("::")`, `stripSuffix?`; the
facts about `splitOn`/`joinSep` are in Proofs/C01Lex), and at the end the model's own character tests brought to the
`nameChars` form.
-/
namespace Pkgcore.C03
open Pkgcore.C01 Pkgcore.C02 Pkgcore.C03.Spec

theorem not_mem_cons {c x : Char} {s : Str} : c ∉ x :: s ↔ x ≠ c ∧ c ∉ s :=
  ⟨fun h => ⟨fun e => h (e ▸ List.mem_cons_self), fun m => h (List.mem_cons_of_mem _ m)⟩,
    fun ⟨h1, h2⟩ m => (List.mem_cons.mp m).elim (fun e => h1 e.symm) h2⟩

theorem nameChars_iff {extra : List Char} {s : Str} :
    nameChars extra s = true ↔ ∀ x ∈ s, x.isAlphanum = true ∨ x ∈ extra := by
  simp only [nameChars, List.all_eq_true, Bool.or_eq_true, List.contains_iff_mem]

theorem nameChars_append (extra : List Char) (a b : Str) :
    nameChars extra (a ++ b) = (nameChars extra a && nameChars extra b) :=
  List.all_append

theorem nameChars_cons (extra : List Char) (c : Char) (s : Str) :
    nameChars extra (c :: s) = ((c.isAlphanum || extra.contains c) && nameChars extra s) :=
  List.all_cons

theorem nameChars_mono {e e' : List Char} (he : ∀ c ∈ e, c ∈ e') {s : Str} (h : nameChars e s = true) :
    nameChars e' s = true :=
  nameChars_iff.mpr fun x hx => (nameChars_iff.mp h x hx).imp_right (he x)

theorem not_mem_of_nameChars {extra : List Char} {s : Str} {x : Char} (h : nameChars extra s = true)
    (hx : x.isAlphanum = false) (he : extra.contains x = false) : x ∉ s := fun hm =>
  (nameChars_iff.mp h x hm).elim (fun h' => Bool.false_ne_true (hx.symm.trans h'))
    fun h' => Bool.false_ne_true (he.symm.trans (List.contains_iff_mem.mpr h'))

theorem nameChars_of_digits (extra : List Char) {s : Str} (h : ∀ x ∈ s, x.isDigit = true) :
    nameChars extra s = true :=
  nameChars_iff.mpr fun x hx => Or.inl (by rw [Char.isAlphanum, h x hx, Bool.or_true])

theorem nameChars_joinSep {extra : List Char} {sep : Char} (hs : nameChars extra [sep] = true) {parts : List Str}
    (h : ∀ p ∈ parts, nameChars extra p = true) : nameChars extra (joinSep sep parts) = true :=
  nameChars_iff.mpr fun x hx => (mem_joinSep sep x parts hx).elim
    (fun e => nameChars_iff.mp hs x (e ▸ List.mem_singleton_self sep))
    fun ⟨p, hp, hxp⟩ => nameChars_iff.mp (h p hp) x hxp

theorem breakOn_append {c : Char} {a : Str} (b : Str) (h : c ∉ a) :
    breakOn c (a ++ c :: b) = some (a, b) := by
  induction a with
  | nil => simp [breakOn]
  | cons x xs ih =>
    have ⟨hx, hxs⟩ := not_mem_cons.mp h
    simp [breakOn, hx, ih hxs]

theorem breakOn_of_not_mem {c : Char} {s : Str} (h : c ∉ s) : breakOn c s = none := by
  induction s with
  | nil => rfl
  | cons x xs ih =>
    have ⟨hx, hxs⟩ := not_mem_cons.mp h
    simp [breakOn, hx, ih hxs]

theorem breakOn_sound {c : Char} {s a b : Str} (h : breakOn c s = some (a, b)) : s = a ++ c :: b ∧ c ∉ a := by
  by_cases hm : c ∈ s
  · obtain ⟨a', b', rfl, ha'⟩ := List.eq_append_cons_of_mem hm
    rw [breakOn_append b' ha'] at h
    cases h
    exact ⟨rfl, ha'⟩
  · rw [breakOn_of_not_mem hm] at h
    cases h

theorem breakOn_none_sound {c : Char} {s : Str} (h : breakOn c s = none) : c ∉ s := fun hm => by
  obtain ⟨a, b, rfl, ha⟩ := List.eq_append_cons_of_mem hm
  rw [breakOn_append b ha] at h
  cases h

theorem breakOnLast_of_not_mem {c : Char} {s : Str} (h : c ∉ s) : breakOnLast c s = none := by
  induction s with
  | nil => rfl
  | cons x xs ih =>
    have ⟨hx, hxs⟩ := not_mem_cons.mp h
    simp [breakOnLast, hx, ih hxs]

theorem breakOnLast_append {c : Char} (a : Str) {b : Str} (h : c ∉ b) :
    breakOnLast c (a ++ c :: b) = some (a, b) := by
  induction a with
  | nil => simp [breakOnLast, breakOnLast_of_not_mem h]
  | cons x xs ih => simp [breakOnLast, ih]

theorem breakOnLast_sound {c : Char} {s a b : Str} (h : breakOnLast c s = some (a, b)) :
    s = a ++ c :: b ∧ c ∉ b := by
  by_cases hm : c ∈ s
  · obtain ⟨a', b', rfl, hb'⟩ := Lib.eq_append_cons_of_mem_last hm
    rw [breakOnLast_append a' hb'] at h
    cases h
    exact ⟨rfl, hb'⟩
  · rw [breakOnLast_of_not_mem hm] at h
    cases h

theorem breakOnLast_none_sound {c : Char} {s : Str} (h : breakOnLast c s = none) : c ∉ s := fun hm => by
  obtain ⟨a, b, rfl, hb⟩ := Lib.eq_append_cons_of_mem_last hm
  rw [breakOnLast_append a hb] at h
  cases h

/-- The second part says that the match cannot start one place earlier. -/
theorem breakDColon_sound {s a b : Str} (h : breakDColon s = some (a, b)) :
    s = a ++ ':' :: ':' :: b ∧ a.getLast? ≠ some ':' := by
  induction s generalizing a with
  | nil => cases h
  | cons x xs ih =>
    cases xs with
    | nil => cases h
    | cons y r =>
      rw [breakDColon] at h
      split at h
      · rename_i hxy
        cases h
        exact ⟨by rw [hxy.1, hxy.2, List.nil_append], nofun⟩
      · rename_i hxy
        split at h
        · rename_i a' b' hb
          cases h
          obtain ⟨hs, hmin⟩ := ih hb
          refine ⟨by rw [hs, List.cons_append], ?_⟩
          cases a' with
          | nil => exact fun hx => hxy ⟨Option.some.inj hx, (List.cons.inj hs).1⟩
          | cons z zs => rwa [List.getLast?_cons_cons]
        · cases h

/-- In `parseSlotPart`, `c` is the `:` that opens the slot part and `x` the slot text.  `x ≠ []`: for empty `x` and
`c = ':'` the match would start at `c`. -/
theorem breakDColon_of_not_mem (c : Char) {x : Str} (h : ':' ∉ x) :
    breakDColon (c :: x) = none ∧
      ∀ r, x ≠ [] → breakDColon (c :: (x ++ ':' :: ':' :: r)) = some (c :: x, r) := by
  induction x generalizing c with
  | nil => exact ⟨rfl, fun _ hne => absurd rfl hne⟩
  | cons y ys ih =>
    have ⟨hy, hys⟩ := not_mem_cons.mp h
    have hcy : ¬ (c = ':' ∧ y = ':') := fun e => hy e.2
    refine ⟨by rw [breakDColon, if_neg hcy, (ih y hys).1], fun r _ => ?_⟩
    rw [List.cons_append, breakDColon, if_neg hcy]
    cases ys with
    | nil => simp [breakDColon, hy]
    | cons z zs => rw [(ih y hys).2 r (List.cons_ne_nil _ _)]

theorem stripSuffix?_append (suf y : Str) : stripSuffix? suf (y ++ suf) = some y := by
  simp [stripSuffix?]

theorem stripSuffix?_append_ne {suf s : Str} (y : Str) (hl : suf.length = s.length) (hne : suf ≠ s) :
    stripSuffix? suf (y ++ s) = none :=
  if_neg fun h => by
    obtain ⟨t, ht⟩ := List.isSuffixOf_iff_suffix.mp h
    exact hne (List.append_inj' ht hl).2

theorem stripSuffix?_sound {suf x y : Str} (h : stripSuffix? suf x = some y) : x = y ++ suf := by
  unfold stripSuffix? at h
  split at h
  · rename_i hs
    obtain ⟨t, rfl⟩ := List.isSuffixOf_iff_suffix.mp hs
    cases h
    simp
  · cases h

theorem all_eq_nameChars {p : Char → Bool} {extra : List Char}
    (h : ∀ c, p c = (c.isAlphanum || extra.contains c)) (s : Str) : s.all p = nameChars extra s := by
  rw [funext h]
  rfl

theorem slotChar_eq (c : Char) : slotChar c = (c.isAlphanum || ['+', '_', '.', '-'].contains c) := by
  simp only [slotChar, isAlnum, List.contains_cons, List.contains_nil, Bool.or_false]
  ac_rfl

theorem repoChar_eq (c : Char) : repoChar c = (c.isAlphanum || ['_', '-'].contains c) := by
  simp only [repoChar, isAlnum, List.contains_cons, List.contains_nil, Bool.or_false, Bool.or_assoc]

/-- `validUseFlag`'s test after the first character (`validUseFlag_cons`), named for `all_eq_nameChars` and
`classes_ascii` -/
def useFlagChar (c : Char) : Bool := c.isAlphanum || c == '+' || c == '_' || c == '@' || c == '-'

theorem validUseFlag_cons (c : Char) (cs : Str) : validUseFlag (c :: cs) = (c.isAlphanum && cs.all useFlagChar) := rfl

theorem useFlagChar_eq (c : Char) : useFlagChar c = (c.isAlphanum || ['+', '_', '@', '-'].contains c) := by
  simp only [useFlagChar, List.contains_cons, List.contains_nil, Bool.or_false, Bool.or_assoc]

theorem validUseFlag_iff (z : Str) : validUseFlag z = true ↔ useFlagOk z = true := by
  cases z with
  | nil => exact ⟨nofun, nofun⟩
  | cons c cs =>
    rw [validUseFlag_cons, all_eq_nameChars useFlagChar_eq, useFlagOk, nameChars_cons]
    cases c.isAlphanum <;> simp

theorem startsWithAny_cons (bad : List Char) (c : Char) (cs : Str) :
    startsWithAny bad (c :: cs) = bad.contains c := rfl

/-- what a PMS name is: `catOk`, `slotNameOk d`, `repoNameOk` and the first half of `pkgOk d` all unfold to the left
side -/
theorem nameOk_iff {extra bad : List Char} {s : Str} :
    (!s.isEmpty && nameChars extra s && !startsWithAny bad s) = true ↔
      ∃ c cs, s = c :: cs ∧ nameChars extra s = true ∧ c ∉ bad := by
  cases s with
  | nil => exact ⟨nofun, fun ⟨_, _, h, _⟩ => nomatch h⟩
  | cons c cs =>
    simp only [startsWithAny_cons, List.isEmpty_cons, Bool.not_false, Bool.true_and, Bool.and_eq_true,
      Bool.not_eq_true', ← Bool.not_eq_true, List.contains_iff_mem]
    exact ⟨fun h => ⟨c, cs, rfl, h⟩, fun ⟨_, _, e, h⟩ => by cases e; exact h⟩

/-- `checkSlotChunk` and `checkRepo` after their `[]` case: a test `P` of the first character, then the class -/
theorem checkChunk_iff {p : Char → Bool} {extra bad : List Char}
    (hp : ∀ c, p c = (c.isAlphanum || extra.contains c)) {P : Prop} [Decidable P] {x : Char}
    (hP : P ↔ bad.contains x = true) (e1 e2 : Err) (xs : Str) :
    (if P then .error e1 else if !(x :: xs).all p then .error e2 else (.ok () : Except Err Unit)) = .ok () ↔
      (!(x :: xs).isEmpty && nameChars extra (x :: xs) && !startsWithAny bad (x :: xs)) = true := by
  rw [all_eq_nameChars hp, startsWithAny_cons]
  by_cases h : P
  · rw [if_pos h, hP.mp h, Bool.not_true, Bool.and_false]
    exact ⟨nofun, nofun⟩
  · rw [if_neg h, Bool.eq_false_iff.mpr (mt hP.mpr h)]
    cases nameChars extra (x :: xs)
    · exact ⟨nofun, nofun⟩
    · exact ⟨fun _ => rfl, fun _ => rfl⟩

theorem checkSlotChunk_iff (c : Str) : checkSlotChunk c = .ok () ↔ slotNameOk lenient c = true := by
  cases c with
  | nil => exact ⟨nofun, nofun⟩
  | cons x xs =>
    rw [checkSlotChunk, slotNameOk, lenient, if_pos rfl]
    refine checkChunk_iff slotChar_eq ?_ _ _ xs
    simp only [List.contains_cons, List.contains_nil, Bool.or_false, Bool.or_eq_true, beq_iff_eq]

theorem checkRepo_iff (r : Str) : checkRepo r = .ok () ↔ repoNameOk r = true := by
  cases r with
  | nil => exact ⟨nofun, nofun⟩
  | cons x xs =>
    rw [checkRepo, repoNameOk]
    refine checkChunk_iff repoChar_eq ?_ _ _ xs
    simp only [List.contains_cons, List.contains_nil, Bool.or_false, beq_iff_eq]

theorem validCat_iff (s : Str) : validCat s = true ↔ catOk s = true := by
  cases s with
  | nil => exact ⟨nofun, nofun⟩
  | cons c cs =>
    -- the class minus the three characters a name must not start with
    have hfirst : (isAlnum c || c == '_') =
        ((c.isAlphanum || ['+', '_', '.', '-'].contains c) && !['-', '.', '+'].contains c) := by
      by_cases h1 : c = '_'
      · rw [h1]
        rfl
      by_cases h2 : c = '+'
      · rw [h2]
        rfl
      by_cases h3 : c = '.'
      · rw [h3]
        rfl
      by_cases h4 : c = '-'
      · rw [h4]
        rfl
      simp only [isAlnum, List.contains_cons, List.contains_nil, beq_false_of_ne h1, beq_false_of_ne h2,
        beq_false_of_ne h3, beq_false_of_ne h4, Bool.or_false, Bool.not_false, Bool.and_true]
    rw [validCat, all_eq_nameChars (extra := ['+', '_', '.', '-']) (fun x => by
      simp only [isAlnum, List.contains_cons, List.contains_nil, Bool.or_false, Bool.or_assoc]), catOk, nameChars_cons,
      startsWithAny_cons, hfirst, Bool.and_right_comm]
    rfl

end Pkgcore.C03
