import Pkgcore.Proofs.C04
/-!
# C04 — `atom.match` is PMS dependency semantics

`atomMatch` mirrors `atom.match` through `atom.restrictions` (`Model/C04.lean`); `matchSpec` is the property text
(`Spec/C04.lean`).
-/
namespace Pkgcore.C04
open Pkgcore.C01 Pkgcore.C01.Spec Pkgcore.C02 Pkgcore.C04.Spec Std

/-- **atom.match = PMS dependency semantics**, for every well-formed atom (any operator incl. `~` and `=*`,
any slot/sub-slot/repository, any list of USE deps with or without defaults, blocker or not) and every
package (versions of any length, any IUSE/USE sets). -/
theorem match_eq_spec (a : Atom) (p : Pkg) (ha : Atom.WF a) (hp : Pkg.WF p) (hn : a.negate = false) :
    atomMatch a p = matchSpec a p := by
  rw [atomMatch_eq a p ha.2, matchSpec_eq_matchSpecWith]
  congr 1
  cases hv : a.vop with
  | none => rfl
  | some q =>
    obtain ⟨op, v, r⟩ := q
    simp only [hn]
    rw [versionRestr_eq op v r false p (WF_of_vop ha hv) hp]
    cases op <;> simp

example : Atom.WF ⟨['a'], ['b'], some (.glob, ⟨[['1'], ['0', '2']], none, [(.rc, ['1'])]⟩, []), false, true, true,
    some ['0'], some ['2'], some ['='], some ['g'], some [⟨['x'], false, some true⟩, ⟨['y'], true, none⟩]⟩ := by
  refine ⟨⟨by simp, ?_⟩, fun _ => rfl⟩
  intro c hc
  simp at hc
  rcases hc with rfl | rfl <;> exact ⟨by simp, by decide⟩

/-- with `negate_vers=True` the version test of every non-glob operator is inverted, nothing else changes -/
theorem match_negate_vers (a : Atom) (p : Pkg) (op : Op) (v : Ver) (r : Str) (ha : Atom.WF a) (hp : Pkg.WF p)
    (hv : a.vop = some (op, v, r)) (hop : op ≠ .glob) (hn : a.negate = true) :
    atomMatch a p = matchSpecWith (!opSpec op v r p.ver p.rev) a p := by
  rw [atomMatch_eq a p ha.2, hv]
  simp only [hn]
  rw [versionRestr_eq op v r true p (WF_of_vop ha hv) hp]
  simp only [hop, if_false, Bool.bne_true]

/-- **the `=*` operator is a prefix test on version components, compared the PMS way** — the model of
`cpv.ver_glob_match` (via `ver_hash_key`) against "the written components are a prefix of the package's". -/
theorem glob_is_component_prefix (gv : Ver) (gr : Str) (v : Ver) (r : Str) (hg : WF gv) (hv : WF v) :
    verGlobMatch gv gr v r = globSpec gv gr v r :=
  verGlobMatch_eq_spec gv gr v r hg hv

/-- `=1*` does not match `10` (portage bug 560466), but matches `1`, `1.0`, `1a`, `1_p1`, `1-r2`;
`=1.00*` matches `1.0.5`; `=1-r1*` does not match `1-r10`; `=1_p*` does not match `1_pre` -/
theorem glob_examples :
    verGlobMatch ⟨[['1']], none, []⟩ [] ⟨[['1', '0']], none, []⟩ [] = false ∧
    verGlobMatch ⟨[['1']], none, []⟩ [] ⟨[['1']], none, []⟩ [] = true ∧
    verGlobMatch ⟨[['1']], none, []⟩ [] ⟨[['1'], ['0']], none, []⟩ [] = true ∧
    verGlobMatch ⟨[['1']], none, []⟩ [] ⟨[['1']], some 'a', []⟩ [] = true ∧
    verGlobMatch ⟨[['1']], none, []⟩ [] ⟨[['1']], none, [(.p, ['1'])]⟩ [] = true ∧
    verGlobMatch ⟨[['1']], none, []⟩ [] ⟨[['1']], none, []⟩ ['2'] = true ∧
    verGlobMatch ⟨[['1'], ['0', '0']], none, []⟩ [] ⟨[['1'], ['0'], ['5']], none, []⟩ [] = true ∧
    verGlobMatch ⟨[['1']], none, []⟩ ['1'] ⟨[['1']], none, []⟩ ['1', '0'] = false ∧
    verGlobMatch ⟨[['1']], none, [(.p, [])]⟩ [] ⟨[['1']], none, [(.pre, [])]⟩ [] = false := by decide +kernel

/-- **USE deps are checked one by one**: whatever the grouping into `StaticUseDep`/`UseDepDefault`
restrictions, the conjunction of the built restrictions is "every dep holds", for any list of deps. -/
theorem useDeps_eq_spec (deps : List UseDep) (p : Pkg) : useRestrs deps p = deps.all (useHolds p) :=
  useRestrs_eq deps p

/-- **all eight combinations** of sign × default × presence in IUSE for a dep with a default, and the four
without: a flag in IUSE is judged by USE; a missing one by its `(+)`/`(-)` default. -/
theorem usedep_default_correct (p : Pkg) (f : Str) :
    (p.iuse.contains f = true →
      (useRestrs [⟨f, true, some true⟩] p = p.use.contains f) ∧ (useRestrs [⟨f, true, some false⟩] p = p.use.contains f) ∧
      (useRestrs [⟨f, false, some true⟩] p = !p.use.contains f) ∧ (useRestrs [⟨f, false, some false⟩] p = !p.use.contains f)) ∧
    (p.iuse.contains f = false →
      useRestrs [⟨f, true, some true⟩] p = true ∧ useRestrs [⟨f, true, some false⟩] p = false ∧
      useRestrs [⟨f, false, some true⟩] p = false ∧ useRestrs [⟨f, false, some false⟩] p = true) ∧
    (useRestrs [⟨f, true, none⟩] p = p.use.contains f) ∧ (useRestrs [⟨f, false, none⟩] p = !p.use.contains f) := by
  simp only [useRestrs_eq, List.all_cons, List.all_nil, Bool.and_true, useHolds, flagState]
  refine ⟨fun h => ?_, fun h => ?_, ?_, ?_⟩
  · simp only [h, if_true]; cases p.use.contains f <;> decide
  · simp only [h, Bool.false_eq_true, if_false]; decide
  · cases p.iuse.contains f <;> cases p.use.contains f <;> decide
  · cases p.iuse.contains f <;> cases p.use.contains f <;> decide

/-- several disabled flags: *each* has to be off (the defect fixed in 48898ac made this "not all on") -/
theorem usedep_all_disabled (p : Pkg) (x y : Str) :
    useRestrs [⟨x, false, none⟩, ⟨y, false, none⟩] p = (!p.use.contains x && !p.use.contains y) := by
  simp only [useRestrs_eq, List.all_cons, List.all_nil, Bool.and_true, useHolds, flagState]
  cases p.iuse.contains x <;> cases p.iuse.contains y <;> simp

/-- **a blocker matches the same packages as its non-blocking form** (and the slot operator plays no role):
`atom.restrictions` never reads `blocks`, `blocks_strongly` or `slot_operator`. -/
theorem blocker_matches_same (a : Atom) (p : Pkg) (b s : Bool) (so : Option Str) :
    atomMatch { a with blocks := b, strong := s, slotOp := so } p = atomMatch a p := rfl

/-- matching does not depend on how the package's version is spelled: packages that differ only by a
PMS-equal respelling of version and revision (`1.0`/`1.00`, `_p`/`_p0`, `-r0`/none) are matched alike —
including by `=*`. -/
theorem match_respects_version_equality (a : Atom) (p : Pkg) (v' : Ver) (r' : Str)
    (ha : Atom.WF a) (hp : Pkg.WF p) (hv' : WF v') (hn : a.negate = false)
    (heq : pmsCmp p.ver (some p.rev) v' (some r') = .eq) :
    atomMatch a p = atomMatch a { p with ver := v', rev := r' } :=
  atomMatch_congr_ver a p v' r' ha hp hv' heq

end Pkgcore.C04
