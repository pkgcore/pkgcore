import Pkgcore.Proofs.C38Lay
import Pkgcore.Proofs.Lib
/-! On `Lay`, `lay_iff` and `tokens_body` of `Proofs/C38Lay` rest, in this order: `splitlines`, `rstrip` and
`parseLine`; `with_keywords`, which keeps `Lay` (`lay_kwItems`, `rewrittenItems_lay`); `expandKeywords` and one turn of
the loop of `expand`, each inverted once (`expandKeywords_eq_flatMap`, `expandLoop_cons`); the lines `build` writes. -/
namespace Pkgcore.C38
open Pkgcore.C38.Spec

variable {α : Type}

/-! First the vocabulary of the property statements of `Props/C38`: `Forall2`, `Touched`. -/

inductive Forall2 {β γ : Type} (R : β → γ → Prop) : List β → List γ → Prop
  | nil : Forall2 R [] []
  | cons {a b l₁ l₂} : R a b → Forall2 R l₁ l₂ → Forall2 R (a :: l₁) (b :: l₂)

theorem Forall2.imp {β γ : Type} {R S : β → γ → Prop} {l₁ : List β} {l₂ : List γ}
    (h : Forall2 R l₁ l₂) (hi : ∀ a b, a ∈ l₁ → b ∈ l₂ → R a b → S a b) : Forall2 S l₁ l₂ := by
  induction h with
  | nil => exact Forall2.nil
  | cons hab _ ih =>
    exact Forall2.cons (hi _ _ List.mem_cons_self List.mem_cons_self hab)
      (ih (fun a b ha hb => hi a b (List.mem_cons_of_mem _ ha) (List.mem_cons_of_mem _ hb)))

/-- behind "as many entries as were parsed" in the docstring of `expand_touches_only_changed` -/
theorem Forall2.length_eq {β γ : Type} {R : β → γ → Prop} {l₁ : List β} {l₂ : List γ}
    (h : Forall2 R l₁ l₂) : l₁.length = l₂.length := by
  induction h with
  | nil => rfl
  | cons _ _ ih => simp [ih]

/-- an entry of the expansion: untouched, or rewritten because a sentinel changed its keywords -/
def Touched (e e' : Entry α) : Prop :=
  e' = e ∨ (e.pkg ≠ none ∧ (∃ k ∈ e.keywords, isSentinel k = true) ∧ e'.keywords ≠ e.keywords ∧
            e' = e.withKeywords e'.keywords)

theorem Except.map_eq_ok {ε : Type u} {β γ : Type v} {f : β → γ} {x : Except ε β} {y : γ} :
    x.map f = .ok y ↔ ∃ a, x = .ok a ∧ f a = y := by
  cases x <;> simp [Except.map]

theorem splitLines_flatten (text : Str) : (splitLines text).flatten = text := by
  induction text with
  | nil => rfl
  | cons c cs ih =>
    rw [splitLines]
    split
    next h => rw [h] at ih; rw [← ih]; rfl
    next l ls h =>
      rw [h] at ih
      split <;> rw [← ih] <;> rfl

theorem rstrip_append_drop (p : Char → Bool) (s : Str) : rstrip p s ++ s.drop (rstrip p s).length = s := by
  obtain ⟨t, ht⟩ : rstrip p s <+: s := Lib.rstrip_prefix s
  have h2 := congrArg (List.drop (rstrip p s).length) ht
  rw [List.drop_left] at h2
  rw [← h2, ht]

theorem parseLine_some (parseAtom : Str → Option α) (n : Nat) (line : Str) (e : Entry α)
    (h : parseLine parseAtom n line = some e) :
    e.raw = rstrip isCRLF line ∧ e.eol = line.drop e.raw.length ∧
      e.pkg = (tokens (splitComment e.raw).1).head?.bind parseAtom ∧
      e.keywords = (tokens (splitComment e.raw).1).tail := by
  unfold parseLine at h
  simp only [tokens_body] at h
  split at h
  next ht => cases h; exact ⟨rfl, rfl, by rw [ht]; rfl, by rw [ht]; rfl⟩
  next t ks ht =>
    split at h
    · cases h
    next pkg hp => cases h; exact ⟨rfl, rfl, by rw [ht]; exact hp.symm, by rw [ht]; rfl⟩

theorem parseLine_raw_eol (parseAtom : Str → Option α) (n : Nat) (line : Str) (e : Entry α)
    (h : parseLine parseAtom n line = some e) : e.raw ++ e.eol = line := by
  obtain ⟨h1, h2, _⟩ := parseLine_some parseAtom n line e h
  rw [h2, h1]; exact rstrip_append_drop _ _

/-- what `_parse` guarantees of an entry beyond its fields: a line with a package has a token (so `with_keywords`
rewrites it), and its keywords are proper tokens -/
theorem parseLine_parsed (parseAtom : Str → Option α) (n : Nat) (line : Str) (e : Entry α)
    (h : parseLine parseAtom n line = some e) :
    (e.pkg ≠ none → (scan (splitComment e.raw).1).items ≠ []) ∧ ∀ k ∈ e.keywords, Tok k := by
  obtain ⟨-, -, hpkg, hkw⟩ := parseLine_some parseAtom n line e h
  refine ⟨fun hp hnil => ?_, fun k hk => ?_⟩
  · rw [hpkg, tokens, hnil] at hp
    exact hp rfl
  · rw [hkw] at hk
    obtain ⟨it, hit, rfl⟩ := List.mem_map.1 (List.mem_of_mem_tail hk)
    exact (lay_scan e.raw).tok it hit

theorem parseLines_cons_ok (parseAtom : Str → Option α) (n : Nat) (l : Str) (ls : List Str) (es : List (Entry α))
    (h : parseLines parseAtom n (l :: ls) = .ok es) :
    ∃ e es', parseLine parseAtom n l = some e ∧ parseLines parseAtom (n + 1) ls = .ok es' ∧ es = e :: es' := by
  rw [parseLines] at h
  split at h
  · cases h
  next e he =>
    obtain ⟨es', hes', rfl⟩ := Except.map_eq_ok.1 h
    exact ⟨e, es', he, hes', rfl⟩

theorem parseLines_render (parseAtom : Str → Option α) (n : Nat) (lines : List Str) (es : List (Entry α))
    (h : parseLines parseAtom n lines = .ok es) : renderEntries es = lines.flatten := by
  induction lines generalizing n es with
  | nil => cases h; rfl
  | cons l ls ih =>
    obtain ⟨e, es', he, hes', rfl⟩ := parseLines_cons_ok parseAtom n l ls es h
    rw [renderEntries, List.flatMap_cons, List.flatten_cons, parseLine_raw_eol parseAtom n l e he]
    exact congrArg (l ++ ·) (ih (n + 1) es' hes')

theorem parseLines_parsed (parseAtom : Str → Option α) (n : Nat) (lines : List Str) (es : List (Entry α))
    (h : parseLines parseAtom n lines = .ok es) :
    ∀ e ∈ es, (e.pkg ≠ none → (scan (splitComment e.raw).1).items ≠ []) ∧ ∀ k ∈ e.keywords, Tok k := by
  induction lines generalizing n es with
  | nil => cases h; exact fun _ => List.not_mem_nil.elim
  | cons l ls ih =>
    obtain ⟨e, es', he, hes', rfl⟩ := parseLines_cons_ok parseAtom n l ls es h
    exact List.forall_mem_cons.2 ⟨parseLine_parsed parseAtom n l e he, ih (n + 1) es' hes'⟩

theorem joinSp_eq_core (l : List Str) : joinSp l = [' '].intercalate l := by
  induction l with
  | nil => rfl
  | cons c cs ih =>
    cases cs with
    | nil => exact List.intercalate_singleton.symm
    | cons d ds => simp only [joinSp, Lib.intercalate_cons_cons, ih]

theorem joinSp_cons (k : Str) (ks : List Str) : joinSp (k :: ks) = k ++ ks.flatMap (fun k' => ' ' :: k') := by
  induction ks generalizing k with
  | nil => simp [joinSp]
  | cons k2 ks ih => simp [joinSp, ih k2]

theorem render_kwItems (ws0 t0 sep : Str) (kws : List Str) (trail : Str) :
    Segs.render ⟨(ws0, t0) :: kwItems sep kws, trail⟩
      = ws0 ++ t0 ++ (if kws.isEmpty then [] else sep) ++ joinSp kws ++ trail := by
  cases kws with
  | nil => simp [Segs.render, kwItems, joinSp]
  | cons k ks =>
    simp only [Segs.render, kwItems, List.flatMap_cons, List.flatMap_map, joinSp_cons, List.isEmpty_cons,
      Bool.false_eq_true, if_false, List.append_assoc]
    congr 4

theorem withKeywords_eq (e : Entry α) (pkg : α) (hp : e.pkg = some pkg) (kws : List Str)
    (hne : (scan (splitComment e.raw).1).items ≠ []) :
    e.withKeywords kws = { e with keywords := kws, raw := (rewrittenItems (scan (splitComment e.raw).1) kws).render
      ++ (splitComment e.raw).2 } := by
  unfold Entry.withKeywords rewrittenItems
  simp only [hp]
  cases hi : (scan (splitComment e.raw).1).items with
  | nil => exact absurd hi hne
  | cons it0 rest =>
    obtain ⟨ws0, t0⟩ := it0
    cases rest with
    | nil => simp [render_kwItems]
    | cons it1 rest1 =>
      obtain ⟨ws1, t1⟩ := it1
      cases kws with
      | nil => simp [Segs.render, joinSp]
      | cons k ks => simp [render_kwItems]

theorem withKeywords_noop (e : Entry α) (kws : List Str)
    (h : e.pkg = none ∨ (scan (splitComment e.raw).1).items = []) : e.withKeywords kws = e := by
  unfold Entry.withKeywords
  cases hp : e.pkg with
  | none => rfl
  | some pkg =>
    rcases h with h | h
    · rw [hp] at h; cases h
    · simp only [h]

theorem withKeywords_keywords (e : Entry α) (pkg : α) (hp : e.pkg = some pkg) (kws : List Str)
    (hne : (scan (splitComment e.raw).1).items ≠ []) : (e.withKeywords kws).keywords = kws := by
  rw [withKeywords_eq e pkg hp kws hne]

theorem mem_kwItems {sep : Str} {kws : List Str} {it : Str × Str} (h : it ∈ kwItems sep kws) :
    (it.1 = sep ∨ it.1 = [' ']) ∧ it.2 ∈ kws := by
  cases kws with
  | nil => cases h
  | cons k ks =>
    simp only [kwItems, List.mem_cons, List.mem_map] at h
    rcases h with rfl | ⟨k', hk', rfl⟩
    · exact ⟨Or.inl rfl, List.mem_cons_self⟩
    · exact ⟨Or.inr rfl, List.mem_cons_of_mem _ hk'⟩

theorem kwItems_map_snd (sep : Str) (kws : List Str) : (kwItems sep kws).map (·.2) = kws := by
  cases kws with
  | nil => rfl
  | cons k ks => simp [kwItems, Function.comp_def]

/-- every shape a rewritten line can have: the first item kept, the keywords after `sep`, padding before the tail -/
theorem lay_kwItems {ws0 t0 trail c : Str} {rest : List (Str × Str)} (h : Lay ⟨(ws0, t0) :: rest, trail⟩ c)
    {sep pad : Str} (hsep : Blank sep) (hne : sep ≠ []) (hpad : Blank pad) {kws : List Str}
    (hk : ∀ k ∈ kws, Tok k) :
    Lay ⟨(ws0, t0) :: kwItems sep kws, pad ++ trail⟩ c := by
  have hws : ∀ it ∈ kwItems sep kws, Blank it.1 ∧ it.1 ≠ [] := fun it hit => by
    rcases (mem_kwItems hit).1 with e | e <;> rw [e]
    · exact ⟨hsep, hne⟩
    · exact ⟨blank_space, List.cons_ne_nil _ _⟩
  have htok := fun it hit => hk _ (mem_kwItems (sep := sep) (it := it) hit).2
  refine ⟨⟨List.forall_mem_cons.2 ⟨h.wf.ws _ List.mem_cons_self, fun it hit => (hws it hit).1⟩,
      List.forall_mem_cons.2
        ⟨h.wf.tok _ List.mem_cons_self, fun it hit => ⟨(htok it hit).1, (htok it hit).2.1⟩⟩,
      fun it hit => (hws it hit).2, blank_append hpad h.wf.trail⟩,
    List.forall_mem_cons.2 ⟨h.heads _ List.mem_cons_self, fun it hit => (htok it hit).2.2⟩,
    -- a comment stood after a non-empty tail, and the tail is kept
    h.comment.imp_right fun hc => ⟨hc.1, fun _ e => hc.2 (List.cons_ne_nil _ _) (List.append_eq_nil_iff.1 e).2⟩⟩

theorem rewrittenItems_lay {s : Segs} {c : Str} (h : Lay s c) {kws : List Str} (hk : ∀ k ∈ kws, Tok k) :
    Lay (rewrittenItems s kws) c := by
  obtain ⟨items, trail⟩ := s
  match items, h with
  | [], h => exact h
  | [(ws0, t0)], h => exact lay_kwItems h blank_space (List.cons_ne_nil _ _) blank_nil hk
  | (ws0, t0) :: (ws1, t1) :: rest, h =>
    have h1 := h.wf.ws _ (List.mem_cons_of_mem _ List.mem_cons_self)
    cases kws with
    | nil =>
      -- nothing left to separate: the separator goes in front of the tail
      exact lay_kwItems (kws := []) h blank_space (List.cons_ne_nil _ _) h1 nofun
    | cons k ks => exact lay_kwItems h h1 (h.wf.sep _ List.mem_cons_self) blank_nil hk

theorem expandKeywords_eq_flatMap (suggested : List Str) (previous : Option (List Str)) (lineno n : Nat)
    (ks kws : List Str) (h : expandKeywords suggested previous lineno n ks = .ok kws) :
    kws = ks.flatMap (expandOne suggested (previous.getD [])) := by
  induction ks generalizing kws with
  | nil => cases h; rfl
  | cons k ks ih =>
    unfold expandKeywords at h
    rw [List.flatMap_cons, expandOne]
    split at h
    next h1 =>
      obtain ⟨r, hr, rfl⟩ := Except.map_eq_ok.1 h
      rw [if_pos h1, ih r hr]
    next h1 =>
      rw [if_neg h1]
      split at h
      next h2 =>
        rw [if_pos h2]
        cases previous with
        | none => cases h
        | some prev =>
          simp only at h
          split at h
          · cases h
          · obtain ⟨r, hr, rfl⟩ := Except.map_eq_ok.1 h
            rw [ih r hr]; rfl
      next h2 =>
        obtain ⟨r, hr, rfl⟩ := Except.map_eq_ok.1 h
        rw [if_neg h2, ih r hr]; rfl

theorem flatMap_expandOne_id (suggested previous : List Str) (ks : List Str)
    (h : ∀ k ∈ ks, isSentinel k = false) : ks.flatMap (expandOne suggested previous) = ks := by
  induction ks with
  | nil => rfl
  | cons k ks ih =>
    have hk := h k List.mem_cons_self
    simp only [isSentinel, Bool.or_eq_false_iff, decide_eq_false_iff_not] at hk
    simp [expandOne, hk.1, hk.2, ih (fun k' hk' => h k' (List.mem_cons_of_mem _ hk'))]

theorem expandKeywords_changed (suggested : List Str) (previous : Option (List Str)) (lineno n : Nat)
    (ks kws : List Str) (h : expandKeywords suggested previous lineno n ks = .ok kws) (hne : kws ≠ ks) :
    ∃ k ∈ ks, isSentinel k = true := by
  cases hany : ks.any isSentinel with
  | true => exact List.any_eq_true.1 hany
  | false =>
    refine absurd ?_ hne
    rw [expandKeywords_eq_flatMap _ _ _ _ _ _ h, flatMap_expandOne_id]
    exact fun k hk => Bool.eq_false_iff.2 (List.any_eq_false.1 hany k hk)

/-- one turn of the loop of `expand`: what becomes of the first entry, and the `previous` the loop goes on with -/
theorem expandLoop_cons (suggest : α → List Str) (previous : Option (List Str)) (e : Entry α)
    (es es' : List (Entry α)) (ch : Bool) (h : expandLoop suggest previous (e :: es) = .ok (es', ch)) :
    ∃ e' r ch' prev', es' = e' :: r ∧ expandLoop suggest prev' es = .ok (r, ch') ∧
      (ch = false → ch' = false ∧ e' = e) ∧
      ((e.pkg = none ∧ prev' = previous ∧ e' = e) ∨
       ∃ pkg kws, e.pkg = some pkg ∧
         expandKeywords (suggest pkg) previous e.lineno e.keywords.length e.keywords = .ok kws ∧ prev' = some kws ∧
         ((kws = e.keywords ∧ e' = e) ∨ (kws ≠ e.keywords ∧ e' = e.withKeywords kws))) := by
  rw [expandLoop] at h
  split at h
  next hpkg =>
    obtain ⟨r, hr, hrr⟩ := Except.map_eq_ok.1 h
    cases hrr
    exact ⟨e, r.1, r.2, previous, rfl, hr, fun hc => ⟨hc, rfl⟩, Or.inl ⟨hpkg, rfl, rfl⟩⟩
  next pkg hpkg =>
    split at h
    · cases h
    next kws hk =>
      split at h
      next hne =>
        obtain ⟨r, hr, hrr⟩ := Except.map_eq_ok.1 h
        cases hrr
        exact ⟨_, r.1, r.2, some kws, rfl, hr, nofun, Or.inr ⟨pkg, kws, hpkg, hk, rfl, Or.inr ⟨hne, rfl⟩⟩⟩
      next heq =>
        obtain ⟨r, hr, hrr⟩ := Except.map_eq_ok.1 h
        cases hrr
        exact ⟨e, r.1, r.2, some kws, rfl, hr, fun hc => ⟨hc, rfl⟩,
          Or.inr ⟨pkg, kws, hpkg, hk, rfl, Or.inl ⟨Decidable.not_not.1 heq, rfl⟩⟩⟩

/-- `hparsed`: the first half of `parseLines_parsed` -/
theorem expandLoop_touched (suggest : α → List Str) (previous : Option (List Str)) (es es' : List (Entry α))
    (ch : Bool) (hparsed : ∀ e ∈ es, e.pkg ≠ none → (scan (splitComment e.raw).1).items ≠ [])
    (h : expandLoop suggest previous es = .ok (es', ch)) :
    Forall2 Touched es es' ∧ (ch = false → es' = es) := by
  induction es generalizing previous es' ch with
  | nil => simp only [expandLoop] at h; cases h; exact ⟨Forall2.nil, fun _ => rfl⟩
  | cons e es ih =>
    obtain ⟨e', r, ch', prev', rfl, hr, hch, hstep⟩ := expandLoop_cons suggest previous e es es' ch h
    obtain ⟨h1, h2⟩ := ih prev' r ch' (fun e' he' => hparsed e' (List.mem_cons_of_mem _ he')) hr
    refine ⟨Forall2.cons ?_ h1, fun hc => by rw [(hch hc).2, h2 (hch hc).1]⟩
    rcases hstep with ⟨_, _, rfl⟩ | ⟨pkg, kws, hpkg, hk, _, ⟨_, rfl⟩ | ⟨hne, rfl⟩⟩
    · exact Or.inl rfl
    · exact Or.inl rfl
    · have hpne : e.pkg ≠ none := by rw [hpkg]; nofun
      have hkw := withKeywords_keywords e pkg hpkg kws (hparsed e List.mem_cons_self hpne)
      exact Or.inr ⟨hpne, expandKeywords_changed _ _ _ _ _ _ hk hne, by rw [hkw]; exact hne, by rw [hkw]⟩

theorem tok_NO : Tok NO := ⟨by decide, by decide, by decide⟩

theorem expandKeywords_tok (suggested : List Str) (previous : Option (List Str)) (lineno n : Nat)
    (ks kws : List Str) (h : expandKeywords suggested previous lineno n ks = .ok kws)
    (hs : ∀ k ∈ suggested, Tok k) (hp : ∀ prev, previous = some prev → ∀ k ∈ prev, Tok k)
    (hk : ∀ k ∈ ks, Tok k) :
    ∀ k ∈ kws, Tok k := by
  rw [expandKeywords_eq_flatMap _ _ _ _ _ _ h]
  intro k hk'
  obtain ⟨k0, hk0, hmem⟩ := List.mem_flatMap.1 hk'
  unfold expandOne at hmem
  split at hmem
  · split at hmem
    · simp only [List.mem_cons, List.not_mem_nil, or_false] at hmem; subst hmem; exact tok_NO
    · exact hs k hmem
  · split at hmem
    · cases previous with
      | none => cases hmem
      | some prev => exact hp prev rfl k hmem
    · simp only [List.mem_cons, List.not_mem_nil, or_false] at hmem; rw [hmem]; exact hk k0 hk0

/-- `hk`, `hparsed`: the two halves of `parseLines_parsed` -/
theorem expandLoop_tok (suggest : α → List Str) (previous : Option (List Str)) (es es' : List (Entry α)) (ch : Bool)
    (hs : ∀ pkg, ∀ k ∈ suggest pkg, Tok k) (hp : ∀ prev, previous = some prev → ∀ k ∈ prev, Tok k)
    (hk : ∀ e ∈ es, ∀ k ∈ e.keywords, Tok k)
    (hparsed : ∀ e ∈ es, e.pkg ≠ none → (scan (splitComment e.raw).1).items ≠ [])
    (h : expandLoop suggest previous es = .ok (es', ch)) : ∀ e' ∈ es', ∀ k ∈ e'.keywords, Tok k := by
  induction es generalizing previous es' ch with
  | nil => simp only [expandLoop] at h; cases h; nofun
  | cons e es ih =>
    obtain ⟨e', r, ch', prev', rfl, hr, -, hstep⟩ := expandLoop_cons suggest previous e es es' ch h
    have hk0 := hk e List.mem_cons_self
    have ih' := fun hp' => ih prev' r ch' hp' (fun e' he' => hk e' (List.mem_cons_of_mem _ he'))
      (fun e' he' => hparsed e' (List.mem_cons_of_mem _ he')) hr
    rcases hstep with ⟨_, rfl, rfl⟩ | ⟨pkg, kws, hpkg, hkw, rfl, hcase⟩
    · exact List.forall_mem_cons.2 ⟨hk0, ih' hp⟩
    · have htok := expandKeywords_tok _ _ _ _ _ _ hkw (hs pkg) hp hk0
      refine List.forall_mem_cons.2 ⟨?_, ih' fun prev hprev => by cases hprev; exact htok⟩
      rcases hcase with ⟨_, rfl⟩ | ⟨_, rfl⟩
      · exact hk0
      · rw [withKeywords_keywords e pkg hpkg kws (hparsed e List.mem_cons_self (by rw [hpkg]; nofun))]
        exact htok

def BreakFree (l : Str) : Prop := ∀ c ∈ l, isBreak c = false

theorem splitLines_breakFree_append (l r : Str) (h : BreakFree l) :
    splitLines (l ++ r) = match splitLines r with
      | [] => if l = [] then [] else [l]
      | x :: xs => (l ++ x) :: xs := by
  induction l with
  | nil => cases hr : splitLines r <;> simp [hr]
  | cons c cs ih =>
    have hc : isBreak c = false := h c List.mem_cons_self
    have ih' := ih (fun x hx => h x (List.mem_cons_of_mem _ hx))
    simp only [List.cons_append]
    rw [splitLines, ih']
    cases hr : splitLines r with
    | nil =>
      by_cases hcs : cs = []
      · subst hcs; simp
      · simp [hcs, hc]
    | cons x xs => simp [hc]

theorem nl_is_break : isBreak '\n' = true := by decide

theorem splitLines_nl (r : Str) : splitLines ('\n' :: r) = ['\n'] :: splitLines r := by
  rw [splitLines]
  cases hr : splitLines r with
  | nil => rfl
  | cons l ls =>
    simp [nl_is_break]

/-- the lines `"\n".join(lines)` splits into -/
def nlLines : List Str → List Str
  | [] => []
  | [l] => [l]
  | l :: ls => (l ++ ['\n']) :: nlLines ls

theorem splitLines_joinNl (lines : List Str) (h : ∀ l ∈ lines, l ≠ [] ∧ BreakFree l) :
    splitLines (joinNl lines) = nlLines lines := by
  induction lines with
  | nil => rfl
  | cons l ls ih =>
    have hl := h l List.mem_cons_self
    have ih' := ih (fun x hx => h x (List.mem_cons_of_mem _ hx))
    cases ls with
    | nil =>
      have := splitLines_breakFree_append l [] hl.2
      simp only [List.append_nil] at this
      simp [joinNl, nlLines, this, splitLines, hl.1]
    | cons l2 ls2 =>
      simp only [joinNl, nlLines]
      rw [splitLines_breakFree_append l _ hl.2, splitLines_nl, ih']

theorem joinSp_eq_render (spec : Str) (kws : List Str) :
    joinSp (spec :: kws) = Segs.render ⟨([], spec) :: kwItems [' '] kws, []⟩ := by
  rw [render_kwItems]
  cases kws <;> simp [joinSp]

theorem built_line_lay (spec : Str) (kws : List Str) (hs : Tok spec) (hk : ∀ k ∈ kws, Tok k) :
    Lay ⟨([], spec) :: kwItems [' '] kws, []⟩ [] :=
  lay_kwItems (rest := []) (pad := [])
    ⟨Segs.wf_cons.2 ⟨blank_nil, ⟨hs.1, hs.2.1⟩, nofun, Segs.wf_nil.2 blank_nil⟩,
      fun _ hit => List.mem_singleton.1 hit ▸ hs.2.2, Or.inl rfl⟩
    blank_space (List.cons_ne_nil _ _) blank_nil hk

theorem joinSp_last_nonspace (spec : Str) (kws : List Str) (hs : Tok spec) (hk : ∀ k ∈ kws, Tok k) :
    ∃ c, (joinSp (spec :: kws)).getLast? = some c ∧ isSpace c = false := by
  rw [joinSp_eq_render]
  exact render_last_nonspace _ (built_line_lay spec kws hs hk).wf (List.cons_ne_nil _ _) rfl

theorem break_is_space (c : Char) (h : isBreak c = true) : isSpace c = true := by
  have key : ∀ n ∈ Generated.C38.breakTable, n ∈ Generated.C38.spaceTable := by decide
  simp only [isBreak, isSpace, List.contains_eq_mem, decide_eq_true_eq] at *
  exact key _ h

theorem joinSp_breakFree (toks : List Str) (h : ∀ t ∈ toks, ∀ c ∈ t, isSpace c = false) :
    BreakFree (joinSp toks) := by
  intro c hc
  rw [joinSp_eq_core] at hc
  rcases Lib.mem_intercalate ' ' hc with rfl | ⟨t, ht, hct⟩
  · decide
  · cases hb : isBreak c with
    | false => rfl
    | true => exact absurd (break_is_space c hb) (by rw [h t ht c hct]; nofun)

theorem isCRLF_space (c : Char) (h : isCRLF c = true) : isSpace c = true := by
  simp only [isCRLF, Bool.or_eq_true, decide_eq_true_eq] at h
  rcases h with rfl | rfl <;> decide

theorem rstrip_of_last (p : Char → Bool) (s : Str) (c : Char) (hl : s.getLast? = some c) (hc : p c = false) :
    rstrip p s = s := by
  obtain ⟨ys, rfl⟩ := List.getLast?_eq_some_iff.1 hl
  exact Lib.rstrip_concat ys hc

theorem rstrip_append_one (p : Char → Bool) (s : Str) (c d : Char) (hl : s.getLast? = some c) (hc : p c = false)
    (hd : p d = true) : rstrip p (s ++ [d]) = s := by
  unfold rstrip
  simp only [List.reverse_append, List.reverse_cons, List.reverse_nil, List.nil_append, List.cons_append,
    List.dropWhile_cons, hd, if_true]
  exact rstrip_of_last p s c hl hc

theorem parseLine_built (parseAtom : Str → Option α) (n : Nat) (spec : Str) (kws : List Str) (pkg : α)
    (hs : Tok spec) (hk : ∀ k ∈ kws, Tok k) (hp : parseAtom spec = some pkg) (eol : Str)
    (heol : eol = [] ∨ eol = ['\n']) :
    parseLine parseAtom n (joinSp (spec :: kws) ++ eol)
      = some ⟨n, joinSp (spec :: kws), some pkg, kws, [], eol⟩ := by
  obtain ⟨c, hc1, hc2⟩ := joinSp_last_nonspace spec kws hs hk
  have hcrlf : isCRLF c = false := by
    cases h : isCRLF c with
    | false => rfl
    | true => rw [isCRLF_space c h] at hc2; cases hc2
  have hraw : rstrip isCRLF (joinSp (spec :: kws) ++ eol) = joinSp (spec :: kws) := by
    rcases heol with rfl | rfl
    · rw [List.append_nil]; exact rstrip_of_last _ _ c hc1 hcrlf
    · exact rstrip_append_one _ _ c '\n' hc1 hcrlf (by decide)
  obtain ⟨hsc, hscan⟩ := lay_iff.2 ⟨(List.append_nil _).symm, built_line_lay spec kws hs hk⟩
  rw [← joinSp_eq_render] at hsc hscan
  have htok : tokens (joinSp (spec :: kws)) = spec :: kws := by
    rw [tokens, hscan]
    simp [kwItems_map_snd]
  unfold parseLine
  simp only [hraw, hsc, List.isEmpty_nil, if_true, htok, hp, List.drop_left]

theorem nlLines_cons (l : Str) (ls : List Str) :
    ∃ eol, (eol = [] ∨ eol = ['\n']) ∧ nlLines (l :: ls) = (l ++ eol) :: nlLines ls := by
  cases ls with
  | nil => exact ⟨[], Or.inl rfl, by rw [List.append_nil]; rfl⟩
  | cons l2 ls2 => exact ⟨['\n'], Or.inr rfl, rfl⟩

theorem parseLines_built (parseAtom : Str → Option α) (strAtom : α → Str) (n : Nat) (ents : List (α × List Str))
    (hatom : ∀ e ∈ ents, Tok (strAtom e.1) ∧ parseAtom (strAtom e.1) = some e.1)
    (hk : ∀ e ∈ ents, ∀ k ∈ e.2, Tok k) :
    ∃ es, parseLines parseAtom n (nlLines (ents.map fun e => joinSp (strAtom e.1 :: e.2))) = .ok es ∧
      es.map (fun e => (e.pkg, e.keywords, e.comment)) = ents.map (fun e => (some e.1, e.2, [])) := by
  induction ents generalizing n with
  | nil => exact ⟨[], rfl, rfl⟩
  | cons e rest ih =>
    obtain ⟨es, hes, hmap⟩ := ih (n + 1) (fun x hx => hatom x (List.mem_cons_of_mem _ hx))
      (fun x hx => hk x (List.mem_cons_of_mem _ hx))
    have hae := hatom e List.mem_cons_self
    obtain ⟨eol, heol, hnl⟩ :=
      nlLines_cons (joinSp (strAtom e.1 :: e.2)) (rest.map fun e => joinSp (strAtom e.1 :: e.2))
    have hl := parseLine_built parseAtom n (strAtom e.1) e.2 e.1 hae.1 (hk e List.mem_cons_self) hae.2 eol heol
    exact ⟨_ :: es, by rw [List.map_cons, hnl, parseLines, hl, hes]; rfl, by rw [List.map_cons, hmap]; rfl⟩

end Pkgcore.C38
