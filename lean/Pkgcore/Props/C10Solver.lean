import Pkgcore.Proofs.C10Solver
import Pkgcore.Proofs.C10Problem
import Pkgcore.Props.C10
/-!
# C10 — the REQUIRED_USE solver without the solver contract

Property theorems about the faithful model of `snakeoil.constraints.Problem` (`Model/C10Solver.lean`: `_Domain` with
its hidden-value and state stacks, `__check` with forward checking, the degree/MRV variable choice, the backtracking
search of `__solve`, the one-variable preprocessing of `__iter__`), for **every** problem: any variables, any domains
(ordered lists), any constraints (variables + predicate).  `WF` is what `add_variable`/`add_constraint` assert.
Then C10's solver-dependent theorems again, for `solveFaithful` (the real construction of
`find_constraint_satisfaction` run on the solver model) — no contract hypothesis —, and the contract itself:
`solveFaithful` is a permutation of C10's `solve` (`faithful_perm_contract`).
-/
namespace Pkgcore.C10.Solver
variable {Var Val : Type} [DecidableEq Var] [DecidableEq Val]

/-- **Forward checking is sound**: a value that `__check` removes from the visible domain of `y` has no consistent
extension — every total assignment that contains the current assignments and gives `y` that value violates the checked
constraint.  (This is what makes the pruning search complete.) -/
theorem forward_check_sound (c : Constraint Var Val) (asg : Asg Var Val) (st : Store Var Val) (y : Var)
    (d d' : Dom Val) (w : Val) (hl : st.lookup y = some d) (hl' : (check c asg st).2.lookup y = some d')
    (hw : w ∈ d.vis) (hw' : w ∉ d'.vis) (a : Var → Val) (hag : Agrees asg a) (hy : a y = w) :
    c.pred (restr c.scope a) = false := by
  rcases check_cases c asg st with ⟨_, h⟩ | ⟨_, h⟩ | ⟨y0, d0, hf, hl0, _, h⟩
  · rw [h, hl] at hl'; exact absurd (Option.some.inj hl' ▸ hw) hw'
  · rw [h, hl] at hl'; exact absurd (Option.some.inj hl' ▸ hw) hw'
  · rw [h y] at hl'
    split at hl'
    · next hyy =>
      subst hyy hy
      rw [← Option.some.inj hl', fcDom, List.mem_filter, not_and, Bool.not_eq_true] at hw'
      rw [hl] at hl0
      rw [← known_of_agrees_one hf hag]
      exact hw' (Option.some.inj hl0 ▸ hw)
    · rw [hl] at hl'; exact absurd (Option.some.inj hl' ▸ hw) hw'

/-- a value forward checking hides did violate the constraint, together with assigned values only: `asg = [x ↦ 1]`,
constraint `x ≠ y` — `1` leaves the domain `[0, 1]` of `y`, `0` stays -/
example :
    let c : Constraint Nat Nat := ⟨[0, 1], fun kw => kw 0 != kw 1⟩
    ((check c [(0, 1)] [(0, { vis := [0, 1] }), (1, { vis := [0, 1] })]).2.lookup 1).map (·.vis) = some [0] := by
  decide +kernel

/-- **Sound**: every yielded assignment gives each variable a value of its domain and satisfies every constraint
(that has at least one variable — a constraint without variables is never called by the solver). -/
theorem solver_sound (P : Problem Var Val) (hwf : P.WF) (s : Asg Var Val) (hs : s ∈ solve P) :
    (∀ e ∈ P.vars, ∃ v, s.lookup e.1 = some v ∧ v ∈ e.2) ∧
    (∀ c ∈ P.cons, c.scope ≠ [] → c.pred (known c.scope s) = true) := by
  rw [solve_eq] at hs
  split at hs
  · simp at hs
  · -- the search starts with nothing assigned, from the domains `P.domain` (those given, filtered by `unaryOk`)
    obtain ⟨hpost, htotal⟩ := sound_solveRec P.domain P.keys _ _ []
      (fun x d hl w hw => by obtain ⟨_, _, _, hvis⟩ := start_lookup hl; rwa [← hvis])
      ⟨fun x v hl => by simp at hl,
       fun c _ hne hf => absurd ((List.filter_eq_self.mpr fun _ _ => rfl).symm.trans hf) hne⟩
      (start_keys P) s hs
    have hval : ∀ x ∈ P.keys, ∃ v, s.lookup x = some v ∧ v ∈ P.domain x := by
      intro x hx
      obtain ⟨v, hv⟩ := (unassigned_false_iff s x).mp (htotal x hx)
      exact ⟨v, hv, hpost.val x v hv⟩
    constructor
    · intro e he
      obtain ⟨v, hv, hd⟩ := hval e.1 (List.mem_map.mpr ⟨e, he, rfl⟩)
      rw [Problem.domain, Lib.lookup_eq_some_of_mem hwf.keysNodup he] at hd
      exact ⟨v, hv, (List.mem_filter.mp hd).1⟩
    · intro c hc hne
      by_cases hlen : c.scope.length = 1
      · -- a constraint over one variable `x` was taken out by `preprocess`: its verdict on the value `v` of `x` sits in
        -- `unaryOk`, and there as in `known c.scope s` the predicate is given `v` at `x` and nothing else
        obtain ⟨x, hx⟩ := List.length_eq_one_iff.mp hlen
        obtain ⟨v, hv, hd⟩ := hval x (hwf.scopes c hc x (by simp [hx]))
        have := List.all_eq_true.mp (List.mem_filter.mp hd).2 c hc
        rw [decide_eq_true hx, Bool.not_true, Bool.false_or,
          known_singleton hx (a := fun _ => v) List.lookup_cons_self] at this
        rw [known_singleton hx (a := fun _ => v) hv, this]
      · -- any other constraint the search kept and checked
        apply hpost.sat c _ hne
          (List.filter_eq_nil_iff.mpr fun x hx => by simp [htotal x (hwf.scopes c hc x hx)])
        rw [Problem.start, preprocess_fst, List.mem_filter]
        exact ⟨hc, by simpa using hlen⟩

/-- the worked problem is well formed and has six solutions; the search branches on x₁ first (two constraints), tries
`2` (nothing), then `1`, then `0` -/
example : exampleProblem.WF := ⟨by decide +kernel, by decide +kernel⟩
example : solve exampleProblem =
    [[(0, 2), (2, 2), (1, 1)], [(0, 0), (2, 2), (1, 1)], [(2, 1), (0, 1), (1, 0)], [(2, 2), (0, 1), (1, 0)],
     [(2, 1), (0, 2), (1, 0)], [(2, 2), (0, 2), (1, 0)]] := by decide +kernel

/-- a constraint without variables is ignored by the solver (it sits in no `vconstraints` list): the false constraint
over no variables does not stop the solution from being yielded -/
theorem solver_sound_counterexample :
    solve ({ vars := [(0, [7])], cons := [⟨[], fun _ => false⟩], lt := fun a b => decide (a < b) } : Problem Nat Nat)
      = [[(0, 7)]] := by decide +kernel

/-- **Complete**: every assignment of domain values that satisfies all constraints is yielded. -/
theorem solver_complete (P : Problem Var Val) (hwf : P.WF) (a : Var → Val) (hsol : P.Sol a) :
    ∃ s ∈ solve P, P.Is s a := by
  obtain ⟨e, h⟩ := Follows.start qok_mem hwf hsol.dom hsol.sat
  rw [e]
  exact complete_solveRec P.keys _ _ _ h

example : exampleProblem.Sol (fun x => if x = 1 then 0 else 2) := ⟨by decide +kernel, by decide +kernel⟩

/-- **No duplicates**: when the domains list no value twice, no two yielded dicts are equal (they differ on some
variable of the problem). -/
theorem solver_nodup (P : Problem Var Val) (hdn : ∀ e ∈ P.vars, e.2.Nodup) :
    (solve P).Pairwise (Distinct P.keys) := by
  rw [solve_eq]
  split
  · exact List.Pairwise.nil
  · refine nodup_solveRec P.keys _ _ [] (fun x d hl => ?_) (start_keys P)
    obtain ⟨dom, hm, hd, hvis⟩ := start_lookup hl
    rw [hvis, hd]
    exact List.Pairwise.filter _ (hdn _ hm)

example : ∀ e ∈ exampleProblem.vars, e.2.Nodup := by decide +kernel

/-- **Order of the enumeration**: the solver branches first on `firstVar` (most constraints, then fewest values, then
smallest name) and tries the values of its domain from the END of the list: the solutions come in consecutive blocks,
one per value of that domain taken in reverse order, and every solution of a block gives the variable that value. -/
theorem solver_order (P : Problem Var Val) (var : Var) (hv : P.firstVar = some var) :
    ∃ blocks : List (List (Asg Var Val)), solve P = blocks.flatten ∧
      Blocks (fun v s => s.lookup var = some v) (P.domain var).reverse blocks := by
  obtain ⟨_, d, hd⟩ := selectVar_some (show selectVar P.lt P.start.1 [] P.start.2 = some var from hv)
  obtain ⟨_, _, _, hvis⟩ := start_lookup hd
  rw [solve_eq]
  split
  · exact ⟨_, List.flatten_replicate_nil.symm, blocks_empty _ _⟩
  · cases hlen : P.start.2.length with
    | zero => rw [List.eq_nil_of_length_eq_zero hlen] at hd; simp at hd
    | succ n =>
      unfold solveRec
      simp only [show selectVar P.lt P.start.1 [] P.start.2 = some var from hv, hd]
      obtain ⟨bs, h1, h2⟩ := order_tryValues _ (ext_solveRec n) P.start.1 var [] d.vis.reverse P.start.2
      rw [hvis] at h2
      exact ⟨bs, h1, h2.imp fun v s h => h var v List.lookup_cons_self⟩

example : exampleProblem.firstVar = some 1 ∧ exampleProblem.domain 1 = [0, 1, 2] ∧
    (solve exampleProblem).map (·.lookup 1) = [some 1, some 1, some 0, some 0, some 0, some 0] := by decide +kernel

/-- **Preferred first**: when the assignment made of the LAST value of every domain satisfies all constraints, it is
the first one yielded. -/
theorem solver_preferred_first (P : Problem Var Val) (hwf : P.WF) (a : Var → Val)
    (hlast : ∀ e ∈ P.vars, e.2.getLast? = some (a e.1)) (hsat : ∀ c ∈ P.cons, c.pred (restr c.scope a) = true) :
    ∃ s, (solve P).head? = some s ∧ P.Is s a := by
  obtain ⟨e, h⟩ := Follows.start qok_last hwf hlast hsat
  rw [e]
  exact first_solveRec P.keys _ _ _ h

example : exampleProblem2.WF ∧ (∀ e ∈ exampleProblem2.vars, e.2.getLast? = some ((fun x => if x = 0 then 1 else 0) e.1)) ∧
    (∀ c ∈ exampleProblem2.cons, c.pred (restr c.scope (fun x => if x = 0 then 1 else 0)) = true) ∧
    solve exampleProblem2 = [[(1, 0), (0, 1)], [(1, 1), (0, 0)]] :=
  ⟨⟨by decide +kernel, by decide +kernel⟩, by decide +kernel, by decide +kernel, by decide +kernel⟩

end Pkgcore.C10.Solver

namespace Pkgcore.C10
open Pkgcore.C09 Pkgcore.C10.Spec

/-- the value `render` lists for a variable is the one the yielded dict gives it, and a value of its domain -/
theorem solve_problem_val {inp : Inputs} {ts : List Dep} {s : Solver.Asg Tok Bool}
    (hs : s ∈ Solver.solve (problem inp ts)) {v : Tok} (hv : v ∈ variables inp ts) :
    Solver.getVal s v = some ((Solver.getVal s v).getD false) ∧ (Solver.getVal s v).getD false ∈ domainOf inp v := by
  obtain ⟨b, hb, hd⟩ := (Solver.solver_sound _ (problem_wf inp ts) s hs).1 (v, domainOf inp v)
    (List.mem_map.mpr ⟨v, hv, rfl⟩)
  rw [Solver.getVal, hb]
  exact ⟨rfl, hd⟩

/-- **Exactly the solutions** (no contract): for a structure without empty groups, the assignments
`find_constraint_satisfaction` yields through the real solver's search are exactly the assignments of domain values
that satisfy every compiled constraint.  (Right to left needs no guard.) -/
theorem solutions_exact_faithful (inp : Inputs) (ts : List Dep) (hne : nonEmptyL ts = true) (al : List (Tok × Bool)) :
    al ∈ solveFaithful inp ts ↔
      (inProd al ((variables inp ts).map fun v => (v, domainOf inp v)) = true ∧
       (compiled ts).all (·.eval (onOf al)) = true) := by
  constructor
  · intro h
    obtain ⟨s, hs, rfl⟩ := List.mem_map.mp h
    have h2 := (Solver.solver_sound (problem inp ts) (problem_wf inp ts) s hs).2
    refine ⟨(inProd_map (domainOf inp) _ _).mpr fun v hv => (solve_problem_val hs hv).2, ?_⟩
    rw [List.all_eq_true]
    intro mc hmc
    have hsub := compiled_flags_sub inp hmc
    have := h2 mc.toConstraint (List.mem_map.mpr ⟨mc, hmc, rfl⟩) (compiled_flags_ne_nil ts hne mc hmc)
    rw [show mc.toConstraint.scope = mc.flags from rfl,
      Solver.known_eq_restr fun x hx => (solve_problem_val hs (hsub x hx)).1, toConstraint_pred mc _ _ hsub] at this
    rw [render, onOf_map]; exact this
  · rintro ⟨hin, hall⟩
    have hshape := inProd_shape (domainOf inp) _ al (dedup_nodup _) hin
    rw [hshape] at hin hall
    rw [onOf_map] at hall
    obtain ⟨s, hs, his⟩ := Solver.solver_complete (problem inp ts) (problem_wf inp ts) _
      ⟨fun e he => by
        obtain ⟨v, hv, rfl⟩ := List.mem_map.mp he
        exact (inProd_map (domainOf inp) _ _).mp hin v hv, problem_sat hall⟩
    exact List.mem_map.mpr ⟨s, hs, (render_of_is inp ts s _ his).trans hshape.symm⟩

/-- `^^ ( a b ) c? ( a )` has no empty group -/
example : nonEmptyL [.grp .justOne [.leaf ['a'] none, .leaf ['b'] none], .cond false ['c'] [.leaf ['a'] none]] = true := by
  decide +kernel

/-- `|| ( )` (an empty group, which the parser never builds) compiles to a constraint without variables; the real solver
never calls such a constraint, so the false rule does not stop the (empty) assignment from being yielded -/
theorem solutions_exact_faithful_counterexample :
    solveFaithful ⟨[], [], [], []⟩ [.grp .or []] = [[]] ∧ (compiled [.grp .or []]).all (·.eval (onOf [])) = false := by
  decide +kernel

/-- **Sound** (no contract): every assignment yielded by the modelled solver satisfies the compiled constraints, hence
(guard) the REQUIRED_USE. -/
theorem solutions_sound_faithful (inp : Inputs) (ts : List Dep) (hne : nonEmptyL ts = true) (a : List (Tok × Bool))
    (ha : a ∈ solveFaithful inp ts) :
    (compiled ts).all (·.eval (onOf a)) = true ∧ (choiceCondFreeL ts = true → evalRU ts (onOf a) = true) := by
  have h := ((solutions_exact_faithful inp ts hne a).mp ha).2
  exact ⟨h, fun hg => by rw [← compile_equiv_partial ts _ hg hne]; exact h⟩

/-- **Complete** (no contract): every assignment that gives each variable a value of its domain and satisfies the
REQUIRED_USE (guard) is yielded by the modelled solver. -/
theorem solutions_complete_faithful (inp : Inputs) (ts : List Dep) (a : List (Tok × Bool))
    (hdom : inProd a ((variables inp ts).map fun v => (v, domainOf inp v)) = true)
    (hg : choiceCondFreeL ts = true) (hne : nonEmptyL ts = true) (hsat : evalRU ts (onOf a) = true) :
    a ∈ solveFaithful inp ts :=
  (solutions_exact_faithful inp ts hne a).mpr ⟨hdom, by rw [compile_equiv_partial ts _ hg hne]; exact hsat⟩

/-- **Exactly once** (no contract). -/
theorem solutions_nodup_faithful (inp : Inputs) (ts : List Dep) : (solveFaithful inp ts).Nodup := by
  have hp := Solver.solver_nodup (problem inp ts) fun e he => by
    obtain ⟨v, _, rfl⟩ := List.mem_map.mp he
    exact domainOf_nodup inp v
  rw [solveFaithful, List.Nodup, List.pairwise_map]
  refine hp.imp_of_mem fun {s t} hs ht ⟨x, hx, hne⟩ heq => ?_
  rw [problem_keys] at hx
  have e := (Prod.mk.inj (List.map_inj_left.mp heq x hx)).2
  exact hne ((solve_problem_val hs hx).1.trans (e ▸ (solve_problem_val ht hx).1.symm))

/-- **Preference first** (no contract): when the preferred assignment (forced flags as forced, preferred flags on,
every other flag off) satisfies the constraints, it is the first assignment the modelled solver yields. -/
theorem preferred_first_faithful (inp : Inputs) (ts : List Dep)
    (h : (compiled ts).all (·.eval (onOf (preferred inp (variables inp ts)))) = true) :
    (solveFaithful inp ts).head? = some (preferred inp (variables inp ts)) := by
  have hpref : preferred inp (variables inp ts)
      = (variables inp ts).map fun v => (v, (domainOf inp v).getLast?.getD false) := rfl
  rw [hpref, onOf_map] at h
  obtain ⟨s, hs, his⟩ := Solver.solver_preferred_first (problem inp ts) (problem_wf inp ts)
    (fun v => (domainOf inp v).getLast?.getD false)
    (fun e he => by
      obtain ⟨v, _, rfl⟩ := List.mem_map.mp he
      cases hl : (domainOf inp v).getLast? with
      | none => exact absurd (List.getLast?_eq_none_iff.mp hl) (domainOf_ne_nil inp v)
      | some b => rfl)
    (problem_sat h)
  rw [solveFaithful, List.head?_map, hs, Option.map_some, render_of_is inp ts s _ his, hpref]

/-- **Preference first, in the property's words** (no contract): when the assignment the property words — forced flags
as forced, preferred flags on, all others off, everything outside IUSE off (`preferredByWording`, which does not look
at the domains; `preferred_is_property_preference`) — satisfies the constraints, it is the first assignment the
modelled solver yields.  Hypothesis: no IUSE flag is forced both ways (the real call raises AssertionError then). -/
theorem preferred_first_faithful_property (inp : Inputs) (ts : List Dep)
    (hdis : ∀ f, f ∈ inp.iuse → f ∈ inp.forceT → f ∉ inp.forceF)
    (h : (compiled ts).all (·.eval (onOf (preferredByWording inp (variables inp ts)))) = true) :
    (solveFaithful inp ts).head? = some (preferredByWording inp (variables inp ts)) := by
  rw [← preferred_eq_wording inp _ hdis] at h ⊢
  exact preferred_first_faithful inp ts h

/-- `|| ( a b c d )`, IUSE a b c d, a forced on, b forced off, c preferred, d plain: a and c on comes first -/
example : ((solveFaithful ⟨[['a'], ['b'], ['c'], ['d']], [['a']], [['b']], [['c']]⟩
    [.grp .or [.leaf ['a'] none, .leaf ['b'] none, .leaf ['c'] none, .leaf ['d'] none]]).map onOf).head?
    = some [['a'], ['c']] := by decide +kernel

/-- **The contract is discharged**: on structures without empty groups the modelled solver yields the solutions of the
contract model `solve` (cartesian product filtered by the constraints), each once, possibly in another order. -/
theorem faithful_perm_contract (inp : Inputs) (ts : List Dep) (hne : nonEmptyL ts = true) :
    (solveFaithful inp ts).Perm (solve inp ts) := by
  rw [List.perm_ext_iff_of_nodup (solutions_nodup_faithful inp ts) (solutions_nodup inp ts)]
  intro al
  rw [solutions_exact_faithful inp ts hne al]
  unfold solve
  rw [List.mem_filter, mem_product]

/-- `^^ ( a b )`, IUSE a b, prefer b: the preferred solution (b alone) first, then a alone -/
example : (solveFaithful ⟨[['a'], ['b']], [], [], [['b']]⟩ [.grp .justOne [.leaf ['a'] none, .leaf ['b'] none]]).map onOf
    = [[['b']], [['a']]] := by decide +kernel

end Pkgcore.C10
