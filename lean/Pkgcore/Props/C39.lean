import Pkgcore.Proofs.C39
/-!
# C39 — bug update list changes compose like applying them in sequence

`ListChange.or` mirrors `ListChange.__or__` (as repaired in the repo worktree), `ListChange.toWire`
mirrors `to_wire`; `Spec.applyWire` is the reference Bugzilla list update; `BugUpdate.toWire`
mirrors `BugUpdate.to_wire`, `Spec.wire` is "ids, then exactly the fields that were set".
-/
namespace Pkgcore.C39
open Pkgcore.C39.Spec

variable {α β : Type} [DecidableEq α] [DecidableEq β]

/-- **`a | b` is `a` then `b`, or is refused.**  For all valid changes `a`, `b` (add / remove / set, any
values, duplicates allowed) and every current field value `l`: if `a | b` is not refused it is itself a
valid change, and applying its wire form under the reference Bugzilla semantics yields the same set of
values as applying `a`'s wire form and then `b`'s.  (`str` is the rendering of values on the wire.) -/
theorem or_is_sequential_or_refused (str : α → β) (hinj : ∀ x y, str x = str y → x = y)
    (a b c : ListChange α) (hb : b.valid = true) (hc : a.or b = some c) (l : List β) :
    c.valid = true ∧
      SameSet (applyWire (c.toWire str) l) (applyWire (b.toWire str) (applyWire (a.toWire str) l)) := by
  have mem_map_str : ∀ {x : α} {m : List α}, str x ∈ m.map str ↔ x ∈ m :=
    ⟨fun h => (List.mem_map.1 h).elim fun y hy => hinj y _ hy.2 ▸ hy.1, List.mem_map_of_mem⟩
  have map_union : ∀ (y : β) (m n : List α),
      y ∈ (m ++ n.filter (fun x => !m.contains x)).map str ↔ y ∈ m.map str ∨ y ∈ n.map str := by
    intro y m n
    simp only [List.mem_map, Lib.mem_append_filter_not_contains]
    exact ⟨fun ⟨x, hx, e⟩ => hx.imp (⟨x, ·, e⟩) (⟨x, ·, e⟩),
      fun h => h.elim (fun ⟨x, hx, e⟩ => ⟨x, Or.inl hx, e⟩) fun ⟨x, hx, e⟩ => ⟨x, Or.inr hx, e⟩⟩
  unfold ListChange.or at hc
  cases hbr : b.replace with
  | some s =>
    simp only [hbr, Option.some.injEq] at hc
    subst hc
    refine ⟨hb, fun y => ?_⟩
    simp only [mem_applyWire_toWire, hbr]
  | none =>
    cases har : a.replace with
    | some r =>
      simp only [hbr, har, ListChange.mk?_eq_some] at hc
      obtain ⟨rfl, hv⟩ := hc
      refine ⟨hv, fun y => ?_⟩
      simp only [mem_applyWire_toWire, hbr, har, map_union]
      -- what is kept of the set are the values not removed
      refine or_congr_left ⟨?_, ?_⟩
      · rintro h
        obtain ⟨x, hx, rfl⟩ := List.mem_map.1 h
        obtain ⟨hx, hn⟩ := List.mem_filter.1 hx
        exact ⟨List.mem_map_of_mem hx, fun h' => by simp [mem_map_str.1 h'] at hn⟩
      · rintro ⟨h, hn⟩
        obtain ⟨x, hx, rfl⟩ := List.mem_map.1 h
        exact List.mem_map_of_mem (List.mem_filter.2 ⟨hx, by simpa using fun h' => hn (List.mem_map_of_mem h')⟩)
    | none =>
      simp only [hbr, har, ListChange.mk?_eq_some] at hc
      obtain ⟨rfl, hv⟩ := hc
      refine ⟨hv, fun y => ?_⟩
      -- the result is valid: nothing `a` adds is removed by `b`
      have hex : y ∈ a.add.map str → y ∉ b.remove.map str := by
        intro h h'
        obtain ⟨x, hx, rfl⟩ := List.mem_map.1 h
        exact ((ListChange.valid_iff _).1 hv).2 x (Lib.mem_append_filter_not_contains.2 (Or.inl hx))
          (Lib.mem_append_filter_not_contains.2 (Or.inr (mem_map_str.1 h')))
      simp only [mem_applyWire_toWire, hbr, har, map_union]
      constructor
      · rintro (⟨hy, hn⟩ | h | h)
        · exact Or.inl ⟨Or.inl ⟨hy, fun h => hn (Or.inl h)⟩, fun h => hn (Or.inr h)⟩
        · exact Or.inl ⟨Or.inr h, hex h⟩
        · exact Or.inr h
      · rintro (⟨⟨hy, hn⟩ | h, hn2⟩ | h)
        · exact Or.inl ⟨hy, fun h => h.elim hn hn2⟩
        · exact Or.inr (Or.inl h)
        · exact Or.inr (Or.inr h)

example : (ListChange.mk? ["x", "y"] ["q"] none).isSome ∧
    (⟨[], [], some ["x", "y"]⟩ : ListChange String).or ⟨["y", "z"], ["x"], none⟩ = some ⟨[], [], some ["y", "z"]⟩ := by decide +kernel

/-- **when the combination is refused**: exactly when neither operand is a set and some value is added by
one operand and removed by the other (`adding(x) | removing(x)`, `removing(x) | adding(x)`) -/
theorem or_refused_iff (a b : ListChange α) (ha : a.valid = true) (hb : b.valid = true) :
    a.or b = none ↔
      a.replace = none ∧ b.replace = none ∧
        ∃ x, (x ∈ a.add ∧ x ∈ b.remove) ∨ (x ∈ a.remove ∧ x ∈ b.add) := by
  have hav := ((ListChange.valid_iff a).1 ha).2
  have hbv := ((ListChange.valid_iff b).1 hb).2
  unfold ListChange.or
  cases hbr : b.replace with
  | some s => simp
  | none =>
    cases har : a.replace with
    | some r => simp [ListChange.mk?_eq_none, ListChange.valid]
    | none =>
      rw [ListChange.mk?_eq_none, ← Bool.not_eq_true, ListChange.valid_iff]
      simp only [Option.isSome_none, Bool.false_eq_true, false_imp_iff, true_and, Lib.mem_append_filter_not_contains]
      constructor
      · intro h
        refine Classical.byContradiction fun hno => h fun x hxA hxR => hno ?_
        rcases hxA with h1 | h1 <;> rcases hxR with h2 | h2
        · exact absurd h2 (hav x h1)
        · exact ⟨x, Or.inl ⟨h1, h2⟩⟩
        · exact ⟨x, Or.inr ⟨h2, h1⟩⟩
        · exact absurd h2 (hbv x h1)
      · rintro ⟨x, h | h⟩ hall
        · exact hall x (Or.inl h.1) (Or.inr h.2)
        · exact hall x (Or.inr h.2) (Or.inl h.1)

example : (⟨["x"], [], none⟩ : ListChange String).or ⟨[], ["x"], none⟩ = none := by decide +kernel

/-- a combination involving a set is never refused -/
theorem or_never_refused_with_set (a b : ListChange α) (ha : a.valid = true) (hb : b.valid = true)
    (h : a.replace.isSome = true ∨ b.replace.isSome = true) : ∃ c, a.or b = some c := by
  cases hc : a.or b with
  | some c => exact ⟨c, rfl⟩
  | none =>
    have := (or_refused_iff a b ha hb).1 hc
    rcases h with h | h <;> simp [this.1, this.2.1] at h

/-- the defect of the pinned tree, on the model of the pinned `__or__`: `setting() | ListChange()` applied to
`["a"]` keeps `a`, whereas applying the set and then the empty change clears the field
(same shape as `setting("x") | adding("a") == adding("a")`) -/
theorem or_pinned_counterexample :
    ∃ (a b c : ListChange String) (l : List String), a.valid = true ∧ b.valid = true ∧ a.orPinned b = some c ∧
      ¬ SameSet (applyWire (c.toWire id) l) (applyWire (b.toWire id) (applyWire (a.toWire id) l)) := by
  refine ⟨⟨[], [], some []⟩, ⟨[], [], none⟩, ⟨[], [], none⟩, ["a"],
    by decide +kernel, by decide +kernel, by decide +kernel, ?_⟩
  intro h
  have := (h "a").1 (by decide +kernel)
  revert this
  decide +kernel

/-- **the payload is `ids` followed by exactly the fields that were set** (those that differ from the
defaults of `BugUpdate()`), in declaration order, each under its wire name with its rendered value -/
theorem wire_exactly_set_fields (u : BugUpdate) (ids : List Nat) (h : ids ≠ []) :
    u.toWire ids = some (Spec.wire u ids) := by
  have hne : ids.isEmpty = false := by cases ids <;> simp_all
  -- each `if … : wire[k] = …` of `to_wire` becomes `if field ≠ default then [(k, render field)] else []`
  -- (`optEntry_*`, `changeEntry_eq`, `flagsEntry_eq`), which is what `map_filter_cons` makes of `Spec.wire`
  -- one field of `Field.all` at a time; the two sides are then the same chain of appends
  simp only [BugUpdate.toWire, hne, Spec.wire, Field.all, map_filter_cons, List.filter_nil, List.map_nil,
    optEntry_str, optEntry_nat, optEntry_comment, changeEntry_eq, flagsEntry_eq, Bool.false_eq_true, if_false,
    isSet, proj, Field.wireName, Field.pyName, List.append_assoc, List.append_nil, List.cons_append, List.nil_append]
  rfl

example : (BugUpdate.toWire { summary := some "x", groups := ⟨[], [], some []⟩ } [7]) =
    some [("ids", .ids [7]), ("summary", .str "x"), ("groups", .change { set := some [] })] := by decide +kernel

/-- without ids the update is refused -/
theorem wire_needs_ids (u : BugUpdate) : u.toWire [] = none := rfl

theorem toWire_eq_some {u : BugUpdate} {ids : List Nat} {w : List (String × WireVal)} (hw : u.toWire ids = some w) :
    w = Spec.wire u ids := by
  have hids : ids ≠ [] := by rintro rfl; cases hw
  rw [wire_exactly_set_fields u ids hids] at hw
  exact (Option.some.inj hw).symm

/-- the keys of the payload: no key twice; a key is present iff it is `ids` or the wire name of a field that was set -/
theorem wire_keys_exactly_set_fields (u : BugUpdate) (ids : List Nat) (w : List (String × WireVal))
    (hw : u.toWire ids = some w) :
    (w.map Prod.fst).Nodup ∧ ∀ k, k ∈ w.map Prod.fst ↔ k = "ids" ∨ ∃ f : Field, f.wireName = k ∧ isSet u f = true := by
  cases toWire_eq_some hw
  have hkeys : (Spec.wire u ids).map Prod.fst = "ids" :: ((Field.all.filter (isSet u)).map Field.wireName) := by
    simp [Spec.wire, List.map_map, Function.comp_def]
  rw [hkeys]
  constructor
  · have hnd : ("ids" :: Field.all.map Field.wireName).Nodup := by decide +kernel
    exact hnd.sublist (List.Sublist.cons_cons _ (List.filter_sublist.map _))
  · intro k
    simp only [List.mem_cons, List.mem_map, List.mem_filter, Field.mem_all, true_and, and_comm]

/-- the entries of the payload: `ids` carries the complete id list, and a set field carries its rendered value -/
theorem wire_values (u : BugUpdate) (ids : List Nat) (w : List (String × WireVal)) (hw : u.toWire ids = some w)
    (k : String) (v : WireVal) :
    (k, v) ∈ w ↔ (k = "ids" ∧ v = .ids ids) ∨
      ∃ f : Field, isSet u f = true ∧ k = f.wireName ∧ v = render (proj u f) := by
  cases toWire_eq_some hw
  simp only [Spec.wire, List.mem_cons, List.mem_map, List.mem_filter, Field.mem_all, true_and, Prod.mk.injEq,
    eq_comm (a := k), eq_comm (a := v)]

example : isSet { summary := some "", groups := ⟨[], [], some []⟩ } .summary = true ∧
    isSet { summary := some "", groups := ⟨[], [], some []⟩ } .groups = true ∧
    isSet { summary := some "", groups := ⟨[], [], some []⟩ } .cc = false := by decide +kernel

/-- the model's field list, attribute names and wire names are the ones of the code: the table is regenerated on
every run from `dataclasses.fields(BugUpdate)` and from probing the real `to_wire` with one field set at a time -/
theorem field_table_matches_code :
    Field.all.map (fun f => (f.pyName, f.wireName)) = Generated.C39.fieldWire := by decide +kernel

/-- the payload keys are exactly the keys declared by `wire.RawBugUpdate` -/
theorem wire_names_declared :
    Generated.C39.rawBugUpdateKeys = "ids" :: Field.all.map Field.wireName := by decide +kernel

end Pkgcore.C39
