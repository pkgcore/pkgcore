import Pkgcore.Proofs.C41
/-!
# C41 — the parallel map processes every item exactly once

`Reachable f fin items n s`: `s` is reached from the initial state of `map_async` (all `n`
workers started, nothing put) by *some* interleaving of the atomic steps of the producer and the workers — the
theorems quantify over every such state, hence over every thread schedule.
-/
namespace Pkgcore.C41
open Spec

/-- **every item exactly once, under every schedule**: whenever `map_async` returns (everything put, every thread
joined), the items handed to the worker function are — as a multiset — exactly the input items; for any item list,
any worker function and any number `n ≥ 1` of threads (or no items at all). -/
theorem every_item_once {α β : Type} (f : α → List β) (fin : Nat → List α → Option β) (items : List α) (n : Nat)
    (hn : n ≥ 1 ∨ items = []) (s : State α β) (hr : Reachable f fin items n s) (ht : Terminal s) :
    EachOnce items s := by
  have inv := inv_reachable f fin items n s hr
  obtain ⟨hrem, hsl, hdone⟩ := ht
  obtain ⟨hb, hd⟩ := all_done s.workers hdone
  have hc : (handledAll s ++ queueItems s.queue).Perm items := by
    simpa only [pool, hrem, hb, List.append_nil] using inv.conserve
  -- with a worker, all done means the queue holds no item; with no items there is nothing at all
  have : queueItems s.queue = [] := by
    rcases hn with hn | rfl
    · exact inv.fifo.queueItems_nil (by rw [hd, inv.lenW]; exact hn)
    · exact (List.append_eq_nil_iff.1 hc.eq_nil).2
  rwa [this, List.append_nil] at hc

/-- **every result is returned** (worker functions that yield their results or return `None`, as both call sites do):
at return the result deque holds, in some order, exactly the results of all items. -/
theorem results_complete {α β : Type} (f : α → List β) (fin : Nat → List α → Option β) (hfin : ∀ w l, fin w l = none)
    (items : List α) (n : Nat) (hn : n ≥ 1 ∨ items = []) (s : State α β)
    (hr : Reachable f fin items n s) (ht : Terminal s) : ResultsComplete f items s := by
  have inv := inv_reachable f fin items n s hr
  exact (inv.resultsOk hfin).trans (List.Perm.flatMap_right f (every_item_once f fin items n hn s hr ht))

/-- **no schedule gets stuck**: in every reachable state that is not yet final some thread can take a step
(no deadlock on the queue: there is always an item or a sentinel for a waiting worker once the producer is done) -/
theorem no_deadlock {α β : Type} (f : α → List β) (fin : Nat → List α → Option β) (items : List α) (n : Nat)
    (s : State α β) (hr : Reachable f fin items n s) (hnt : ¬ Terminal s) : ∃ s', Step f fin s s' := by
  have inv := inv_reachable f fin items n s hr
  cases hrm : s.remaining with
  | cons x rest => exact ⟨_, .put, by simp only [apply, hrm]; rfl⟩
  | nil =>
    cases hs : s.sentinelsLeft with
    | succ k' => exact ⟨_, .put, by simp only [apply, hrm, hs]; rfl⟩
    | zero =>
      obtain ⟨i, u, hi, hu, hlt⟩ := not_all_done s.workers (fun hall => hnt ⟨hrm, hs, hall⟩)
      cases u with
      | done => exact absurd rfl hu
      | busy x => exact ⟨_, .finish i, by simp only [apply, hi]; rfl⟩
      | idle =>
        cases hqq : s.queue with
        | nil => exact absurd hqq ((hs ▸ inv.fifo).ne_nil (inv.lenW ▸ hlt))
        | cons hd q => cases hd <;> exact ⟨_, .get i, by simp only [apply, hi, hqq]; rfl⟩

/-- **every schedule ends**: each step decreases a natural-number measure, so no interleaving runs forever and
`map_async` returns after at most `measure (init items n)` steps -/
theorem every_schedule_terminates {α β : Type} (f : α → List β) (fin : Nat → List α → Option β) (s s' : State α β)
    (h : Step f fin s s') : measure s' < measure s := by
  obtain ⟨e, he⟩ := h
  refine apply_elim he ?putItem ?putSentinel ?getItem ?getSentinel ?finish
  case putItem =>
    intro x rest hr
    simp only [measure, hr, List.length_append, List.length_cons, List.length_nil]
    omega
  case putSentinel =>
    intro k hr hs
    simp only [measure, hs, List.length_append, List.length_cons, List.length_nil]
    omega
  case getItem =>
    intro w x q hw hq
    have := (busyItems_get s.workers w x hw).length_eq
    simp only [measure, hq, List.length_cons] at this ⊢
    omega
  case getSentinel =>
    intro w q hw hq
    simp only [measure, hq, (set_done s.workers w hw).1, List.length_cons]
    omega
  case finish =>
    intro w x hw
    have := (busyItems_finish s.workers w x hw).length_eq
    simp only [measure, List.length_cons] at this ⊢
    omega

/-- the number of threads actually started: **at least one whenever there is an item** — for every `threads`
argument, also `0` or negative ones (the defect fixed in /repo) — and never more than the items -/
theorem parallelism_enough (len : Option Nat) (threads : Int) (hl : ∀ l, len = some l → l ≥ 1) :
    parallelism len threads ≥ 1 ∧ (∀ l, len = some l → parallelism len threads ≤ l) := by
  unfold parallelism
  cases len with
  | none =>
    simp only
    exact ⟨by omega, nofun⟩
  | some l =>
    have := hl l rfl
    simp only
    refine ⟨by omega, fun l' h => ?_⟩
    cases h
    omega

/-- a worker is started whenever there is an item, whether or not the input has a length -/
theorem parallelism_pos {α : Type} (items : List α) (len : Option Nat) (hlen : len = none ∨ len = some items.length)
    (threads : Int) : parallelism len threads ≥ 1 ∨ items = [] := by
  cases items with
  | nil => exact Or.inr rfl
  | cons x xs =>
    refine Or.inl (parallelism_enough len threads fun l hl => ?_).1
    rcases hlen with rfl | rfl <;> cases hl
    exact Nat.succ_pos _

/-- … so for a sized input `map_async` always satisfies the hypothesis of `every_item_once` -/
theorem map_async_every_item_once {α β : Type} (f : α → List β) (fin : Nat → List α → Option β) (items : List α)
    (threads : Int) (s : State α β)
    (hr : Reachable f fin items (parallelism (some items.length) threads) s) (ht : Terminal s) : EachOnce items s :=
  every_item_once f fin items _ (parallelism_pos items _ (Or.inr rfl) threads) s hr ht

/-- the hypothesis `n ≥ 1` of `every_item_once` is needed: with no worker the items are put and never handled, and
the run ends with an empty result (what `threads=0` did before the fix) -/
theorem zero_threads_counterexample :
    ∃ s : State Nat Nat, Reachable (fun x => [x]) (fun _ _ => none) [7] 0 s ∧ Terminal s ∧ ¬ EachOnce [7] s := by
  refine ⟨⟨[], 0, [.item 7], [], [], []⟩, ?_, ⟨rfl, rfl, by intro w hw; cases hw⟩, ?_⟩
  · exact Reachable.step Reachable.start ⟨.put, rfl⟩
  · intro h
    have := h.length_eq
    simp [handledAll] at this

/-- a complete run exists and is validated step by step: two workers, three items -/
example : (replay (fun x => [x * 10]) (fun _ _ => (none : Option Nat)) (init [1, 2, 3] 2)
    [.put, .get 0, .put, .get 1, .finish 1, .put, .get 1, .finish 0, .put, .put, .get 0, .finish 1, .get 1]).map
      (fun s => (s.handled, s.results)) = some ([[1], [2, 3]], [20, 10, 30]) := by decide +kernel

/-- **a call is not affected by the calls before it**: in a process that has made any calls of `map_async` before — each
with any input, any number of threads, ended in any way, also with its input iterable raising (which sets that call's
kill event) — a call whose own input does not raise hands every one of its items to the worker function exactly once and
returns every result, under every schedule. -/
theorem later_call_every_item_once {α β : Type} (f : α → List β) (fin : Nat → List α → Option β)
    (hist : List (Call α)) (c : Call α) (xs : XState α β) (hs : SessionReach f fin hist c xs)
    (ht : XTerminal xs) (hk : xs.kill = false) (hn : c.n ≥ 1 ∨ c.items = []) :
    EachOnce c.items xs.base ∧ ((∀ w l, fin w l = none) → ResultsComplete f c.items xs.base) := by
  have hx := session_is_call f fin hist c xs hs
  obtain ⟨hr, _⟩ := clean_is_base f fin c.items c.n xs hx hk
  exact ⟨every_item_once f fin c.items c.n hn xs.base hr ht,
    fun hfin => results_complete f fin hfin c.items c.n hn xs.base hr ht⟩

/-- **a call whose input raises never hands an item to the worker function twice and invents none**: in every state
reachable by any schedule, the items handled so far together with those still queued, in a worker's hands, not yet
fed or never delivered are the input. -/
theorem failed_call_at_most_once {α β : Type} (f : α → List β) (fin : Nat → List α → Option β) (items : List α) (n : Nat)
    (xs : XState α β) (hr : XReachable f fin items n xs) : ∃ rest, (handledAll xs.base ++ rest).Perm items := by
  have := (xreachable_pool f fin items n xs hr).1
  refine ⟨busyItems xs.base.workers ++ queueItems xs.base.queue ++ xs.base.remaining ++ xs.dropped, ?_⟩
  simpa [pool, List.append_assoc] using this

/-- the kill event of a call is set only by that call's own input raising: a run without a `raise` step never has it
set, and is a run of the plain system -/
theorem kill_clear_is_plain_run {α β : Type} (f : α → List β) (fin : Nat → List α → Option β) (items : List α) (n : Nat)
    (xs : XState α β) (hr : XReachable f fin items n xs) (hk : xs.kill = false) :
    Reachable f fin items n xs.base ∧ xs.dropped = [] :=
  clean_is_base f fin items n xs hr hk

/-- a failing call, step by step: two workers, the iterable raises after two of three items; worker 1 had passed its
test of the event and still takes item 2, worker 0 finds the event set and leaves; item 3 was never delivered -/
example : (xreplay (fun x => [x * 10]) (fun _ _ => (none : Option Nat)) (xinit [1, 2, 3] 2)
    [.base .put, .base (.get 0), .base .put, .raise, .base (.finish 0), .quit 0, .base (.get 1), .base .put,
     .base (.finish 1), .base .put, .quit 1]).map
      (fun s => (s.base.handled, s.base.results, s.kill, s.dropped, s.base.queue.length)) =
      some ([[1], [2]], [10, 20], true, [3], 2) := by decide +kernel

/-- … and the call after it starts clean -/
example : SessionReach (fun x => [x * 10]) (fun _ _ => (none : Option Nat)) [⟨[], 0⟩] ⟨[7], 1⟩ (xinit [7] 1) :=
  SessionReach.next (hist := []) ⟨[7], 1⟩ (SessionReach.first ⟨[], 0⟩) ⟨rfl, rfl, by intro w hw; cases hw⟩

/-- **metadata regeneration reaches every package**: `regen_repository` over any package list (sized or not), any
`threads` argument and any schedule calls the regen helper on every package exactly once and yields exactly the
`(pkg, exception)` pairs of the packages whose regeneration failed. -/
theorem regen_every_pkg_once {α ε : Type} (outcome : α → Option ε) (pkgs : List α) (len : Option Nat)
    (hlen : len = none ∨ len = some pkgs.length) (threads : Int) (s : State α (α × ε))
    (hr : Reachable (regenF outcome) (fun _ _ => none) pkgs (parallelism len threads) s) (ht : Terminal s) :
    EachOnce pkgs s ∧ s.results.Perm (pkgs.filterMap (fun p => (outcome p).map (fun e => (p, e)))) := by
  have hn := parallelism_pos pkgs len hlen threads
  refine ⟨every_item_once _ _ pkgs _ hn s hr ht, ?_⟩
  have := results_complete (regenF outcome) (fun _ _ => none) (fun _ _ => rfl) pkgs _ hn s hr ht
  unfold ResultsComplete at this
  rwa [flatMap_regenF] at this

end Pkgcore.C41
