import Pkgcore.Spec.C44
import Pkgcore.Proofs.C01
/-!
# C44 — from the text of a well-formed query to what `parse_match` makes of it

The compiled glob is shell matching (`matchItems_eq_globMatch`); the Python string primitives on texts of known shape;
`parseMatch` is `prep` followed by `dispatch` (`parseMatch_eq`); `convert_glob` and the restriction builders on
well-formed parts (`PartOk`); the slot/repository tail of a query and what `prep` does with it (`prep_tail`).
`Parses` says what `dispatch` makes of the text in front of the tail, and `Parses.tail` puts it in front of any tail;
its instances are the three forms of a glob query and the two atom forms; `parses_body` collects the three forms for
the `body` of a `Wf` query (`render_eq`).
-/
namespace Pkgcore.C44
open Spec

theorem globMatch_nil (s : Str) : globMatch [] s = s.isEmpty := by rw [globMatch.eq_def]

theorem globMatch_star (p s : Str) :
    globMatch ('*' :: p) s = (globMatch p s || (match s with | [] => false | _ :: s' => globMatch ('*' :: p) s')) := by
  conv => lhs; rw [globMatch.eq_def]
  cases s <;> simp

theorem globMatch_lit (c : Char) (hc : c ≠ '*') (p s : Str) :
    globMatch (c :: p) s = (match s with | [] => false | x :: s' => decide (x = c) && globMatch p s') := by
  conv => lhs; rw [globMatch.eq_def]
  cases s <;> simp [hc]

theorem any_tails_eq (f : Str → Bool) (p : Str) (hf : ∀ s, f s = globMatch p s) (s : Str) :
    (tails s).any f = globMatch ('*' :: p) s := by
  induction s with
  | nil => rw [globMatch_star]; simp [tails, hf]
  | cons x s ih => rw [globMatch_star]; simp [tails, hf, ih]

theorem matchItems_eq_globMatch (p s : Str) : matchItems (compileGlob p) s = globMatch p s := by
  induction p generalizing s with
  | nil => simp [compileGlob, matchItems, globMatch_nil]
  | cons c p ih =>
    by_cases hc : c = '*'
    · subst hc
      have : compileGlob ('*' :: p) = Item.any :: compileGlob p := by simp [compileGlob]
      rw [this]
      simp only [matchItems]
      exact any_tails_eq _ p ih s
    · have : compileGlob (c :: p) = Item.lit c :: compileGlob p := by simp [compileGlob, hc]
      rw [this, globMatch_lit c hc]
      cases s with
      | nil => simp [matchItems]
      | cons x s' => simp [matchItems, ih]

theorem globMatch_star_only (s : Str) : globMatch ['*'] s = true := by
  induction s with
  | nil => rw [globMatch_star]; simp [globMatch_nil]
  | cons x s ih => rw [globMatch_star]; simp [ih]

theorem globMatch_nostar (p : Str) (hp : '*' ∉ p) (s : Str) : globMatch p s = decide (s = p) := by
  induction p generalizing s with
  | nil => rw [globMatch_nil]; cases s <;> simp
  | cons c p ih =>
    rw [globMatch_lit c (Ne.symm (List.ne_of_not_mem_cons hp))]
    cases s with
    | nil => simp
    | cons x s' => simp [ih (List.not_mem_of_not_mem_cons hp)]

theorem rsplit1_eq_none {c : Char} {s : Str} : rsplit1 c s = none ↔ c ∉ s := by
  induction s with
  | nil => exact ⟨fun _ => nofun, fun _ => rfl⟩
  | cons x xs ih =>
    rw [rsplit1, List.mem_cons, not_or, ← ih, eq_comm (a := c)]
    cases rsplit1 c xs with
    | some v => exact ⟨nofun, fun h => nomatch h.2⟩
    | none => by_cases h : x = c <;> simp [h]

theorem rsplit1_append {c : Char} (a b : Str) (h : c ∉ b) : rsplit1 c (a ++ c :: b) = some (a, b) := by
  induction a with
  | nil => simp [rsplit1, rsplit1_eq_none.2 h]
  | cons x a ih => simp [rsplit1, ih]

theorem startsColons_ne {x : Char} (xs : Str) (hx : x ≠ ':') : startsColons (x :: xs) = none :=
  startsColons.eq_2 _ fun _ e => hx (List.head_eq_of_cons_eq e)

theorem startsColons_one {v : Str} (hv : ':' ∉ v) : startsColons (':' :: v) = none :=
  startsColons.eq_2 _ fun _ e => hv (List.tail_eq_of_cons_eq e ▸ List.mem_cons_self)

theorem rsplit2_no_colon {s : Str} (h : ':' ∉ s) : rsplit2 s = none := by
  induction s with
  | nil => rfl
  | cons x xs ih =>
    unfold rsplit2
    rw [ih (List.not_mem_of_not_mem_cons h), startsColons_ne xs (Ne.symm (List.ne_of_not_mem_cons h))]; rfl

theorem rsplit2_one_colon {u v : Str} (hu : ':' ∉ u) (hv : ':' ∉ v) : rsplit2 (u ++ ':' :: v) = none := by
  induction u with
  | nil =>
    simp only [List.nil_append]
    unfold rsplit2
    rw [rsplit2_no_colon hv, startsColons_one hv]; rfl
  | cons x u ih =>
    simp only [List.cons_append]
    unfold rsplit2
    rw [ih (List.not_mem_of_not_mem_cons hu), startsColons_ne _ (Ne.symm (List.ne_of_not_mem_cons hu))]; rfl

theorem rsplit2_append (a b : Str) (h : ':' ∉ b) : rsplit2 (a ++ ':' :: ':' :: b) = some (a, b) := by
  induction a with
  | nil =>
    have h1 : rsplit2 (':' :: b) = none := rsplit2_one_colon (u := []) (by simp) h
    simp only [List.nil_append]
    unfold rsplit2
    rw [h1]; rfl
  | cons x a ih =>
    simp only [List.cons_append]
    unfold rsplit2
    rw [ih]

theorem partition1_no_sep {c : Char} {a : Str} (h : c ∉ a) : partition1 c a = (a, []) := by
  induction a with
  | nil => rfl
  | cons x a ih =>
    simp [partition1, Ne.symm (List.ne_of_not_mem_cons h), ih (List.not_mem_of_not_mem_cons h)]

theorem partition1_append {c : Char} (a b : Str) (h : c ∉ a) : partition1 c (a ++ c :: b) = (a, b) := by
  induction a with
  | nil => simp [partition1]
  | cons x a ih =>
    simp [partition1, Ne.symm (List.ne_of_not_mem_cons h), ih (List.not_mem_of_not_mem_cons h)]

theorem dropWhile_id {p : Char → Bool} {s : Str} (h : ∀ c ∈ s, p c = false) : s.dropWhile p = s := by
  cases s with
  | nil => rfl
  | cons x s => simp [List.dropWhile, h x (by simp)]

theorem strip_id {s : Str} (h : ∀ c ∈ s, isWs c = false) : strip s = s := by
  unfold strip
  rw [dropWhile_id h, dropWhile_id (by intro c hc; exact h c (by simpa using hc)), List.reverse_reverse]

theorem evalAll_append {A : Type} (env : AtomEnv A) (p : Pkg) (a b : List (R A)) :
    R.evalAll env p (a ++ b) = (R.evalAll env p a && R.evalAll env p b) := by
  induction a with
  | nil => simp [R.evalAll]
  | cons r a ih => simp [R.evalAll, ih, Bool.and_assoc]

theorem eval_mkAnd {A : Type} (env : AtomEnv A) (p : Pkg) (rs : List (R A)) :
    (mkAnd rs).eval env p = R.evalAll env p rs := by
  unfold mkAnd
  split
  · simp [R.evalAll]
  · simp [R.eval]

theorem prep_bang {A : Type} {s : Str} (h : '!' ∈ strip s) : prep (A := A) s = .error .parse := by
  rw [prep_eq, if_pos h]

theorem prepL_val {A : Type} (s : Str) : (prepL (A := A) s).map (·.1) = prep s := by
  unfold prepL
  split <;> (rename_i h; exact h.symm)

theorem globbedSplitL_val (t : Str) : (globbedSplitL t).map (·.1) = globbedSplit t := by
  unfold globbedSplitL
  split <;> (rename_i h; exact h.symm)

/-- `parse_match` after its first part: the branches on the text in front of the slot part.  It is the body of
`parseMatch` written once more, with `globbedSplit` for `globbedSplitL`; `parseMatch_eq` holds it to the model -/
def dispatch {A : Type} (env : AtomEnv A) (p : Prep A) : Except Err (R A) :=
  match rsplit1 '/' p.text with
  | none => noCategory env p
  | some (cat, pkg) =>
    if (p.text.head?.map isOpChar).getD false ∨ '*' ∉ p.text then
      match env.parse p.orig with
      | some a => .ok (.atom a)
      | none =>
        if '*' ∈ p.text then
          match globbedSplit p.text with
          | .error e => .error e
          | .ok (op, v, chunk) =>
            match parseMatch env chunk with
            | .error e => .error e
            | .ok inner => .ok (.and (p.restrictions ++ [.version op v, inner]))
        else if !p.globbedSlot then .error .parse
        else
          match env.parse p.text with
          | some a => .ok (.and (p.restrictions ++ [.atom a]))
          | none => .error .parse
    else generic p cat pkg

theorem parseMatch_eq {A : Type} (env : AtomEnv A) (s : Str) :
    parseMatch env s = match prep s with
      | .error e => .error e
      | .ok p => dispatch env p := by
  rw [parseMatch, ← prepL_val]
  cases prepL (A := A) s with
  | error e => rfl
  | ok q =>
    obtain ⟨p, hp⟩ := q
    simp only [Except.map, dispatch, ← globbedSplitL_val]
    cases globbedSplitL p.text with
    | error e => rfl
    | ok r => obtain ⟨⟨op, v, chunk⟩, hr⟩ := r; rfl

/-- over the glob alphabet and `*`: no separator, operator, `!` or white space (`plainChar_safe`) -/
def Plain (s : Str) : Prop := ∀ c ∈ s, isGlobChar c = true ∨ c = '*'

instance (s : Str) : Decidable (Plain s) := inferInstanceAs (Decidable (∀ c ∈ s, isGlobChar c = true ∨ c = '*'))

/-- characters that the first part of `parse_match` passes over -/
abbrev Safe (c : Char) : Prop := c ≠ ':' ∧ c ≠ '!' ∧ isWs c = false
def SafeS (s : Str) : Prop := ∀ c ∈ s, Safe c

theorem plainChar_safe {c : Char} (h : isGlobChar c = true ∨ c = '*') : Safe c ∧ c ≠ '/' ∧ isOpChar c = false := by
  refine ⟨⟨?_, ?_, ?_⟩, ?_, ?_⟩
  · rintro rfl; revert h; decide +kernel
  · rintro rfl; revert h; decide +kernel
  · cases hw : isWs c with
    | false => rfl
    | true =>
      simp only [isWs, Bool.or_eq_true, decide_eq_true_eq] at hw
      rcases hw with ((((rfl | rfl) | rfl) | rfl) | rfl) | rfl <;> revert h <;> decide +kernel
  · rintro rfl; revert h; decide +kernel
  · cases hw : isOpChar c with
    | false => rfl
    | true =>
      simp only [isOpChar, Bool.or_eq_true, decide_eq_true_eq] at hw
      rcases hw with ((rfl | rfl) | rfl) | rfl <;> revert h <;> decide +kernel

theorem isOpChar_safe {c : Char} (h : isOpChar c = true) : Safe c ∧ c ≠ '/' := by
  simp only [isOpChar, Bool.or_eq_true, decide_eq_true_eq] at h
  rcases h with ((rfl | rfl) | rfl) | rfl <;> decide +kernel

theorem SafeS.append {a b : Str} (ha : SafeS a) (hb : SafeS b) : SafeS (a ++ b) :=
  fun c hc => (List.mem_append.1 hc).elim (ha c) (hb c)

theorem SafeS.cons {x : Char} {a : Str} (hx : Safe x) (ha : SafeS a) : SafeS (x :: a) :=
  List.forall_mem_cons.2 ⟨hx, ha⟩

theorem SafeS.nil : SafeS [] := nofun

theorem Plain.safe {s : Str} (h : Plain s) : SafeS s := fun c hc => (plainChar_safe (h c hc)).1

theorem Plain.noSlash {s : Str} (h : Plain s) : '/' ∉ s := fun hc => (plainChar_safe (h _ hc)).2.1 rfl

theorem safe_slash : Safe '/' := by decide

theorem safe_dash : Safe '-' := by decide

theorem SafeS.noColon {s : Str} (h : SafeS s) : ':' ∉ s := fun hc => (h _ hc).1 rfl

theorem opchars_safe {o : Str} (h : ∀ c ∈ o, isOpChar c = true) : SafeS o := fun c hc => (isOpChar_safe (h c hc)).1

theorem head_plain_not_op {s : Str} (hne : s ≠ []) (h : Plain s) (t : Str) :
    ((s ++ t).head?.map isOpChar).getD false = false ∧ (s ++ t).head? ≠ some '=' := by
  cases s with
  | nil => exact absurd rfl hne
  | cons x s =>
    have nop := (plainChar_safe (h x (by simp))).2.2
    refine ⟨by simp [nop], fun e => ?_⟩
    cases Option.some.inj e
    exact absurd nop (by decide)

/-- a pattern part of a query: not empty, over the glob alphabet, no `**` -/
structure PartOk (s : Str) : Prop where
  ne : s ≠ []
  plain : Plain s
  valid : '*' ∈ s → validGlob s = true

/-- what `convert_glob` returns is used as a test through `Option.all`: `None` matches everything -/
theorem convertGlob_spec {pat : Str} (h : PartOk pat) :
    ∃ r, convertGlob pat = .ok r ∧ ∀ x, r.all (·.test x) = globMatch pat x := by
  unfold convertGlob
  by_cases h1 : pat = ['*']
  · subst h1
    exact ⟨none, by simp, fun x => (globMatch_star_only x).symm⟩
  · have h0 : ¬ (pat = ['*'] ∨ pat = []) := fun e => e.elim h1 h.ne
    rw [if_neg h0]
    by_cases h2 : '*' ∈ pat
    · rw [if_neg (by simpa using h2), h.valid h2]
      exact ⟨_, rfl, matchItems_eq_globMatch pat⟩
    · rw [if_pos h2]
      exact ⟨_, rfl, fun x => (globMatch_nostar pat h2 x).symm⟩

theorem slotRestr_spec {A : Type} (env : AtomEnv A) (attr : Attr) {s : Str} (h : PartOk s) :
    ∃ rs, slotRestr (A := A) attr s = .ok rs ∧ ∀ pk, R.evalAll env pk rs = globMatch s (pk.get attr) := by
  unfold slotRestr
  rw [if_neg h.ne]
  by_cases h2 : '*' ∈ s
  · rw [if_pos h2]
    obtain ⟨r, hr, ht⟩ := convertGlob_spec h
    rw [hr]
    cases r with
    | none => exact ⟨[], rfl, fun pk => by simpa [R.evalAll] using ht (pk.get attr)⟩
    | some m => exact ⟨_, rfl, fun pk => by simpa [R.evalAll, R.eval] using ht (pk.get attr)⟩
  · rw [if_neg h2]
    exact ⟨_, rfl, fun pk => by simp [R.evalAll, R.eval, VMatch.test, globMatch_nostar s h2]⟩

theorem generic_spec {A : Type} (env : AtomEnv A) (p : Prep A) {cat pkg : Str} (hc : PartOk cat) (hp : PartOk pkg) :
    ∃ r, generic p cat pkg = .ok r ∧ ∀ pk, r.eval env pk =
      (R.evalAll env pk p.restrictions && globMatch cat pk.category && globMatch pkg pk.package) := by
  obtain ⟨rc, hrc, htc⟩ := convertGlob_spec hc
  obtain ⟨rp, hrp, htp⟩ := convertGlob_spec hp
  unfold generic
  rw [hrc, hrp]
  cases rc <;> cases rp <;> refine ⟨_, rfl, fun pk => ?_⟩ <;>
    simp [eval_mkAnd, evalAll_append, R.evalAll, R.eval, Pkg.get, ← htc, ← htp, Bool.and_assoc]

theorem collectOps_ops {ops t : Str} (hops : ∀ c ∈ ops, isOpChar c = true)
    (ht : (t.head?.map isOpChar).getD false = false) :
    collectOps (ops ++ t) = (ops, t) := by
  have h0 : t.takeWhile isOpChar = [] ∧ t.dropWhile isOpChar = t := by
    cases t with
    | nil => exact ⟨rfl, rfl⟩
    | cons x t => simp at ht; simp [ht]
  rw [collectOps, List.takeWhile_append_of_pos hops, List.dropWhile_append_of_pos hops, h0.1, h0.2, List.append_nil]

theorem collectOps_plain {s : Str} (hne : s ≠ []) (h : Plain s) : collectOps s = ([], s) :=
  collectOps_ops (ops := []) (List.forall_mem_nil _) (List.append_nil s ▸ (head_plain_not_op hne h []).1)

theorem noCategory_glob_spec {A : Type} (env : AtomEnv A) (p : Prep A) (hp : PartOk p.text) (hstar : '*' ∈ p.text) :
    ∃ r, noCategory env p = .ok r ∧
      ∀ pk, r.eval env pk = (R.evalAll env pk p.restrictions && globMatch p.text pk.package) := by
  obtain ⟨rp, hrp, htp⟩ := convertGlob_spec hp
  unfold noCategory
  rw [collectOps_plain hp.ne hp.plain]
  simp only [hstar, and_self, if_true, hrp]
  cases rp <;> refine ⟨_, rfl, fun pk => ?_⟩ <;>
    simp [eval_mkAnd, evalAll_append, R.evalAll, R.eval, Pkg.get, ← htp]

/-- `[:slot[/subslot]][::repo]` -/
structure Tail where
  slot : Option (Str × Option Str)
  repo : Option Str

def Tail.slotTxt (t : Tail) : Option Str :=
  match t.slot with
  | none => none
  | some (s, none) => some s
  | some (s, some ss) => some (s ++ '/' :: ss)

def Tail.render (t : Tail) : Str :=
  (match t.slotTxt with | none => [] | some x => ':' :: x) ++ (match t.repo with | some r => ':' :: ':' :: r | none => [])

/-- `render` without its repository part: the text `prepSlot` is given -/
def Tail.slotPart (t : Tail) : Str :=
  match t.slotTxt with | none => [] | some x => ':' :: x

structure Tail.Wf (t : Tail) : Prop where
  slot : ∀ s ss, t.slot = some (s, ss) → PartOk s ∧ ∀ x, ss = some x → PartOk x
  repo : ∀ r, t.repo = some r → Plain r

/-- `slotOK` and `repoOK` are the last two conjuncts of `Spec.selects` -/
def Tail.slotOK (t : Tail) (p : Pkg) : Bool :=
  match t.slot with
  | none => true
  | some (s, none) => globMatch s p.slot
  | some (s, some ss) => globMatch s p.slot && globMatch ss p.subslot

def Tail.repoOK (t : Tail) (p : Pkg) : Bool :=
  match t.repo with | some r => p.repo = r | none => true

/-- the flag `globbedSlot` that `prep` computes -/
def Tail.slotGlob (t : Tail) : Bool :=
  match t.slotTxt with | none => false | some x => decide ('*' ∈ x)

theorem slotTxt_safe {t : Tail} (ht : t.Wf) {x : Str} (hx : t.slotTxt = some x) : SafeS x := by
  unfold Tail.slotTxt at hx
  rcases hs : t.slot with _ | ⟨s, _ | ss⟩
  · simp [hs] at hx
  · simp only [hs, Option.some.injEq] at hx; subst hx
    exact (ht.slot s none hs).1.plain.safe
  · simp only [hs, Option.some.injEq] at hx; subst hx
    exact SafeS.append (ht.slot s _ hs).1.plain.safe (SafeS.cons safe_slash ((ht.slot s _ hs).2 ss rfl).plain.safe)

theorem render_noWs_noBang {b : Str} (hb : SafeS b) {t : Tail} (ht : t.Wf) :
    (∀ c ∈ b ++ t.render, isWs c = false) ∧ '!' ∉ b ++ t.render := by
  have colon : (':' : Char) ≠ '!' ∧ isWs ':' = false := by decide
  have safe : ∀ {s : Str}, SafeS s → ∀ c ∈ s, c ≠ '!' ∧ isWs c = false := fun hs c hc => (hs c hc).2
  have key : ∀ c ∈ b ++ t.render, c ≠ '!' ∧ isWs c = false := by
    rw [Tail.render]
    refine List.forall_mem_append.2 ⟨safe hb, List.forall_mem_append.2 ⟨?_, ?_⟩⟩
    · rcases hx : t.slotTxt with _ | x
      · exact fun _ hc => nomatch hc
      · exact List.forall_mem_cons.2 ⟨colon, safe (slotTxt_safe ht hx)⟩
    · rcases hr : t.repo with _ | r
      · exact fun _ hc => nomatch hc
      · exact List.forall_mem_cons.2 ⟨colon, List.forall_mem_cons.2 ⟨colon, safe (ht.repo r hr).safe⟩⟩
  exact ⟨fun c hc => (key c hc).2, fun hc => (key _ hc).1 rfl⟩

theorem prepSlot_tail {A : Type} (env : AtomEnv A) {b : Str} (hb : SafeS b) {t : Tail} (ht : t.Wf) (orig : Str)
    (r0 : List (R A)) :
    ∃ rs, prepSlot orig (b ++ t.slotPart) r0 = .ok ⟨orig, b, rs, t.slotGlob⟩ ∧
      ∀ pk, R.evalAll env pk rs = (R.evalAll env pk r0 && t.slotOK pk) := by
  unfold prepSlot Tail.slotGlob Tail.slotPart Tail.slotTxt Tail.slotOK
  rcases hs : t.slot with _ | ⟨s, _ | ss⟩
  · simp only [List.append_nil]
    rw [rsplit1_eq_none.2 hb.noColon]
    exact ⟨r0, rfl, fun pk => (Bool.and_true _).symm⟩
  · have h1 := ht.slot s none hs
    simp only
    rw [rsplit1_append _ _ h1.1.plain.safe.noColon]
    simp only [partition1_no_sep h1.1.plain.noSlash]
    obtain ⟨r1, e1, t1⟩ := slotRestr_spec env .slot h1.1
    rw [e1]
    simp only [slotRestr, if_true]
    exact ⟨_, rfl, fun pk => by simp only [evalAll_append, t1, Pkg.get, R.evalAll, Bool.and_true]⟩
  · have h1 := ht.slot s (some ss) hs
    have h2 := h1.2 ss rfl
    have hsafe : SafeS (s ++ '/' :: ss) := SafeS.append h1.1.plain.safe (SafeS.cons safe_slash h2.plain.safe)
    simp only
    rw [rsplit1_append _ _ hsafe.noColon]
    simp only [partition1_append _ _ h1.1.plain.noSlash]
    obtain ⟨r1, e1, t1⟩ := slotRestr_spec env .slot h1.1
    obtain ⟨r2, e2, t2⟩ := slotRestr_spec env .subslot h2
    rw [e1, e2]
    exact ⟨_, rfl, fun pk => by simp only [evalAll_append, t1, t2, Pkg.get, Bool.and_assoc]⟩

theorem prep_tail {A : Type} (env : AtomEnv A) {b : Str} (hb : SafeS b) {t : Tail} (ht : t.Wf) :
    ∃ rs, prep (A := A) (b ++ t.render) = .ok ⟨b ++ t.render, b, rs, t.slotGlob⟩ ∧
      ∀ pk, R.evalAll env pk rs = (t.repoOK pk && t.slotOK pk) := by
  have hsafe := render_noWs_noBang hb ht
  rw [prep_eq, strip_id hsafe.1, if_neg hsafe.2]
  unfold Tail.repoOK
  rcases hr : t.repo with _ | r
  · have hre : b ++ t.render = b ++ t.slotPart := by
      rw [Tail.render, hr, List.append_nil]
      rfl
    have hnone : rsplit2 (b ++ t.render) = none := by
      rw [hre, Tail.slotPart]
      rcases hx : t.slotTxt with _ | x
      · rw [List.append_nil]; exact rsplit2_no_colon hb.noColon
      · exact rsplit2_one_colon hb.noColon (slotTxt_safe ht hx).noColon
    rw [hnone]
    obtain ⟨rs, e, h⟩ := prepSlot_tail env hb ht (b ++ t.render) []
    exact ⟨rs, (hre ▸ e : prepSlot (b ++ t.render) (b ++ t.render) [] = _), fun pk => by rw [h]; rfl⟩
  · have hsome : rsplit2 (b ++ t.render) = some (b ++ t.slotPart, r) := by
      rw [Tail.render, hr, ← List.append_assoc]
      exact rsplit2_append _ _ (ht.repo r hr).safe.noColon
    rw [hsome]
    obtain ⟨rs, e, h⟩ := prepSlot_tail env hb ht (b ++ t.render) [R.repo r]
    exact ⟨rs, e, fun pk => by rw [h]; simp only [R.evalAll, R.eval, Bool.and_true]⟩

/-- on the text `b`, whatever was collected before it, `dispatch` succeeds and adds the test `sem`; `orig` and `g` are
the fields of `Prep` its atom branches read -/
def Parses {A : Type} (env : AtomEnv A) (orig b : Str) (g : Bool) (sem : Pkg → Bool) : Prop :=
  ∀ rs, ∃ r, dispatch env ⟨orig, b, rs, g⟩ = .ok r ∧ ∀ pk, r.eval env pk = (R.evalAll env pk rs && sem pk)

theorem parses_pkg {A : Type} (env : AtomEnv A) (orig : Str) (g : Bool) {n : Str} (hn : PartOk n) (hstar : '*' ∈ n) :
    Parses env orig n g fun pk => globMatch n pk.package := by
  intro rs
  obtain ⟨r, hr, he⟩ := noCategory_glob_spec env ⟨orig, n, rs, g⟩ hn hstar
  exact ⟨r, by rw [dispatch, rsplit1_eq_none.2 hn.plain.noSlash]; exact hr, he⟩

theorem parses_cat_pkg {A : Type} (env : AtomEnv A) (orig : Str) (g : Bool) {c n : Str} (hc : PartOk c) (hn : PartOk n)
    (hstar : '*' ∈ c ∨ '*' ∈ n) :
    Parses env orig (c ++ '/' :: n) g fun pk => globMatch c pk.category && globMatch n pk.package := by
  intro rs
  obtain ⟨r, hr, he⟩ := generic_spec env ⟨orig, c ++ '/' :: n, rs, g⟩ hc hn
  refine ⟨r, ?_, fun pk => by rw [he, Bool.and_assoc]⟩
  have hs : '*' ∈ c ++ '/' :: n := by simpa using hstar
  unfold dispatch
  simp only [rsplit1_append _ _ hn.plain.noSlash, (head_plain_not_op hc.ne hc.plain _).1, hs]
  simpa using hr

theorem Parses.tail {A : Type} {env : AtomEnv A} {b : Str} {t : Tail} {sem : Pkg → Bool} (hb : SafeS b) (ht : t.Wf)
    (h : Parses env (b ++ t.render) b t.slotGlob sem) :
    ∃ r, parseMatch env (b ++ t.render) = .ok r ∧
      ∀ pk, r.eval env pk = (t.slotOK pk && t.repoOK pk && sem pk) := by
  obtain ⟨rs, e, hrs⟩ := prep_tail env hb ht
  obtain ⟨r, hr, he⟩ := h rs
  exact ⟨r, by rw [parseMatch_eq, e]; exact hr, fun pk => by rw [he, hrs, Bool.and_comm (t.repoOK pk)]⟩

/-- the six version operators (`atom.valid_ops`, see `ops_table`) -/
def IsOp (o : Str) : Prop :=
  o = ['<'] ∨ o = ['<', '='] ∨ o = ['='] ∨ o = ['>', '='] ∨ o = ['>'] ∨ o = ['~']

theorem isOp_safe {o : Str} (h : IsOp o) : SafeS o :=
  opchars_safe (by rcases h with rfl | rfl | rfl | rfl | rfl | rfl <;> decide)

/-- the table entry of each operator lists the outcomes of `cmp` for which the operator's relation holds; only `~`
drops the revisions -/
theorem opVals_isOp {o : Str} (ho : IsOp o) : ∃ vals dr, C01.opVals (String.ofList o) = some (vals, dr) ∧
    ∀ full tilde : Ordering, vals.contains (C01.ordToInt (if dr then tilde else full)) =
      (if o = ['<'] then full == .lt else if o = ['<', '='] then full != .gt else if o = ['='] then full == .eq
       else if o = ['>', '='] then full != .lt else if o = ['>'] then full == .gt
       else if o = ['~'] then tilde == .eq else false) := by
  rcases ho with rfl | rfl | rfl | rfl | rfl | rfl <;>
    exact ⟨_, _, rfl, fun full tilde => by first | (cases full <;> rfl) | (cases tilde <;> rfl)⟩

theorem versionTest_eq {o : Str} (ho : IsOp o) (v : C01.Ver) (pk : Pkg) : versionTest o v pk = versionHolds o v pk := by
  obtain ⟨vals, dr, h1, h2⟩ := opVals_isOp ho
  unfold versionTest versionHolds
  simp only [h1]
  rw [C01.versionMatch_pms _ _ _ _ _ _ _ (Or.inr (Or.inr ⟨rfl, rfl⟩)), Bool.bne_false, h2]

theorem longestOp_isOp {o rest : Str} (ho : IsOp o) (hr : rest.head? ≠ some '=') :
    longestOp (o ++ rest) = some (o, rest) := by
  -- the clauses of `longestOp` for `<` and `>` apply when no `=` follows
  have hne : ∀ r', rest = '=' :: r' → False := fun r' e => hr (e ▸ rfl)
  rcases ho with rfl | rfl | rfl | rfl | rfl | rfl
  · exact longestOp.eq_3 rest hne
  · exact longestOp.eq_1 rest
  · exact longestOp.eq_5 rest
  · exact longestOp.eq_2 rest
  · exact longestOp.eq_4 rest hne
  · exact longestOp.eq_6 rest

/-- `op cat/pkg-ver` with a glob in `cat` or `pkg`, when the whole string is no atom -/
theorem parses_versioned {A : Type} (env : AtomEnv A) (orig : Str) (g : Bool) {o c n vt : Str} {v : C01.Ver}
    (ho : IsOp o) (hc : PartOk c) (hn : PartOk n) (hstar : '*' ∈ c ∨ '*' ∈ n) (hlex : lexVer vt = some v)
    (hvt : Plain vt) (hdash : '-' ∉ vt) (hatom : env.parse orig = none) :
    Parses env orig (o ++ (c ++ '/' :: n ++ '-' :: vt)) g
      fun pk => globMatch c pk.category && globMatch n pk.package && versionHolds o v pk := by
  intro rs
  have hsl : '/' ∉ n ++ '-' :: vt :=
    List.not_mem_append hn.plain.noSlash (List.not_mem_cons_of_ne_of_not_mem (by decide) hvt.noSlash)
  have hsplit : rsplit1 '/' (o ++ (c ++ '/' :: n ++ '-' :: vt)) = some (o ++ c, n ++ '-' :: vt) := by
    have : o ++ (c ++ '/' :: n ++ '-' :: vt) = (o ++ c) ++ '/' :: (n ++ '-' :: vt) := by simp
    rw [this]; exact rsplit1_append _ _ hsl
  have hhead : ((o ++ (c ++ '/' :: n ++ '-' :: vt)).head?.map isOpChar).getD false = true := by
    rcases ho with rfl | rfl | rfl | rfl | rfl | rfl <;> rfl
  have hs : '*' ∈ o ++ (c ++ '/' :: n ++ '-' :: vt) := by rcases hstar with h | h <;> simp [h]
  have hgs : globbedSplit (o ++ (c ++ '/' :: n ++ '-' :: vt)) = .ok (o, v, c ++ '/' :: n) := by
    unfold globbedSplit
    rw [longestOp_isOp ho (by rw [List.append_assoc]; exact (head_plain_not_op hc.ne hc.plain _).2)]
    simp only [rsplit1_append _ _ hdash, hlex]
  -- the recursive call parses `cat/pkg`, which has no tail
  obtain ⟨ri, hri, hei⟩ := (parses_cat_pkg env _ _ hc hn hstar).tail (t := ⟨none, none⟩)
    (SafeS.append hc.plain.safe (SafeS.cons safe_slash hn.plain.safe)) ⟨nofun, nofun⟩
  rw [show Tail.render ⟨none, none⟩ = [] from rfl, List.append_nil] at hri
  refine ⟨.and (rs ++ [.version o v, ri]), ?_, fun pk => ?_⟩
  · unfold dispatch
    simp only [hsplit, hhead, hatom, hs, hgs, hri, true_or, if_true]
  · simp only [R.eval, evalAll_append, R.evalAll, Bool.and_true, hei pk, versionTest_eq ho]
    rw [show Tail.slotOK ⟨none, none⟩ pk = true from rfl, show Tail.repoOK ⟨none, none⟩ pk = true from rfl]
    simp only [Bool.true_and]
    ac_rfl

def tailOf (q : Query) : Tail := ⟨q.slot, q.repo⟩

/-- the class of glob query strings (`render q` for a well-formed `q`) -/
structure Wf (q : Query) : Prop where
  pkg : PartOk q.pkg
  cat : ∀ c, q.cat = some c → PartOk c
  tail : (tailOf q).Wf
  op : ∀ o vt v, q.op = some (o, vt, v) →
    IsOp o ∧ lexVer vt = some v ∧ Plain vt ∧ '-' ∉ vt ∧ '*' ∉ vt ∧ q.cat.isSome = true
  glob : match q.cat with
    | none => '*' ∈ q.pkg
    | some c => '*' ∈ c ∨ '*' ∈ q.pkg

/-- the text of a query in front of its tail (`render_eq`) -/
def body (q : Query) : Str :=
  (match q.op with | some (o, _, _) => o | none => []) ++
  (match q.cat with | some c => c ++ ['/'] | none => []) ++
  q.pkg ++
  (match q.op with | some (_, v, _) => '-' :: v | none => [])

theorem render_eq (q : Query) : render q = body q ++ (tailOf q).render := by
  unfold render body Tail.render Tail.slotTxt tailOf
  rw [← List.append_assoc]
  congr 2
  rcases q.slot with _ | ⟨s, _ | ss⟩ <;> rfl

theorem body_safe {q : Query} (hq : Wf q) : SafeS (body q) := by
  unfold body
  refine SafeS.append (SafeS.append (SafeS.append ?_ ?_) hq.pkg.plain.safe) ?_
  · rcases ho : q.op with _ | ⟨o, vt, v⟩
    · exact SafeS.nil
    · exact isOp_safe (hq.op o vt v ho).1
  · rcases hc : q.cat with _ | c
    · exact SafeS.nil
    · exact SafeS.append (hq.cat c hc).plain.safe (SafeS.cons safe_slash SafeS.nil)
  · rcases ho : q.op with _ | ⟨o, vt, v⟩
    · exact SafeS.nil
    · exact SafeS.cons safe_dash (hq.op o vt v ho).2.2.1.safe

def bodySem (q : Query) (pk : Pkg) : Bool :=
  (match q.cat with | some c => globMatch c pk.category | none => true) && globMatch q.pkg pk.package &&
  (match q.op with | some (o, _, v) => versionHolds o v pk | none => true)

/-- `selects` tests the body first and the tail last; `Parses.tail` has them the other way round -/
theorem selects_eq (q : Query) (pk : Pkg) :
    selects q pk = ((tailOf q).slotOK pk && (tailOf q).repoOK pk && bodySem q pk) :=
  (Bool.and_assoc ..).trans (Bool.and_comm ..)

theorem parses_body {A : Type} (env : AtomEnv A) {q : Query} (hq : Wf q) (orig : Str) (g : Bool)
    (hatom : q.op.isSome = true → env.parse orig = none) : Parses env orig (body q) g (bodySem q) := by
  have hglob := hq.glob
  unfold body bodySem
  rcases hop : q.op with _ | ⟨o, vt, v⟩
  · rcases hc : q.cat with _ | c
    · rw [hc] at hglob
      simpa using parses_pkg env orig g hq.pkg hglob
    · rw [hc] at hglob
      simpa using parses_cat_pkg env orig g (hq.cat c hc) hq.pkg hglob
  · obtain ⟨hio, hlex, hvplain, hvdash, -, hcs⟩ := hq.op o vt v hop
    obtain ⟨c, hc⟩ := Option.isSome_iff_exists.1 hcs
    rw [hc] at hglob
    simpa [hc] using
      parses_versioned env orig g hio (hq.cat c hc) hq.pkg hglob hlex hvplain hvdash (hatom (by simp [hop]))

/-- category-less atom text `[ops] name[-ver]` without globs -/
theorem parses_nocat_atom {A : Type} (env : AtomEnv A) (orig : Str) (g : Bool) {ops t : Str}
    (hops : ∀ c ∈ ops, isOpChar c = true) (ht : PartOk t) (hns : '*' ∉ t) {a : A}
    (ha : env.parse (ops ++ "category/".toList ++ t) = some a) :
    Parses env orig (ops ++ t) g (env.isMatchNoCat a) := by
  intro rs
  have hsl : '/' ∉ ops ++ t :=
    List.not_mem_append (fun hm => (isOpChar_safe (hops _ hm)).2 rfl) ht.plain.noSlash
  have hco : collectOps (ops ++ t) = (ops, t) :=
    collectOps_ops hops (by simpa using (head_plain_not_op ht.ne ht.plain []).1)
  have hstar : t.head? ≠ some '*' := by
    intro e
    cases t with
    | nil => simp at e
    | cons x t => simp at e; subst e; exact hns (by simp)
  refine ⟨.and (rs ++ [.atomNoCat a]), ?_, fun pk => ?_⟩
  · unfold dispatch noCategory
    simp only [rsplit1_eq_none.2 hsl, hco, hns, and_false, if_false, hstar, ha]
  · simp only [R.eval, evalAll_append, R.evalAll, Bool.and_true]

/-- a glob-free `[op]cat/pkg[-ver]` that the atom parser accepts, in front of a slot or sub-slot glob that makes the
whole string no atom -/
theorem parses_slotglob {A : Type} (env : AtomEnv A) (orig : Str) {b : Str} (hsl : '/' ∈ b) (hns : '*' ∉ b)
    (hwhole : env.parse orig = none) {a : A} (ha : env.parse b = some a) :
    Parses env orig b true (env.isMatch a) := by
  intro rs
  obtain ⟨⟨c, n⟩, hs⟩ := Option.ne_none_iff_exists'.1 (mt rsplit1_eq_none.1 (not_not_intro hsl))
  refine ⟨.and (rs ++ [.atom a]), ?_, fun pk => ?_⟩
  · unfold dispatch
    simp only [hs, hwhole, hns, ha, not_false_eq_true, or_true, if_true, if_false, Bool.not_true, Bool.false_eq_true]
  · simp only [R.eval, evalAll_append, R.evalAll, Bool.and_true]

end Pkgcore.C44
