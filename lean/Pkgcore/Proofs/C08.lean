import Pkgcore.Spec.C08
import Pkgcore.Proofs.C06
import Pkgcore.Proofs.Lib
/-!
Two facts about every candidate list of `prototype.tree`, each followed through the pruning stage by stage
(`catsStage`, `pkgStage`, `fromRestrictions`, `fast`, `identify`, `candidates`): it has no pair twice (`…_nodup`), and
it contains every pair of the repository that passes the restriction (`…_mem`; `Passes` is "passes" for one set of
category or package restrictions, `Survives` the same after the set has been split into exact names and the rest).
`mem_genOne` then says what one pair contributes to a scan (`genCandidates`) of any candidate list; the brute-force
universe is the scan of all pairs (`allOf_eq_gen`), and `mem_itermatch_iff` puts it together.
-/
namespace Pkgcore.C08
open Pkgcore.C08.Spec
open Pkgcore.C06 (R Clause dnf mtch)

theorem dedup_mem (x : Str) : ∀ l : List Str, x ∈ dedup l ↔ x ∈ l
  | [] => by simp [dedup]
  | y :: ys => by
    have ih := dedup_mem x ys
    simp only [dedup]
    split
    · rename_i h
      rw [List.contains_iff_mem, dedup_mem y ys] at h
      rw [ih, List.mem_cons]
      constructor
      · exact Or.inr
      · rintro (rfl | h') <;> assumption
    · simp only [List.mem_cons, ih]

theorem dedup_nodup : ∀ l : List Str, (dedup l).Nodup
  | [] => by simp [dedup]
  | y :: ys => by
    have ih := dedup_nodup ys
    simp only [dedup]
    split
    · exact ih
    · rename_i h
      rw [List.contains_iff_mem] at h
      exact List.nodup_cons.mpr ⟨h, ih⟩

theorem mem_ite {α} {c : Prop} [Decidable c] {x : α} {a b : List α} (ha : x ∈ a) (hb : x ∈ b) :
    x ∈ if c then a else b := by
  split <;> assumption

theorem nodup_ite {α} {c : Prop} [Decidable c] {a b : List α} (ha : a.Nodup) (hb : b.Nodup) :
    (if c then a else b).Nodup := by
  split <;> assumption

theorem nodup_flatMap_of {α β} {l : List α} {f : α → List β} (hl : l.Nodup) (hf : ∀ a ∈ l, (f a).Nodup)
    (hd : ∀ a ∈ l, ∀ b ∈ l, a ≠ b → ∀ x ∈ f a, x ∉ f b) : (l.flatMap f).Nodup :=
  List.pairwise_flatMap.mpr
    ⟨hf, List.Pairwise.imp_of_mem (fun ha hb hne x hx _ hy e => hd _ ha _ hb hne x hx (e ▸ hy)) hl⟩

theorem nodup_pairs {α β} {cs : List α} {f : α → List β} (hc : cs.Nodup) (hf : ∀ c ∈ cs, (f c).Nodup) :
    (cs.flatMap fun c => (f c).map fun p => (c, p)).Nodup := by
  refine nodup_flatMap_of hc (fun c hc' => List.Pairwise.map _ (fun _ _ hab h => hab (Prod.mk.inj h).2) (hf c hc'))
    fun a _ b _ hab x hxa hxb => ?_
  obtain ⟨_, _, rfl⟩ := List.mem_map.mp hxa
  obtain ⟨_, _, e⟩ := List.mem_map.mp hxb
  exact hab (Prod.mk.inj e).1.symm

theorem mem_pairs {α β} (cs : List α) (f : α → List β) (c : α) (p : β) :
    (c, p) ∈ (cs.flatMap fun c => (f c).map fun p => (c, p)) ↔ c ∈ cs ∧ p ∈ f c := by
  simp only [List.mem_flatMap, List.mem_map, Prod.mk.injEq]
  constructor
  · rintro ⟨c', hc', p', hp', rfl, rfl⟩
    exact ⟨hc', hp'⟩
  · rintro ⟨hc, hp⟩
    exact ⟨c, hc, p, hp, rfl, rfl⟩

theorem packages_mem_categories {repo : Repo} {c p : Str} (h : p ∈ repo.packages c) : c ∈ repo.categories := by
  simp only [Repo.packages] at h
  split at h
  · rename_i ps hl
    have := Lib.mem_of_lookup_eq_some hl
    simp only [Repo.categories, List.mem_map]
    exact ⟨(c, ps), this, rfl⟩
  · cases h

theorem versions_mem_packages {repo : Repo} {c p v : Str} (h : v ∈ repo.versions (c, p)) : p ∈ repo.packages c := by
  simp only [Repo.versions] at h
  split at h
  · rename_i ps hl
    simp only [Repo.packages, hl]
    cases hp : ps.lookup p with
    | none => simp [hp] at h
    | some vs =>
      have := Lib.mem_of_lookup_eq_some hp
      simp only [List.mem_map]
      exact ⟨(p, vs), this, rfl⟩
  · cases h

theorem WF_of_wfCheck (repo : Repo) (h : wfCheck repo = true) : WF repo := by
  simp only [wfCheck, Bool.and_eq_true, decide_eq_true_eq, List.all_eq_true] at h
  refine ⟨h.1, ?_, ?_⟩
  · intro c
    simp only [Repo.packages]
    split
    · rename_i ps hl
      exact (h.2 (c, ps) (Lib.mem_of_lookup_eq_some hl)).1
    · simp
  · intro cp
    simp only [Repo.versions]
    split
    · rename_i ps hl
      cases hp : ps.lookup cp.2 with
      | none => simp
      | some vs =>
        simp only [Option.getD_some]
        exact (h.2 (cp.1, ps) (Lib.mem_of_lookup_eq_some hl)).2 (cp.2, vs) (Lib.mem_of_lookup_eq_some hp)
    · simp

variable {env : Env} {tbl : Nat → Leaf} {repo : Repo} {S : Sorter}

theorem mem_versionKeys {c p : Str} : (c, p) ∈ repo.versionKeys ↔ p ∈ repo.packages c := by
  simp only [Repo.versionKeys]
  rw [mem_pairs]
  exact ⟨fun h => h.2, fun h => ⟨packages_mem_categories h, h⟩⟩

theorem versionKeys_nodup (h : WF repo) : repo.versionKeys.Nodup :=
  nodup_pairs h.cats (fun c _ => h.pkgs c)

theorem mem_product (hS : Lawful S) {cats : List Str} {c p : Str} :
    (c, p) ∈ product repo S cats ↔ c ∈ cats ∧ p ∈ repo.packages c := by
  simp only [product]
  rw [mem_pairs, (hS.strs _).mem_iff]

theorem product_nodup (hS : Lawful S) (h : WF repo) {cats : List Str} (hc : cats.Nodup) :
    (product repo S cats).Nodup :=
  nodup_pairs hc (fun c _ => ((hS.strs _).nodup_iff).mpr (h.pkgs c))

theorem mem_allCps (hS : Lawful S) {c p : Str} :
    (c, p) ∈ allCps repo S ↔ p ∈ repo.packages c := by
  simp only [allCps]
  split
  · exact mem_versionKeys
  · rw [mem_product hS, (hS.strs _).mem_iff]
    exact ⟨fun h => h.2, fun h => ⟨packages_mem_categories h, h⟩⟩

theorem allCps_nodup (hS : Lawful S) (h : WF repo) : (allCps repo S).Nodup := by
  simp only [allCps]
  split
  · exact versionKeys_nodup h
  · exact product_nodup hS h (((hS.strs _).nodup_iff).mpr h.cats)

theorem isInfix_self (a : Str) : isInfix a a = true := by
  simp only [isInfix, List.any_eq_true, List.mem_range]
  exact ⟨0, by omega, by simp⟩

theorem exactOf_some (vr : VR) (s : Str) (h : exactOf vr = some s) : vr = .exact s false := by
  cases vr with
  | exact s' n => cases n <;> simp_all [exactOf]
  | containAny xs => simp [exactOf] at h
  | other i => simp [exactOf] at h

/-- `x` survives the pruning of `_candidates_from_restrictions` by a restriction set that has been split into the
exact names and the rest -/
def Survives (env : Env) (negate : Bool) (exact : List Str) (rest : List VR) (x : Str) : Prop :=
  (exact = [] ∧ rest = []) ∨ x ∈ exact ∨ ∃ vr ∈ rest, vrMatch env vr x = !negate

theorem survives_exact {negate : Bool} {exact : List Str} {x : Str} (he : exact ≠ [])
    (h : Survives env negate exact [] x) : x ∈ exact := by
  rcases h with ⟨h, _⟩ | h | ⟨_, hvr, _⟩
  · exact absurd h he
  · exact h
  · cases hvr

/-- `!false`: the form in which `mem_catFilter` / `mem_packageFilter` ask for it -/
theorem survives_append {exact : List Str} {rest : List VR} {x : Str} (he : exact ≠ [])
    (h : Survives env false exact rest x) : ∃ vr ∈ rest ++ [.containAny exact], vrMatch env vr x = !false := by
  rcases h with ⟨h, _⟩ | h | ⟨vr, hvr, hm⟩
  · exact absurd h he
  · exact ⟨.containAny exact, by simp, by simpa [vrMatch] using ⟨x, h, isInfix_self x⟩⟩
  · exact ⟨vr, by simp [hvr], hm⟩

/-- `x` passes the restriction set `rs` as `_candidates_from_restrictions` prunes by it: `Survives` for the split of
`rs` into the exact names (dropped again under `negate`: the `hneg` of the stage lemmas) and the rest -/
def Passes (env : Env) (negate : Bool) (rs : List VR) (x : Str) : Prop :=
  Survives env negate (if negate then [] else dedup (rs.filterMap exactOf)) (rs.filter fun r => (exactOf r).isNone) x

/-- the slow path prunes by a union of requirements: the hypothesis is what `union_holds` concludes -/
theorem passes_of_match {rs : List VR} {x : Str} (h : rs = [] ∨ ∃ vr ∈ rs, vrMatch env vr x = true) :
    Passes env false rs x := by
  rcases h with rfl | ⟨vr, hvr, hm⟩
  · exact Or.inl ⟨rfl, rfl⟩
  · cases he : exactOf vr with
    | some s =>
      obtain rfl := exactOf_some vr s he
      obtain rfl : s = x := by simpa [vrMatch] using hm
      exact Or.inr (Or.inl ((dedup_mem _ _).mpr (List.mem_filterMap.mpr ⟨_, hvr, he⟩)))
    | none => exact Or.inr (Or.inr ⟨vr, List.mem_filter.mpr ⟨hvr, by simp [he]⟩, hm⟩)

/-- the fast path prunes by the one restriction of a category or package leaf, under the leaf's own `negate` -/
theorem passes_single {negate : Bool} {vr : VR} {x : Str} (hm : (vrMatch env vr x != negate) = true) :
    Passes env negate [vr] x := by
  cases negate with
  | false => exact passes_of_match (Or.inr ⟨vr, List.mem_singleton.mpr rfl, by simpa using hm⟩)
  | true =>
    cases he : exactOf vr with
    | some s => exact Or.inl ⟨rfl, by simp [he]⟩
    | none => exact Or.inr (Or.inr ⟨vr, by simp [he], by simpa using hm⟩)

theorem passes_nil {negate : Bool} {x : Str} : Passes env negate [] x :=
  Or.inl ⟨by cases negate <;> rfl, rfl⟩

theorem mem_catFilter (rs : List VR) (negate : Bool) (c : Str) :
    c ∈ catFilter env repo rs negate ↔ c ∈ repo.categories ∧ ∃ vr ∈ rs, vrMatch env vr c = !negate := by
  simp [catFilter, List.mem_filter]

theorem mem_packageFilter (cats : List Str) (rs : List VR) (negate : Bool) (c p : Str) :
    (c, p) ∈ packageFilter env repo cats rs negate ↔
      c ∈ cats ∧ p ∈ repo.packages c ∧ ∃ vr ∈ rs, vrMatch env vr p = !negate := by
  simp only [packageFilter]
  rw [mem_pairs]
  simp [List.mem_filter]

theorem catsStage_mem (hS : Lawful S) {catExact : List Str} {catRest : List VR}
    {negate : Bool} {c : Str} (hc : c ∈ repo.categories) (hneg : negate = true → catExact = [])
    (h : Survives env negate catExact catRest c) : c ∈ (catsStage env repo S catExact catRest negate).1 := by
  have hall : c ∈ S.strs repo.categories := (hS.strs _).mem_iff.mpr hc
  unfold catsStage
  by_cases he : catExact = []
  · subst he
    rw [if_neg (show ¬(!([] : List Str).isEmpty) = true by decide)]
    rcases h with ⟨_, rfl⟩ | h | h
    · exact hall
    · cases h
    · rw [apply_ite Prod.fst]
      exact mem_ite ((mem_catFilter ..).mpr ⟨hc, h⟩) hall
  · obtain rfl : negate = false := Bool.eq_false_iff.mpr fun hn => he (hneg hn)
    rw [if_pos (by simpa using he)]
    by_cases hcond : (catRest.isEmpty && catExact.length == 1) = true
    · rw [if_pos hcond]
      rw [List.isEmpty_iff.mp (Bool.and_eq_true_iff.mp hcond).1] at h
      exact survives_exact he h
    · rw [if_neg hcond]
      exact (hS.strs _).mem_iff.mpr ((mem_catFilter ..).mpr ⟨hc, survives_append he h⟩)

theorem pkgStage_mem (hS : Lawful S) {catExact catsIter : List Str}
    {catRest' : List VR} {pkgExact : List Str} {pkgRest : List VR} {negate : Bool} {c p : Str}
    (hc : c ∈ catsIter) (hp : p ∈ repo.packages c) (hneg : negate = true → pkgExact = [])
    (h : Survives env negate pkgExact pkgRest p) :
    (c, p) ∈ pkgStage env repo S catExact catsIter catRest' pkgExact pkgRest negate := by
  have hpk : (c, p) ∈ product repo S catsIter := (mem_product hS).mpr ⟨hc, hp⟩
  -- with both lists given as `[]` or `_ :: _` the emptiness tests of `pkgStage` compute
  cases pkgExact with
  | nil =>
    cases pkgRest with
    | nil =>
      simp only [pkgStage, List.isEmpty_nil, Bool.not_true, Bool.false_and, Bool.false_eq_true, if_false]
      exact mem_ite (mem_ite ((mem_versionKeys).mpr hp) hpk) hpk
    | cons r rs =>
      simp only [pkgStage, List.isEmpty_nil, List.isEmpty_cons, Bool.not_true, Bool.not_false, Bool.false_and,
        Bool.false_eq_true, if_false, if_true]
      rcases h with ⟨_, h⟩ | h | h
      · cases h
      · cases h
      · exact (mem_packageFilter ..).mpr ⟨hc, hp, h⟩
  | cons e es =>
    obtain rfl : negate = false := Bool.eq_false_iff.mpr fun hn => List.cons_ne_nil _ _ (hneg hn)
    cases pkgRest with
    | nil =>
      simp only [pkgStage, List.isEmpty_nil, List.isEmpty_cons, Bool.not_false, Bool.and_self, if_true]
      have hp' : p ∈ e :: es := survives_exact (List.cons_ne_nil _ _) h
      exact (mem_pairs ..).mpr ⟨hc, mem_ite hp' ((hS.strs _).mem_iff.mpr hp')⟩
    | cons r rs =>
      simp only [pkgStage, List.isEmpty_cons, List.cons_append, Bool.not_false, Bool.and_false, Bool.false_eq_true,
        if_false, if_true]
      exact (mem_packageFilter ..).mpr ⟨hc, hp, survives_append (List.cons_ne_nil _ _) h⟩

theorem fromRestrictions_mem (hS : Lawful S) {catR pkgR : List VR} {negate : Bool}
    {c p : Str} (hp : p ∈ repo.packages c)
    (hcat : Passes env negate catR c) (hpkg : Passes env negate pkgR p) :
    (c, p) ∈ fromRestrictions env repo S catR pkgR negate := by
  have hcc := packages_mem_categories hp
  unfold Passes at hcat hpkg
  simp only [fromRestrictions]
  split
  · rename_i c' p' h1 h2 h3 h4
    rw [h1, h2] at hcat
    rw [h3, h4] at hpkg
    obtain rfl : c = c' := List.mem_singleton.mp (survives_exact (List.cons_ne_nil _ _) hcat)
    obtain rfl : p = p' := List.mem_singleton.mp (survives_exact (List.cons_ne_nil _ _) hpkg)
    simp [hp]
  · exact pkgStage_mem hS
      (catsStage_mem hS hcc (fun h => if_pos h) hcat) hp (fun h => if_pos h) hpkg

theorem catFilter_nodup (h : WF repo) {rs : List VR} {negate : Bool} :
    (catFilter env repo rs negate).Nodup := List.Pairwise.filter _ h.cats

theorem packageFilter_nodup (h : WF repo) {cats : List Str} (hc : cats.Nodup) {rs : List VR}
    {negate : Bool} : (packageFilter env repo cats rs negate).Nodup :=
  nodup_pairs hc (fun c _ => List.Pairwise.filter _ (h.pkgs c))

theorem catsStage_nodup (hS : Lawful S) (h : WF repo) {catExact : List Str}
    (hce : catExact.Nodup) {catRest : List VR} {negate : Bool} :
    (catsStage env repo S catExact catRest negate).1.Nodup := by
  unfold catsStage
  split
  · split
    · exact hce
    · exact (hS.strs _).nodup_iff.mpr (catFilter_nodup h)
  · split
    · exact catFilter_nodup h
    · exact (hS.strs _).nodup_iff.mpr h.cats

theorem pkgStage_nodup (hS : Lawful S) (h : WF repo) {catExact catsIter : List Str}
    (hci : catsIter.Nodup) {catRest' : List VR} {pkgExact : List Str} (hpe : pkgExact.Nodup) {pkgRest : List VR}
    {negate : Bool} : (pkgStage env repo S catExact catsIter catRest' pkgExact pkgRest negate).Nodup := by
  have hprod := product_nodup hS h hci
  -- one `nodup_ite` per `if` of `pkgStage`, in its order
  exact nodup_ite
    (nodup_pairs hci fun _ _ => nodup_ite hpe ((hS.strs _).nodup_iff.mpr hpe))
    (nodup_ite (packageFilter_nodup h hci)
      (nodup_ite (nodup_ite (versionKeys_nodup h) hprod) hprod))

theorem fromRestrictions_nodup (hS : Lawful S) (h : WF repo) {catR pkgR : List VR}
    {negate : Bool} : (fromRestrictions env repo S catR pkgR negate).Nodup := by
  have hd : ∀ rs : List VR, (if negate then [] else dedup (rs.filterMap exactOf)).Nodup :=
    fun rs => nodup_ite List.nodup_nil (dedup_nodup _)
  simp only [fromRestrictions]
  split
  · exact nodup_ite (List.nodup_cons.mpr ⟨List.not_mem_nil, List.nodup_nil⟩) List.nodup_nil
  · exact pkgStage_nodup hS h (catsStage_nodup hS h (hd _)) (hd _)

theorem fast_mem_leaf (hS : Lawful S) {i : Nat} {pk : Pkg}
    (hp : pk.name ∈ repo.packages pk.cat) (hm : holds env tbl (.leaf i) pk = true) :
    (pk.cat, pk.name) ∈ fast env tbl repo S (.leaf i) := by
  simp only [holds, Pkgcore.C06.Spec.eval, val, leafMatch] at hm
  simp only [fast, collectAll, List.filterMap_cons, List.filterMap_nil]
  cases ht : tbl i with
  | cat n vr =>
    simp only [ht] at hm ⊢
    exact fromRestrictions_mem hS hp (passes_single hm) passes_nil
  | pkg n vr =>
    simp only [ht] at hm ⊢
    exact fromRestrictions_mem hS hp passes_nil (passes_single hm)
  | other j => exact fromRestrictions_mem hS hp passes_nil passes_nil

theorem fast_mem_neg (hS : Lawful S) {r : R} {pk : Pkg}
    (hp : pk.name ∈ repo.packages pk.cat) : (pk.cat, pk.name) ∈ fast env tbl repo S (.neg r) := by
  simp only [fast, collectAll, List.filterMap_nil]
  exact fromRestrictions_mem hS hp passes_nil passes_nil

theorem fast_nodup (hS : Lawful S) (h : WF repo) {r : R} :
    (fast env tbl repo S r).Nodup := by
  simp only [fast]
  exact fromRestrictions_nodup hS h

theorem required_holds (wantCat : Bool) {cl : Clause} {pk : Pkg}
    (hall : ∀ m ∈ cl, Pkgcore.C06.Spec.eval (val env tbl pk) m = true) :
    ∀ vr ∈ required tbl wantCat cl, vrMatch env vr (if wantCat then pk.cat else pk.name) = true := by
  intro vr hvr
  simp only [required, List.mem_filterMap] at hvr
  obtain ⟨m, hm, hsome⟩ := hvr
  have hev := hall m hm
  split at hsome
  · rename_i i
    simp only [Pkgcore.C06.Spec.eval, val, leafMatch] at hev
    split at hsome
    · rename_i ht
      cases hsome
      simpa [ht] using hev
    · rename_i ht
      cases hsome
      simpa [ht] using hev
    · cases hsome
  · cases hsome

/-- when no later solution deviates from the first in whether `g` of it is empty, `g` is empty on all or on none -/
theorem isEmpty_uniform {α β} (g : α → List β) (d0 : α) (rest : List α)
    (h : ¬ (rest.any fun x => (!(g x).isEmpty) != !(g d0).isEmpty) = true) :
    ∀ x ∈ d0 :: rest, ∀ y ∈ d0 :: rest, g x = [] → g y = [] := by
  have hu : ∀ x ∈ d0 :: rest, (g x).isEmpty = (g d0).isEmpty := by
    intro x hx
    rcases List.mem_cons.mp hx with rfl | hx
    · rfl
    · simp only [List.any_eq_true, not_exists, not_and] at h
      simpa using h x hx
  intro x hx y hy h0
  rw [← List.isEmpty_iff] at h0 ⊢
  rw [hu y hy, ← hu x hx, h0]

theorem exists_false_of_any_ne {α} (f : α → Bool) (d0 : α) (rest : List α)
    (h : (rest.any fun x => f x != f d0) = true) : ∃ x ∈ d0 :: rest, f x = false := by
  obtain ⟨x, hx, hne⟩ := List.any_eq_true.mp h
  cases hfx : f x with
  | false => exact ⟨x, List.mem_cons_of_mem _ hx, hfx⟩
  | true => exact ⟨d0, List.mem_cons_self .., by simpa [hfx] using hne⟩

/-- Pruning by the union, over all solutions, of the requirements of one kind (`g`) is sound when every solution has
one of that kind or none has: what meets the requirements of one solution meets a member of the union, unless the
union is empty. -/
theorem union_holds {α} {g : α → List VR} {ds : List α} {d : α} {s : Str} (hd : d ∈ ds)
    (hu : ∀ y ∈ ds, g d = [] → g y = []) (hall : ∀ vr ∈ g d, vrMatch env vr s = true) :
    ds.flatMap g = [] ∨ ∃ vr ∈ ds.flatMap g, vrMatch env vr s = true := by
  by_cases h0 : g d = []
  · exact Or.inl (List.flatMap_eq_nil_iff.mpr fun y hy => hu y hy h0)
  · obtain ⟨vr, hvr⟩ := List.exists_mem_of_ne_nil _ h0
    exact Or.inr ⟨vr, List.mem_flatMap.mpr ⟨d, hd, hvr⟩, hall vr hvr⟩

theorem identify_mem (hS : Lawful S) {r : R}
    (hb : isBoolNode r = true) {pk : Pkg} (hp : pk.name ∈ repo.packages pk.cat)
    (hm : holds env tbl r pk = true) : (pk.cat, pk.name) ∈ identify env tbl repo S r := by
  -- take the solution `cl` of the DNF that holds of `pk`; then one `by_cases` per `if` of `identify`
  have hcc := packages_mem_categories hp
  obtain ⟨cl, hcl, hall⟩ := Pkgcore.C06.dnf_complete (val env tbl pk) true r hm
  simp only [identify, hb, Bool.not_true, Bool.false_eq_true, if_false]
  generalize hds : (dnf true r).map (fun cl => (required tbl true cl, required tbl false cl)) = ds
  have hd : (required tbl true cl, required tbl false cl) ∈ ds := hds ▸ List.mem_map.mpr ⟨cl, hcl, rfl⟩
  by_cases hany : (ds.any fun x => x.1.isEmpty && x.2.isEmpty) = true
  · rw [if_pos hany]
    exact (mem_allCps hS).mpr hp
  · rw [if_neg hany]
    have hnone : ∀ x ∈ ds, x.1 = [] → x.2 ≠ [] := by
      simpa only [List.any_eq_true, Bool.and_eq_true, List.isEmpty_iff, not_exists, not_and] using hany
    cases ds with
    | nil => cases hd
    | cons d0 rest =>
      simp only
      by_cases hcm : (rest.any fun x => (!x.1.isEmpty) != !d0.1.isEmpty) = true
      · rw [if_pos hcm]
        by_cases hpm : (rest.any fun x => (!x.2.isEmpty) != !d0.2.isEmpty) = true
        · rw [if_pos hpm]
          exact (mem_versionKeys).mpr hp
        · rw [if_neg hpm]
          -- some solution has no category requirement, hence a package requirement: their union is not empty
          obtain ⟨x, hx, hx1⟩ := exists_false_of_any_ne (fun x : List VR × List VR => !x.1.isEmpty) d0 rest hcm
          obtain ⟨vr, hvr, hvm⟩ :=
            (union_holds hd (isEmpty_uniform Prod.snd d0 rest hpm _ hd) (required_holds false hall)).resolve_left
              fun h0 => hnone x hx (by simpa using hx1) (List.flatMap_eq_nil_iff.mp h0 x hx)
          exact (mem_pairs ..).mpr ⟨(hS.strs _).mem_iff.mpr hcc,
            List.mem_filter.mpr ⟨(hS.strs _).mem_iff.mpr hp, List.any_eq_true.mpr ⟨vr, hvr, hvm⟩⟩⟩
      · rw [if_neg hcm]
        have hcat := union_holds hd (isEmpty_uniform Prod.fst d0 rest hcm _ hd) (required_holds true hall)
        by_cases hpm : (rest.any fun x => (!x.2.isEmpty) != !d0.2.isEmpty) = true
        · rw [if_pos hpm]
          -- likewise with the two kinds exchanged
          obtain ⟨x, hx, hx2⟩ := exists_false_of_any_ne (fun x : List VR × List VR => !x.2.isEmpty) d0 rest hpm
          obtain ⟨vr, hvr, hvm⟩ := hcat.resolve_left
            fun h0 => hnone x hx (List.flatMap_eq_nil_iff.mp h0 x hx) (by simpa using hx2)
          exact (mem_product hS ..).mpr
            ⟨List.mem_filter.mpr ⟨(hS.strs _).mem_iff.mpr hcc, List.any_eq_true.mpr ⟨vr, hvr, hvm⟩⟩, hp⟩
        · rw [if_neg hpm]
          exact fromRestrictions_mem hS hp (passes_of_match hcat) (passes_of_match
            (union_holds hd (isEmpty_uniform Prod.snd d0 rest hpm _ hd) (required_holds false hall)))

theorem identify_nodup (hS : Lawful S) (h : WF repo) {r : R} :
    (identify env tbl repo S r).Nodup := by
  have hcats := (hS.strs _).nodup_iff.mpr h.cats
  unfold identify
  refine nodup_ite (fast_nodup hS h) (nodup_ite (allCps_nodup hS h) ?_)
  split
  · exact List.nodup_nil
  · exact nodup_ite
      (nodup_ite (versionKeys_nodup h)
        (nodup_pairs hcats fun c _ => List.Pairwise.filter _ ((hS.strs _).nodup_iff.mpr (h.pkgs c))))
      (nodup_ite (product_nodup hS h (List.Pairwise.filter _ hcats)) (fromRestrictions_nodup hS h))

theorem atomKey_sound {cs : List R} {cp : CP} {pk : Pkg} (hk : atomKey tbl cs = some cp)
    (hm : holds env tbl (.atom cs) pk = true) : (pk.cat, pk.name) = cp := by
  simp only [holds, Pkgcore.C06.Spec.eval, Pkgcore.C06.evalAll_eq, List.all_eq_true] at hm
  simp only [atomKey] at hk
  split at hk
  · rename_i c p hc hpn
    cases hk
    obtain ⟨m1, hm1, hf1⟩ := List.exists_of_findSome?_eq_some hc
    obtain ⟨m2, hm2, hf2⟩ := List.exists_of_findSome?_eq_some hpn
    have e1 := hm m1 hm1
    have e2 := hm m2 hm2
    -- the member found is an un-negated exact CategoryDep (PackageDep), and it holds of the package
    have hcat : pk.cat = c := by
      split at hf1
      · split at hf1
        · rename_i ht
          cases hf1
          simp only [Pkgcore.C06.Spec.eval, val, leafMatch, ht, vrMatch, Bool.bne_false, beq_iff_eq] at e1
          exact e1.symm
        · cases hf1
      · cases hf1
    have hname : pk.name = p := by
      split at hf2
      · split at hf2
        · rename_i ht
          cases hf2
          simp only [Pkgcore.C06.Spec.eval, val, leafMatch, ht, vrMatch, Bool.bne_false, beq_iff_eq] at e2
          exact e2.symm
        · cases hf2
      · cases hf2
    rw [hcat, hname]
  · cases hk

theorem candidates_mem (hS : Lawful S) {r : R}
    (hk : atomsKeyed tbl r = true) {pk : Pkg} (hp : pk.name ∈ repo.packages pk.cat) (hm : holds env tbl r pk = true) :
    (pk.cat, pk.name) ∈ candidates env tbl repo S r := by
  cases r with
  | leaf i =>
    simp only [candidates, identify, isBoolNode, Bool.not_false, if_true]
    exact fast_mem_leaf hS hp hm
  | neg r' =>
    simp only [candidates, identify, isBoolNode, Bool.not_false, if_true]
    exact fast_mem_neg hS hp
  | and n cs | or n cs | justOne n cs | atMostOne n cs =>
    simp only [candidates]
    exact identify_mem hS rfl hp hm
  | atom cs =>
    simp only [atomsKeyed, Option.isSome_iff_exists] at hk
    obtain ⟨cp, hcp⟩ := hk
    simp only [candidates, hcp, List.mem_singleton]
    exact atomKey_sound hcp hm

theorem candidates_nodup (hS : Lawful S) (h : WF repo) {r : R} :
    (candidates env tbl repo S r).Nodup := by
  cases r with
  | atom cs =>
    simp only [candidates]
    split
    · simp
    · exact identify_nodup hS h
  | _ =>
    simp only [candidates]
    exact identify_nodup hS h

/-- the repository lists the package in the form queried -/
def Listed (repo : Repo) (versioned : Bool) (pk : Pkg) : Prop :=
  if versioned then ∃ v ∈ repo.versions (pk.cat, pk.name), pk.ver = some v
  else repo.versions (pk.cat, pk.name) ≠ [] ∧ pk.ver = none

/-- the left side is the body of the `flatMap` of `genCandidates` -/
theorem mem_genOne (hS : Lawful S) (versioned : Bool) (cp : CP) (pk : Pkg) :
    pk ∈ (if versioned then S.pkgs ((repo.versions cp).map fun v => ⟨cp.1, cp.2, some v⟩)
      else if (repo.versions cp).isEmpty then [] else S.pkgs [⟨cp.1, cp.2, none⟩]) ↔
    (pk.cat, pk.name) = cp ∧ Listed repo versioned pk := by
  obtain ⟨c, p⟩ := cp
  obtain ⟨pc, pn, pv⟩ := pk
  cases versioned
  · simp only [Bool.false_eq_true, if_false, Listed, Prod.mk.injEq]
    by_cases he : repo.versions (c, p) = []
    · simp only [he, List.isEmpty_nil, if_true, List.not_mem_nil, false_iff]
      rintro ⟨⟨rfl, rfl⟩, h, _⟩
      exact h he
    · rw [if_neg (by simpa using he), (hS.pkgs _).mem_iff, List.mem_singleton, Pkg.mk.injEq]
      constructor
      · rintro ⟨rfl, rfl, rfl⟩
        exact ⟨⟨rfl, rfl⟩, he, rfl⟩
      · rintro ⟨⟨rfl, rfl⟩, _, rfl⟩
        exact ⟨rfl, rfl, rfl⟩
  · simp only [if_true, Listed, (hS.pkgs _).mem_iff, List.mem_map, Pkg.mk.injEq, Prod.mk.injEq]
    constructor
    · rintro ⟨v, hv, rfl, rfl, rfl⟩
      exact ⟨⟨rfl, rfl⟩, v, hv, rfl⟩
    · rintro ⟨⟨rfl, rfl⟩, v, hv, rfl⟩
      exact ⟨v, hv, rfl, rfl, rfl⟩

theorem mem_genCandidates (hS : Lawful S) (versioned : Bool) (cands : List CP) (pk : Pkg) :
    pk ∈ genCandidates repo S versioned cands ↔ (pk.cat, pk.name) ∈ cands ∧ Listed repo versioned pk := by
  simp only [genCandidates, List.mem_flatMap, mem_genOne hS, (hS.cps _).mem_iff]
  exact ⟨fun ⟨_, h, e, hv⟩ => ⟨e ▸ h, hv⟩, fun ⟨h, hv⟩ => ⟨_, h, rfl, hv⟩⟩

theorem genCandidates_nodup (hS : Lawful S) (h : WF repo) {versioned : Bool} {cands : List CP}
    (hc : cands.Nodup) : (genCandidates repo S versioned cands).Nodup := by
  refine nodup_flatMap_of ((hS.cps _).nodup_iff.mpr hc) (fun cp _ => ?_) fun a _ b _ hab x hxa hxb =>
    hab (((mem_genOne hS ..).mp hxa).1.symm.trans ((mem_genOne hS ..).mp hxb).1)
  exact nodup_ite
    ((hS.pkgs _).nodup_iff.mpr (List.Pairwise.map _ (fun a b hab e => hab (by simpa using e)) (h.vers cp)))
    (nodup_ite List.nodup_nil ((hS.pkgs _).nodup_iff.mpr (List.nodup_cons.mpr ⟨List.not_mem_nil, List.nodup_nil⟩)))

theorem Listed.packages {repo : Repo} {versioned : Bool} {pk : Pkg} (h : Listed repo versioned pk) :
    pk.name ∈ repo.packages pk.cat := by
  cases versioned
  · obtain ⟨v, hv⟩ := List.exists_mem_of_ne_nil _ h.1
    exact versions_mem_packages hv
  · obtain ⟨v, hv, _⟩ := h
    exact versions_mem_packages hv

theorem lawful_id : Lawful ⟨true, id, id, id⟩ := ⟨fun _ => .refl _, fun _ => .refl _, fun _ => .refl _⟩

theorem allOf_eq_gen (versioned : Bool) :
    allOf repo versioned = genCandidates repo ⟨true, id, id, id⟩ versioned repo.versionKeys := by
  cases versioned
  · simp only [allOf, allUnversioned, genCandidates, id, Bool.false_eq_true, if_false]
    induction repo.versionKeys with
    | nil => rfl
    | cons cp l ih =>
      rw [List.filter_cons, List.flatMap_cons, ← ih]
      cases (repo.versions cp).isEmpty <;> rfl
  · rfl

theorem mem_allOf (versioned : Bool) (pk : Pkg) : pk ∈ allOf repo versioned ↔ Listed repo versioned pk := by
  rw [allOf_eq_gen, mem_genCandidates lawful_id, mem_versionKeys]
  exact ⟨fun h => h.2, fun h => ⟨h.packages, h⟩⟩

theorem allOf_nodup (h : WF repo) {versioned : Bool} : (allOf repo versioned).Nodup :=
  allOf_eq_gen (repo := repo) versioned ▸ genCandidates_nodup lawful_id h (versionKeys_nodup h)

theorem pmatches_eq_holds (r : R) (pk : Pkg) : pmatches env tbl r pk = holds env tbl r pk :=
  Pkgcore.C06.mtch_eq _ r

theorem mem_itermatch_iff (hS : Lawful S) (versioned : Bool)
    (r : R) (hk : atomsKeyed tbl r = true) (pk : Pkg) :
    pk ∈ itermatch env tbl repo S versioned r ↔ pk ∈ answer env tbl repo versioned r := by
  simp only [itermatch, answer, List.mem_filter, mem_genCandidates hS, mem_allOf, pmatches_eq_holds]
  exact ⟨fun ⟨⟨_, hv⟩, hm⟩ => ⟨hv, hm⟩,
    fun ⟨hv, hm⟩ => ⟨⟨candidates_mem hS hk (Listed.packages hv) hm, hv⟩, hm⟩⟩

end Pkgcore.C08
