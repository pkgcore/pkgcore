import Pkgcore.Spec.C15
import Pkgcore.Proofs.C17
/-!
# C15 — the checker's walk over the plan computes the declaratively described package sets

First half (`Pkgcore.C15`): `PInv` relates the checker's two lists to `Present` / `Merged` of the plan walked so far,
one operation at a time (`pinv_step`); `planOk_iff` reads the three Boolean tests off it.

Second half (`namespace Pkgcore.C17`, on top of `Proofs/C17`): the notions `SlotUnique`, `UnforcedCmd`, `UnforcedStep`
in which `Props/C15`'s `unforced_slot_unique` is stated, and `slotUnique_apply`: an unforced operation keeps at most one
package per slot, so `SlotUnique` is `Stable` and C17's history induction applies.
-/
namespace Pkgcore.C15
open List

theorem find_some {U : List Pkg} {i : Nat} {p : Pkg} (h : find U i = some p) : p ∈ U ∧ p.id = i := by
  unfold find at h
  exact ⟨List.mem_of_find?_eq_some h, by simpa using List.find?_some h⟩

/-- `chk` (`idsOk`, `slotsOk`) compares the `key` of every element with those of all later ones -/
theorem distinctKeys_iff {α κ : Type} (key : α → κ) (chk : List α → Bool) (eqb : α → α → Bool)
    (heq : ∀ q p, eqb q p = true ↔ key q = key p) (h0 : chk [] = true)
    (hc : ∀ p ps, chk (p :: ps) = (!(ps.any fun q => eqb q p) && chk ps)) (l : List α) :
    chk l = true ↔ (l.map key).Nodup := by
  induction l with
  | nil => exact ⟨fun _ => List.nodup_nil, fun _ => h0⟩
  | cons x xs ih =>
    rw [hc, Bool.and_eq_true, ih, Bool.not_eq_true', List.any_eq_false, List.map_cons, List.nodup_cons, List.mem_map]
    simp only [heq, not_exists, not_and]

theorem idsOk_iff (U : List Pkg) : idsOk U = true ↔ (U.map (·.id)).Nodup :=
  distinctKeys_iff (·.id) idsOk (fun q p => q.id == p.id) (fun _ _ => beq_iff_eq) rfl (fun _ _ => rfl) U

theorem slotsOk_iff (F : List Pkg) : slotsOk F = true ↔ (F.map fun p => (p.key, p.slot)).Nodup :=
  distinctKeys_iff (fun p => (p.key, p.slot)) slotsOk _ (fun _ _ => by simp) rfl (fun _ _ => rfl) F

/-- `Builds` and `Displaced` (`Spec/C15`) of a single operation, see `builds_snoc`, `displaced_snoc` -/
def Op.builds : Op → Nat → Prop
  | .add i, j | .replace _ i, j => i = j
  | .remove _, _ => False

def Op.displaces : Op → Nat → Prop
  | .replace o _, j | .remove o, j => o = j
  | .add _, _ => False

theorem builds_snoc (pre : List Op) (op : Op) (j : Nat) : Builds (pre ++ [op]) j ↔ Builds pre j ∨ op.builds j := by
  simp only [Builds, List.mem_append, List.mem_singleton]
  cases op <;> simp [Op.builds, exists_or, or_assoc, or_comm, or_left_comm, eq_comm]

theorem displaced_snoc (pre : List Op) (op : Op) (j : Nat) :
    Displaced (pre ++ [op]) j ↔ Displaced pre j ∨ op.displaces j := by
  simp only [Displaced, List.mem_append, List.mem_singleton]
  cases op <;> simp [Op.displaces, exists_or, or_assoc, or_comm, or_left_comm, eq_comm]

theorem merged_snoc (U : List Pkg) (pre : List Op) (op : Op) (q : Pkg) :
    Merged U (pre ++ [op]) q ↔ Merged U pre q ∨ (q ∈ U ∧ q.livefs = false ∧ op.builds q.id) := by
  simp only [Merged, builds_snoc]
  constructor
  · rintro ⟨a, b, c | c⟩
    · exact .inl ⟨a, b, c⟩
    · exact .inr ⟨a, b, c⟩
  · rintro (⟨a, b, c⟩ | ⟨a, b, c⟩)
    · exact ⟨a, b, .inl c⟩
    · exact ⟨a, b, .inr c⟩

theorem present_snoc (U : List Pkg) (pre : List Op) (op : Op) (q : Pkg) :
    Present U (pre ++ [op]) q ↔
      (Present U pre q ∧ ¬ (q ∈ U ∧ q.livefs = true ∧ op.displaces q.id)) ∨
        (q ∈ U ∧ q.livefs = false ∧ op.builds q.id) := by
  simp only [Present, merged_snoc, displaced_snoc]
  constructor
  · rintro (⟨a, b, c⟩ | h | h)
    · exact .inl ⟨.inl ⟨a, b, fun d => c (.inl d)⟩, fun d => c (.inr d.2.2)⟩
    · exact .inl ⟨.inr h, fun d => by rw [h.2.1] at d; cases d.2.1⟩
    · exact .inr h
  · rintro (⟨⟨a, b, c⟩ | h, d⟩ | h)
    · exact .inl ⟨a, b, fun e => e.elim c fun e => d ⟨a, b, e⟩⟩
    · exact .inr (.inl h)
    · exact .inr (.inr h)

/-- the clause an operation on id `i` adds to `Merged` and `Present` (right-hand sides of `merged_snoc`,
`present_snoc`, with `b` the `livefs` flag asked for) names one package, the `p` that `find` returns -/
theorem find_unique {U : List Pkg} (hU : idsOk U = true) {i : Nat} {p : Pkg} (hf : find U i = some p) (b : Bool)
    (q : Pkg) :
    (q ∈ U ∧ q.livefs = b ∧ i = q.id) ↔ (q = p ∧ p.livefs = b) := by
  obtain ⟨hp, hi⟩ := find_some hf
  constructor
  · rintro ⟨hq, hl, e⟩
    obtain rfl := Lib.inj_of_nodup_map ((idsOk_iff U).mp hU) hq hp (e ▸ hi.symm)
    exact ⟨rfl, hl⟩
  · rintro ⟨rfl, hl⟩; exact ⟨hp, hl, hi.symm⟩

/-- invariant of `runPlan`'s walk: after the operations `pre` the checker holds the lists `(cur, merged)` -/
structure PInv (U : List Pkg) (pre : List Op) (cur merged : List Pkg) : Prop where
  nodup : cur.Nodup
  cur_iff : ∀ p, p ∈ cur ↔ Present U pre p
  merged_iff : ∀ p, p ∈ merged ↔ Merged U pre p

theorem pinv_init {U : List Pkg} (h : idsOk U = true) : PInv U [] (U.filter (·.livefs)) [] where
  nodup := (Lib.nodup_of_nodup_map ((idsOk_iff U).mp h)).filter _
  cur_iff p := by simp [Present, Merged, Displaced, Builds, List.mem_filter]
  merged_iff p := by simp [Merged, Builds]

theorem pinv_step {U : List Pkg} (hU : idsOk U = true) {pre : List Op} {cur merged cur' merged' : List Pkg} {op : Op}
    (I : PInv U pre cur merged) (h : stepOp U (cur, merged) op = some (cur', merged')) :
    PInv U (pre ++ [op]) cur' merged' := by
  -- in every case `stepOp` has looked the operation's ids up; `find_unique` (`fi`, `fo`) turns the clause that
  -- `present_snoc` / `merged_snoc` add for such an id into `q = p`, and `simp` compares with what was done to the lists
  have hmem : ∀ old q, q ∈ cur.erase old ↔ q ∈ cur ∧ q ≠ old := fun old q => by
    rw [I.nodup.mem_erase_iff]; exact and_comm
  cases op with
  | add i =>
    obtain ⟨p, hf, h⟩ := Option.bind_eq_some_iff.mp h
    have fi := find_unique hU hf
    by_cases hl : p.livefs = true
    · rw [if_pos hl] at h
      by_cases hc : cur.contains p = true
      · rw [if_pos hc] at h
        obtain ⟨rfl, rfl⟩ := Prod.mk.inj (Option.some.inj h)
        exact ⟨I.nodup, fun q => by simp [present_snoc, Op.builds, Op.displaces, fi, hl, I.cur_iff],
          fun q => by simp [merged_snoc, Op.builds, fi, hl, I.merged_iff]⟩
      · rw [if_neg hc] at h; cases h
    · rw [if_neg hl] at h
      by_cases hc : cur.contains p = true
      · rw [if_pos hc] at h; cases h
      · rw [if_neg hc] at h
        obtain ⟨rfl, rfl⟩ := Prod.mk.inj (Option.some.inj h)
        have hpc : p ∉ cur := by simpa using hc
        refine ⟨Lib.nodup_concat I.nodup hpc, fun q => ?_, fun q => ?_⟩
        · simp [present_snoc, Op.builds, Op.displaces, fi, hl, I.cur_iff]
        · simp [merged_snoc, Op.builds, fi, hl, I.merged_iff]
  | replace o i =>
    obtain ⟨old, hfo, h⟩ := Option.bind_eq_some_iff.mp h
    obtain ⟨p, hf, h⟩ := Option.bind_eq_some_iff.mp h
    have fo := find_unique hU hfo
    have fi := find_unique hU hf
    by_cases hcond : (old.livefs && cur.contains old && !p.livefs && !(cur.erase old).contains p) = true
    · rw [if_pos hcond] at h
      obtain ⟨rfl, rfl⟩ := Prod.mk.inj (Option.some.inj h)
      simp only [Bool.and_eq_true, Bool.not_eq_true', List.contains_eq_mem, decide_eq_true_eq,
        decide_eq_false_iff_not] at hcond
      obtain ⟨⟨⟨hol, -⟩, hpl⟩, hpc⟩ := hcond
      refine ⟨Lib.nodup_concat (I.nodup.erase _) hpc, fun q => ?_, fun q => ?_⟩
      · simp [present_snoc, Op.builds, Op.displaces, fi, fo, hol, hpl, hmem, I.cur_iff]
      · simp [merged_snoc, Op.builds, fi, hpl, I.merged_iff]
    · rw [if_neg hcond] at h; cases h
  | remove o =>
    obtain ⟨old, hfo, h⟩ := Option.bind_eq_some_iff.mp h
    have fo := find_unique hU hfo
    by_cases hcond : (old.livefs && cur.contains old) = true
    · rw [if_pos hcond] at h
      obtain ⟨rfl, rfl⟩ := Prod.mk.inj (Option.some.inj h)
      have hol : old.livefs = true := (Bool.and_eq_true _ _ ▸ hcond).1
      exact ⟨I.nodup.erase _, fun q => by simp [present_snoc, Op.builds, Op.displaces, fo, hol, hmem, I.cur_iff],
        fun q => by simp [merged_snoc, Op.builds, I.merged_iff]⟩
    · rw [if_neg hcond] at h; cases h

theorem pinv_run {U : List Pkg} (hU : idsOk U = true) {rest pre : List Op} {cur merged cur' merged' : List Pkg}
    (I : PInv U pre cur merged) (h : runPlan U (cur, merged) rest = some (cur', merged')) :
    PInv U (pre ++ rest) cur' merged' := by
  induction rest generalizing pre cur merged with
  | nil => obtain ⟨rfl, rfl⟩ := Prod.mk.inj (Option.some.inj h); rwa [List.append_nil]
  | cons op rest ih =>
    obtain ⟨⟨c1, m1⟩, h1, h2⟩ := Option.bind_eq_some_iff.mp h
    have := ih (pinv_step hU I h1) h2
    rwa [List.append_assoc] at this

theorem altOk_iff {U : List Pkg} {plan : List Op} {F : List Pkg} (hF : ∀ p, p ∈ F ↔ Present U plan p)
    (p : Pkg) (a : Atom) : altOk F p a = true ↔ Satisfied U plan p a := by
  unfold altOk Satisfied
  by_cases hb : a.blocks = true
  · simp only [hb, if_true, Bool.not_eq_true', List.any_eq_false, Bool.and_eq_true, bne_iff_ne, ne_eq, not_and,
      Bool.not_eq_true, hF]
  · simp only [hb, Bool.false_eq_true, if_false, List.any_eq_true, hF]

/-- the fourth requirement of `Good` is the second one read on the clauses that consist of one blocker -/
theorem blockerFree_of_closed {U : List Pkg} {plan : List Op}
    (closed : ∀ p, Merged U plan p → ∀ cls ∈ p.deps, ∀ cl ∈ cls, ∃ a ∈ cl, Satisfied U plan p a) :
    ∀ p, Merged U plan p → ∀ cls ∈ p.deps, ∀ a, [a] ∈ cls → a.blocks = true →
      ∀ q, Present U plan q → q.id ≠ p.id → atomMatch a q = false := by
  intro p hp cls hcls a ha hb q hq hne
  obtain ⟨a', ha', hsat⟩ := closed p hp cls hcls [a] ha
  obtain rfl := List.mem_singleton.mp ha'
  rw [Satisfied, if_pos hb] at hsat
  exact hsat q hq hne

theorem planOk_iff (U : List Pkg) (targets : List Atom) (plan : List Op) :
    planOk U targets plan = true ↔
      idsOk U = true ∧ (runPlan U (U.filter (·.livefs), []) plan).isSome = true ∧ Good U targets plan := by
  unfold planOk
  by_cases hU : idsOk U = true
  · cases hr : runPlan U (U.filter (·.livefs), []) plan with
    | none => simp
    | some st =>
      obtain ⟨F, merged⟩ := st
      have I : PInv U plan F merged := List.nil_append plan ▸ pinv_run hU (pinv_init hU) hr
      have hT : (∀ t ∈ targets, ∃ p ∈ F, atomMatch t p = true) ↔
          ∀ t ∈ targets, ∃ p, Present U plan p ∧ atomMatch t p = true := by simp only [I.cur_iff]
      have hS : slotsOk F = true ↔
          ∀ p q, Present U plan p → Present U plan q → p.key = q.key → p.slot = q.slot → p = q := by
        simp only [slotsOk_iff, ← I.cur_iff]
        exact ⟨fun h p q hp hq ek es => Lib.inj_of_nodup_map h hp hq (Prod.ext ek es),
          fun h => Lib.nodup_map_on I.nodup fun p hp q hq e =>
            h p q hp hq (Prod.ext_iff.mp e).1 (Prod.ext_iff.mp e).2⟩
      have hC : (∀ p ∈ merged, pkgClosed F p = true) ↔
          ∀ p, Merged U plan p → ∀ cls ∈ p.deps, ∀ cl ∈ cls, ∃ a ∈ cl, Satisfied U plan p a := by
        simp only [pkgClosed, clauseOk, List.all_eq_true, List.any_eq_true, altOk_iff I.cur_iff, I.merged_iff]
      simp only [hU, Bool.true_and, true_and, Option.isSome_some, Bool.and_eq_true, List.all_eq_true, List.any_eq_true,
        hT, hS, hC]
      exact ⟨fun ⟨⟨t, s⟩, c⟩ => ⟨t, c, s, blockerFree_of_closed c⟩,
        fun g => ⟨⟨g.targetsMet, g.slotConsistent⟩, g.closed⟩⟩
  · simp [hU]

end Pkgcore.C15

namespace Pkgcore.C17
open List

def SlotUnique (U : Univ) (s : State) : Prop :=
  ∀ p q, p ∈ s.slots → q ∈ s.slots → sameSlot U p q = true → p = q

/-- neither `add_op` nor `replace_op` is given `force=True` -/
def UnforcedCmd : Cmd → Prop
  | .add _ _ f => f = false
  | .replace _ _ f => f = false
  | _ => True

def UnforcedStep : Step → Prop
  | .op c => UnforcedCmd c
  | .rollback _ => True

theorem SlotUnique.of_subset {U : Univ} {s t : State} (h : ∀ p, p ∈ t.slots → p ∈ s.slots)
    (su : SlotUnique U s) : SlotUnique U t := fun p q hp hq hs => su p q (h p hp) (h q hq) hs

theorem SlotUnique.of_perm {U : Univ} {s t : State} (h : s.slots ~ t.slots) (su : SlotUnique U s) :
    SlotUnique U t := su.of_subset fun _ => h.mem_iff.mpr

theorem SlotUnique.append {U : Univ} {s : State} {p : Nat} (su : SlotUnique U s)
    (hfree : s.slots.filter (sameSlot U p) = []) : SlotUnique U { s with slots := s.slots ++ [p] } := by
  have hno : ∀ x, x ∈ s.slots → sameSlot U p x = false := fun x hx =>
    Bool.eq_false_iff.mpr (List.filter_eq_nil_iff.mp hfree x hx)
  intro a b ha hb hs
  simp only [List.mem_append, List.mem_singleton] at ha hb
  rcases ha with ha | rfl <;> rcases hb with hb | rfl
  · exact su a b ha hb hs
  · rw [sameSlot_symm, hno a ha] at hs; cases hs
  · rw [hno b hb] at hs; cases hs
  · rfl

theorem slotUnique_apply (U : Univ) {s s' : State} {c : Cmd} {out : List Conf} (i : Inv s) (su : SlotUnique U s)
    (hu : UnforcedCmd c) (ha : applicable U s c = true) (h : applyCmd U s c = some (s', out)) : SlotUnique U s' := by
  cases c with
  | add c p f =>
    obtain rfl : f = false := hu
    rw [applyCmd_add] at h
    cases hr : refused U s p false
    all_goals
      rw [hr] at h
      obtain ⟨rfl, -⟩ := Prod.mk.inj (Option.some.inj h)
    · exact su.append (occupants_of_not_refused U hr)
    · exact su
  | hardref r =>
    obtain ⟨rfl, -⟩ := Prod.mk.inj (Option.some.inj h)
    exact su
  | backref c p =>
    obtain ⟨rfl, -⟩ := Prod.mk.inj (Option.some.inj h)
    exact su
  | incref c b =>
    obtain ⟨rfl, -⟩ := Prod.mk.inj (Option.some.inj h)
    exact su
  | decref c b =>
    obtain ⟨s1, h1, h2⟩ := Option.map_eq_some_iff.mp h
    obtain ⟨rfl, -⟩ := Prod.mk.inj h2
    obtain ⟨_, rfl⟩ := decrefApply_some U h1
    exact su
  | remove c p =>
    rw [applyCmd_remove] at h
    split at h
    · obtain ⟨m, hm, e⟩ := Option.map_eq_some_iff.mp h
      obtain ⟨rfl, -⟩ := Prod.mk.inj e
      exact SlotUnique.of_subset (s := s) (fun q hq => (decrefAll_frame U hm).1 ▸ (List.mem_filter.mp hq).1) su
    · cases h
  | replace c p f =>
    obtain rfl : f = false := hu
    obtain ⟨old, oldc, hocc, hl⟩ := replace_occupant U i ha
    rw [applyCmd_replace U c false hocc hl] at h
    obtain ⟨m, hm, h⟩ := Option.bind_eq_some_iff.mp h
    obtain ⟨f1, -⟩ := decrefAll_frame U hm
    split at h
    · obtain ⟨s'', hb, hs'', -⟩ := replace_refused U i (occupants_single U hocc).1 hm
      rw [hb] at h
      obtain ⟨rfl, -⟩ := Prod.mk.inj (Option.some.inj h)
      exact SlotUnique.of_perm hs''.slots.symm su
    · rename_i hr
      obtain ⟨rfl, -⟩ := Prod.mk.inj (Option.some.inj h)
      have hfree : (m.slots.filter (· != old)).filter (sameSlot U p) = [] := by
        rw [f1]
        exact occupants_of_not_refused U (s := { m with slots := s.slots.filter (· != old) })
          (Bool.not_eq_true _ ▸ hr)
      exact (su.of_subset (t := { m with slots := m.slots.filter (· != old) })
        fun q hq => f1 ▸ (List.mem_filter.mp hq).1).append hfree

theorem stable_slotUnique (U : Univ) : Stable U UnforcedCmd (SlotUnique U) :=
  ⟨fun h => .of_perm h.slots, slotUnique_apply U⟩

end Pkgcore.C17
