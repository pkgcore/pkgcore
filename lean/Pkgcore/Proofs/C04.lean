import Pkgcore.Spec.C04
import Pkgcore.Proofs.C02
/-! C04 — after four model-free list lemmas, each restriction built by `atom.restrictions` against its clause of the
specification: the USE restrictions (`useRestrs_eq`), the `=*` glob as a prefix of value tokens
(`verGlobMatch_eq_spec`), the version operators (`opVals_spec`, `versionRestr_eq`), and their conjunction
(`atomMatch_clauses`; `atomMatch_eq` against `matchSpecWith`); last, that matching reads a version, the atom's or the
package's, only through its `key` (`opSpec_congr_key`, `versionRestr_congr_key`, `atomMatch_congr_ver`). -/
namespace Pkgcore.C04
open Pkgcore.C01 Pkgcore.C01.Spec Pkgcore.C02 Pkgcore.C04.Spec Std

-- `compare` on C01's `key` and its nested pairs is the lexicographic order (Proofs/C01.lean)
attribute [local instance] lexOrd

theorem all_and {α : Type} (l : List α) (f g : α → Bool) :
    (l.all f && l.all g) = l.all (fun x => f x && g x) := by
  rw [Bool.eq_iff_iff]
  simp only [Bool.and_eq_true, List.all_eq_true, ← forall_and]

theorem all_eq_all_filter {α : Type} (l : List α) (c g : α → Bool) (h : ∀ x ∈ l, c x = false → g x = true) :
    l.all g = (l.filter c).all g := by
  rw [Bool.eq_iff_iff, List.all_eq_true, List.all_eq_true]
  refine ⟨fun H x hx => H x (List.mem_filter.mp hx).1, fun H x hx => ?_⟩
  cases hc : c x
  · exact h x hx hc
  · exact H x (List.mem_filter.mpr ⟨hx, hc⟩)

theorem take_eq_iff_prefix {α : Type} (l1 l2 : List α) : l2.take l1.length = l1 ↔ l1 <+: l2 :=
  eq_comm.trans List.prefix_iff_eq_take.symm

theorem inl_inr_prefix_iff {α β : Type} (A1 A2 : List α) (B1 B2 : List β) :
    A1.map Sum.inl ++ B1.map Sum.inr <+: A2.map Sum.inl ++ B2.map (Sum.inr : β → α ⊕ β) ↔
      if B1 = [] then A1 <+: A2 else A1 = A2 ∧ B1 <+: B2 := by
  induction A1 generalizing A2 with
  | nil =>
    cases A2 with
    | nil =>
      rw [List.map_nil, List.nil_append, List.nil_append, List.prefix_map_iff_of_injective fun _ _ => Sum.inr.inj]
      cases B1 <;> simp
    | cons a A2 => cases B1 <;> simp
  | cons a1 A1 ih =>
    cases A2 with
    | nil => cases B1 <;> cases B2 <;> simp
    | cons a2 A2 =>
      simp only [List.map_cons, List.cons_append, List.cons_prefix_cons, ih A2, Sum.inl.injEq, List.cons.injEq]
      split <;> simp only [and_assoc]

theorem all_bucket (deps : List UseDep) (d : Option Bool) (on : Bool) (g : Str → Bool) :
    (bucket deps d on).all g = deps.all (fun u => !(u.dflt == d && u.on == on) || g u.flag) :=
  List.all_map.trans List.all_filter

/-- `ContainmentMatch` as the code builds it, `match_all` and `negate` opposite: every flag is in the state `all` -/
theorem containment_eq (vals use : List Str) (all neg : Bool) (h : all = !neg) :
    containment vals all neg use = vals.all (fun f => use.contains f == all) := by
  subst h
  cases neg <;> simp [containment]

theorem useHolds_of_iuse (p : Pkg) (f : Str) (on : Bool) (d : Option Bool) (h : p.iuse.contains f = true) :
    useHolds p ⟨f, on, d⟩ = (p.use.contains f == on) := by simp only [useHolds, flagState, h, if_true]

theorem useHolds_of_not_iuse (p : Pkg) (f : Str) (on m : Bool) (h : p.iuse.contains f = false) :
    useHolds p ⟨f, on, some m⟩ = (m == on) := by simp only [useHolds, flagState, h, Bool.false_eq_true, if_false]

/-- `StaticUseDep(F, T)`: the deps `-f` for `f` in `F` and `f` for `f` in `T` -/
theorem staticUseDep_eq (F T : List Str) (p : Pkg) :
    staticUseDep F T p =
      (F.all (fun f => useHolds p ⟨f, false, none⟩) && T.all (fun f => useHolds p ⟨f, true, none⟩)) := by
  unfold staticUseDep
  rw [containment_eq F p.use false true rfl, containment_eq T p.use true false rfl]
  simp only [useHolds, flagState, ite_self]
  cases F <;> cases T <;> simp

theorem useDefaultContainment_eq (m : Bool) (vals : List Str) (neg : Bool) (p : Pkg) :
    useDefaultContainment m vals neg p.iuse p.use = vals.all (fun f => useHolds p ⟨f, !neg, some m⟩) := by
  -- flags in IUSE are judged by USE
  have inIuse : ∀ l : List Str, (∀ f ∈ l, p.iuse.contains f = true) →
      containment l (!neg) neg p.use = l.all (fun f => useHolds p ⟨f, !neg, some m⟩) := fun l hl => by
    rw [containment_eq _ _ _ _ rfl]; exact Lib.all_congr_left fun f hf => by rw [useHolds_of_iuse p f _ _ (hl f hf)]
  unfold useDefaultContainment
  by_cases hall : vals.all (fun f => p.iuse.contains f) = true
  · rw [if_pos hall]; exact inIuse vals (List.all_eq_true.mp hall)
  · rw [if_neg hall]
    by_cases hm : (m == neg) = true
    · -- some flag is missing and takes the default `m = neg`, the wrong one
      obtain ⟨f0, hf0, h0⟩ := List.all_eq_false.mp (Bool.not_eq_true _ ▸ hall)
      rw [if_pos hm]; symm
      refine List.all_eq_false.mpr ⟨f0, hf0, ?_⟩
      rw [useHolds_of_not_iuse p f0 _ m (Bool.not_eq_true _ ▸ h0), eq_of_beq hm]; cases neg <;> decide
    · -- missing flags are satisfied by their default, the others are judged by USE
      rw [if_neg hm]
      have hm' : (m == !neg) = true := by cases m <;> cases neg <;> first | rfl | exact absurd rfl hm
      have hout : ∀ f ∈ vals, p.iuse.contains f = false → useHolds p ⟨f, !neg, some m⟩ = true :=
        fun f _ hout => by rw [useHolds_of_not_iuse p f _ m hout]; exact hm'
      rw [all_eq_all_filter vals (fun f => p.iuse.contains f) _ hout,
        ← inIuse _ fun f hf => (List.mem_filter.mp hf).2]
      cases vals.filter (fun f => p.iuse.contains f) with
      | nil => cases neg <;> rfl
      | cons a l => rfl

/-- `UseDepDefault(m, F, T)`: the deps `-f(m)` for `f` in `F` and `f(m)` for `f` in `T` -/
theorem useDepDefault_eq (m : Bool) (F T : List Str) (p : Pkg) :
    useDepDefault m F T p =
      (F.all (fun f => useHolds p ⟨f, false, some m⟩) && T.all (fun f => useHolds p ⟨f, true, some m⟩)) := by
  unfold useDepDefault
  rw [useDefaultContainment_eq, useDefaultContainment_eq]
  cases F <;> cases T <;> simp

theorem useRestrs_eq (deps : List UseDep) (p : Pkg) : useRestrs deps p = deps.all (useHolds p) := by
  unfold useRestrs
  simp only [staticUseDep_eq, useDepDefault_eq]
  -- a restriction is left out when both its buckets are empty, and then it holds anyway
  have holds_of_empty : ∀ (A B : List Str) (f g : Str → Bool), (A.isEmpty && B.isEmpty) = true →
      (A.all f && B.all g) = true := by
    intro A B f g h
    cases A <;> cases B <;> simp_all
  have left_out : ∀ (e v : Bool), (e = true → v = true) → (if e = true then [] else [v]).all id = v := by
    intro e v h
    cases e
    · simp
    · simp [h rfl]
  rw [List.all_append, List.all_append, left_out _ _ (holds_of_empty _ _ _ _), left_out _ _ (holds_of_empty _ _ _ _),
    left_out _ _ (holds_of_empty _ _ _ _)]
  simp only [all_bucket, all_and]
  apply Lib.all_congr_left
  intro u _
  obtain ⟨flag, on, dflt⟩ := u
  -- the dep is in exactly one of the six buckets, and stands there as itself
  cases on <;> rcases dflt with _ | _ | _ <;> simp

/-- a version component reduced to its PMS value (the pieces of `cpv.ver_hash_key`): number, letter, suffix or
revision — a sum, so that components of different kinds differ by type -/
abbrev VTok := CompK ⊕ Char ⊕ (Suf × Nat) ⊕ Nat

def tokVal : Tok → VTok
  | .first s => .inl (.int (natOfDigits s))
  | .comp s => .inl (compK s)
  | .letter c => .inr (.inl c)
  | .suf s n => .inr (.inr (.inl (s, natOfDigits n)))
  | .rev n => .inr (.inr (.inr (natOfDigits n)))

/-- tokens on which `tokEq` is literally equality of values; not the first number, whose value a later component
can have too while `tokEq` keeps the two apart -/
def TokOk : Tok → Prop
  | .first _ => False
  | .comp s => digits s
  | _ => True

theorem pmsComp_eq_iff_compK (a b : Str) (ha : digits a) (hb : digits b) :
    (pmsComp a b == .eq) = true ↔ compK a = compK b := by
  rw [pmsComp_eq_key a b ha hb, beq_iff_eq, compK_eq_iff]
  exact LawfulEqCmp.compare_eq_iff_eq (cmp := (compare : CompKey → CompKey → Ordering))

theorem tokEq_val (a b : Tok) (ha : TokOk a) (hb : TokOk b) : tokEq a b = true ↔ tokVal a = tokVal b := by
  cases a <;> cases b
  case comp.comp s t => simp only [tokEq, tokVal, Sum.inl.injEq]; exact pmsComp_eq_iff_compK s t ha hb
  all_goals simp_all [tokEq, tokVal, TokOk]

theorem prefixBy_val (l1 l2 : List Tok) (h1 : ∀ t ∈ l1, TokOk t) (h2 : ∀ t ∈ l2, TokOk t) :
    prefixBy tokEq l1 l2 = true ↔ l1.map tokVal <+: l2.map tokVal := by
  induction l1 generalizing l2 with
  | nil => simp [prefixBy]
  | cons a l1 ih =>
    cases l2 with
    | nil => simp [prefixBy]
    | cons b l2 =>
      simp only [prefixBy, List.map_cons, List.cons_prefix_cons, Bool.and_eq_true]
      rw [tokEq_val a b (h1 a List.mem_cons_self) (h2 b List.mem_cons_self),
        ih l2 (fun t ht => h1 t (List.mem_cons_of_mem a ht)) (fun t ht => h2 t (List.mem_cons_of_mem b ht))]

/-- the hash key as value tokens, in writing order and nested as `VTok` is; revision 0 is left out -/
def vtoks (k : VKey) : List VTok :=
  k.nums.map Sum.inl ++ (k.letter.toList.map Sum.inl ++
    (k.sufs.map Sum.inl ++ (if k.rev = 0 then [] else [k.rev]).map Sum.inr).map Sum.inr).map Sum.inr

/-- `rest` is the tail of `toks` as its body writes it; the hash key lists the same pieces, already as values -/
theorem toks_vtoks (v : Ver) (r : Str) (h : WF v) :
    ∃ c rest, toks v r = Tok.first c :: rest ∧ (∀ t ∈ rest, TokOk t) ∧
      vtoks (verHashKey v r) = Sum.inl (.int (natOfDigits c)) :: rest.map tokVal := by
  obtain ⟨n, d⟩ := h
  unfold toks vtoks verHashKey
  cases hc : v.comps with
  | nil => exact absurd hc n
  | cons a as =>
    refine ⟨a, as.map Tok.comp ++ ((v.letter.map Tok.letter).toList ++ (v.sufs.map (fun x => Tok.suf x.1 x.2) ++
      (if natOfDigits r = 0 then [] else [Tok.rev r]))), by simp only [List.cons_append, List.append_assoc],
      fun t ht => ?_, ?_⟩
    · simp only [List.mem_append, List.mem_map] at ht
      rcases ht with ⟨c, hc', rfl⟩ | ht | ⟨x, _, rfl⟩ | ht
      · exact d c (by simp [hc, hc'])
      · simp at ht
        obtain ⟨_, _, rfl⟩ := ht
        trivial
      · trivial
      · split at ht <;> simp at ht
        subst ht
        trivial
    · simp only [List.headD_cons, List.tail_cons, List.map_cons, List.cons_append, List.map_append, List.map_map]
      congr 3
      · cases v.letter <;> rfl
      · congr 1
        split <;> rfl

theorem globSpec_vtoks (gv : Ver) (gr : Str) (v : Ver) (r : Str) (hg : WF gv) (hv : WF v) :
    globSpec gv gr v r = true ↔ vtoks (verHashKey gv gr) <+: vtoks (verHashKey v r) := by
  obtain ⟨a, as, e1, ok1, e1'⟩ := toks_vtoks gv gr hg
  obtain ⟨b, bs, e2, ok2, e2'⟩ := toks_vtoks v r hv
  rw [globSpec, e1, e2, e1', e2', List.cons_prefix_cons, ← prefixBy_val _ _ ok1 ok2]
  simp only [prefixBy, tokEq, Bool.and_eq_true, beq_iff_eq, Sum.inl.injEq, CompK.int.injEq]

theorem verGlobMatch_vtoks (gv : Ver) (gr : Str) (v : Ver) (r : Str) :
    verGlobMatch gv gr v r = true ↔ vtoks (verHashKey gv gr) <+: vtoks (verHashKey v r) := by
  /- `vtoks` lists numbers, then the letter, then suffixes, then the revision.  `inl_inr_prefix_iff` splits the prefix
  test at each of the three boundaries in turn: every part of the glob but its last non-empty one must equal the
  package's, the last one must be a prefix.  `take` (numbers, suffixes) and `==` (letter, revision) are those tests. -/
  unfold verGlobMatch
  generalize verHashKey gv gr = g
  generalize verHashKey v r = k
  obtain ⟨gn, gl, gs, grev⟩ := g
  obtain ⟨kn, kl, ks, krev⟩ := k
  unfold vtoks
  rw [inl_inr_prefix_iff, inl_inr_prefix_iff, inl_inr_prefix_iff]
  have rev_prefix : ∀ a b : Nat, a ≠ 0 → ([a] <+: (if b = 0 then [] else [b]) ↔ a = b) := fun a b ha => by
    by_cases hb : b = 0 <;> simp [ha, hb]
  have letter_eq : ∀ a b : Option Char, a.toList = b.toList ↔ a = b := fun a b => by cases a <;> cases b <;> simp
  simp only [List.append_eq_nil_iff, List.map_eq_nil_iff, Lib.ite_nil_iff, letter_eq]
  by_cases hr : grev = 0
  · subst hr
    by_cases hs : gs = []
    · subst hs
      cases gl with
      | none => simp [take_eq_iff_prefix]
      | some c => cases kl <;> simp
    · simp [hs, and_assoc, take_eq_iff_prefix]
  · simp [hr, rev_prefix grev krev hr, and_assoc]

theorem verGlobMatch_eq_spec (gv : Ver) (gr : Str) (v : Ver) (r : Str) (hg : WF gv) (hv : WF v) :
    verGlobMatch gv gr v r = globSpec gv gr v r := by
  rw [Bool.eq_iff_iff, globSpec_vtoks gv gr v r hg hv, verGlobMatch_vtoks]

/-- the generated `_convert_str2op` table on the operators of an atom (`~` is `(0,)` without revisions) -/
theorem opVals_opText (op : Op) :
    opVals (opText op) = match op with
      | .lt => some ([-1], false) | .le => some ([-1, 0], false) | .eq => some ([0], false)
      | .ge => some ([0, 1], false) | .gt => some ([1], false) | .tilde => some ([0], true) | .glob => none := by
  cases op <;> decide +kernel

theorem opVals_spec (op : Op) (h : op ≠ .glob) : ∃ vals d, opVals (opText op) = some (vals, d) ∧
    ∀ negate v r pv pr, versionMatch vals d negate v (some r) pv (some pr) = (opSpec op v r pv pr != negate) := by
  cases op
  case glob => exact absurd rfl h
  all_goals
    refine ⟨_, _, opVals_opText _, fun negate v r pv pr => ?_⟩
    rw [versionMatch_pms _ _ _ _ _ _ _ (Or.inr (Or.inr ⟨rfl, rfl⟩))]
    simp only [opSpec, Bool.false_eq_true, if_false, if_true]
    generalize pmsCmp _ _ _ _ = c
    cases c <;> rfl

/-- why the `none` arm of the model's `versionRestr` is unreachable -/
theorem opVals_some (op : Op) (h : op ≠ .glob) : ∃ vals d, opVals (opText op) = some (vals, d) :=
  let ⟨vals, d, e, _⟩ := opVals_spec op h; ⟨vals, d, e⟩

theorem versionRestr_eq (op : Op) (v : Ver) (r : Str) (negate : Bool) (p : Pkg) (hv : WF v) (hp : WF p.ver) :
    versionRestr op v r negate p =
      if op = .glob then opSpec op v r p.ver p.rev else (opSpec op v r p.ver p.rev != negate) := by
  by_cases hop : op = .glob
  · subst hop
    simp only [versionRestr, if_true]
    exact verGlobMatch_eq_spec v r p.ver p.rev hv hp
  · obtain ⟨vals, d, e, h⟩ := opVals_spec op hop
    rw [if_neg hop, ← h]
    cases op
    case glob => exact absurd rfl hop
    all_goals simp only [versionRestr, e]

/-- the spec with the version test replaced by an arbitrary Boolean: `opSpec` there gives `matchSpec`
(`matchSpec_eq_matchSpecWith`), the version restriction gives `atomMatch` (`atomMatch_eq`) -/
def matchSpecWith (vt : Bool) (a : Atom) (p : Pkg) : Bool :=
  a.cat == p.cat && a.pkg == p.pkg && vt &&
  optEq a.slot p.slot && optEq a.subslot p.subslot && optEq a.repo p.repo &&
  (match a.use with
   | none => true
   | some deps => deps.all (useHolds p))

theorem matchSpec_eq_matchSpecWith (a : Atom) (p : Pkg) : matchSpec a p =
    matchSpecWith (match a.vop with | none => true | some (op, v, r) => opSpec op v r p.ver p.rev) a p := rfl

/-- `atom.match` clause by clause, in the order of `matchSpecWith`; a sub-slot is looked at only beside a slot -/
theorem atomMatch_clauses (a : Atom) (p : Pkg) : atomMatch a p =
    (a.cat == p.cat && a.pkg == p.pkg && (a.vop.all fun c => versionRestr c.1 c.2.1 c.2.2 a.negate p) &&
      (a.slot.all fun s => s == p.slot && optEq a.subslot p.subslot) && optEq a.repo p.repo &&
      a.use.all (useRestrs · p)) := by
  -- first in the order `atom.restrictions` lists them
  calc atomMatch a p
      = (optEq a.repo p.repo && (a.pkg == p.pkg && a.cat == p.cat) &&
          (a.vop.all fun c => versionRestr c.1 c.2.1 c.2.2 a.negate p) &&
          (a.slot.all fun s => s == p.slot && optEq a.subslot p.subslot) && a.use.all (useRestrs · p)) := by
        unfold atomMatch restrictions
        rw [List.all_append, List.all_append, List.all_append, List.all_append]
        congr 1; congr 1; congr 1; congr 1
        · cases a.repo <;> simp [optEq, strExact]
        · simp [strExact]
        · cases a.vop <;> simp
        · cases a.slot <;> cases a.subslot <;> simp [optEq, strExact]
        · cases a.use <;> simp
    _ = _ := by ac_rfl

theorem atomMatch_eq (a : Atom) (p : Pkg) (hsub : a.subslot.isSome → a.slot.isSome) :
    atomMatch a p = matchSpecWith
      (match a.vop with | none => true | some (op, v, r) => versionRestr op v r a.negate p) a p := by
  have hslot : (a.slot.all fun s => s == p.slot && optEq a.subslot p.subslot) =
      (optEq a.slot p.slot && optEq a.subslot p.subslot) := by
    cases hs : a.slot with
    | some s => rfl
    | none =>
      cases hss : a.subslot with
      | none => rfl
      | some ss => rw [hs, hss] at hsub; exact absurd (hsub rfl) (by decide)
  rw [atomMatch_clauses, hslot, ← Bool.and_assoc]
  unfold matchSpecWith
  cases a.vop <;> cases a.use <;> simp only [Option.all_none, Option.all_some, useRestrs_eq]

theorem key_of_pms_eq (v v' : Ver) (r r' : Str) (hv : WF v) (hv' : WF v')
    (h : pmsCmp v (some r) v' (some r') = .eq) : key v (some r) = key v' (some r') := by
  rw [pmsCmp_eq_key _ _ _ _ hv hv'] at h
  exact (LawfulEqCmp.compare_eq_iff_eq (cmp := (compare : Key → Key → Ordering))).mp h

theorem pmsCmp_congr_key {a a' b b' : Ver} {ra ra' rb rb' : Str} (ha : WF a) (ha' : WF a') (hb : WF b) (hb' : WF b')
    (hka : key a (some ra) = key a' (some ra')) (hkb : key b (some rb) = key b' (some rb')) :
    pmsCmp a (some ra) b (some rb) = pmsCmp a' (some ra') b' (some rb') ∧
      pmsCmp a none b none = pmsCmp a' none b' none := by
  simp only [pmsCmp_eq_key _ _ _ _ ha hb, pmsCmp_eq_key _ _ _ _ ha' hb', hka, hkb, true_and]
  -- `key _ none` and `key _ (some _)` differ in the last component only
  simp only [key, Prod.mk.injEq] at hka hkb
  simp only [key, hka, hkb]

theorem verGlobMatch_congr_key {gv gv' v v' : Ver} {gr gr' r r' : Str} (hg : key gv (some gr) = key gv' (some gr'))
    (hk : key v (some r) = key v' (some r')) : verGlobMatch gv gr v r = verGlobMatch gv' gr' v' r' := by
  unfold verGlobMatch
  rw [(verHashKey_eq_iff gv gv' gr gr').mpr hg, (verHashKey_eq_iff v v' r r').mpr hk]

theorem opSpec_congr_key (op : Op) {v v' pv pv' : Ver} {r r' pr pr' : Str} (hv : WF v) (hv' : WF v') (hp : WF pv)
    (hp' : WF pv') (hk : key v (some r) = key v' (some r')) (hkp : key pv (some pr) = key pv' (some pr')) :
    opSpec op v r pv pr = opSpec op v' r' pv' pr' := by
  obtain ⟨c1, c0⟩ := pmsCmp_congr_key hp hp' hv hv' hkp hk
  cases op
  case glob =>
    simp only [opSpec]
    rw [← verGlobMatch_eq_spec v r pv pr hv hp, ← verGlobMatch_eq_spec v' r' pv' pr' hv' hp',
      verGlobMatch_congr_key hk hkp]
  all_goals simp only [opSpec, c1, c0]

theorem versionRestr_congr_key (op : Op) (neg : Bool) {v v' : Ver} {r r' : Str} {p p' : Pkg} (hv : WF v) (hv' : WF v')
    (hp : WF p.ver) (hp' : WF p'.ver) (hk : key v (some r) = key v' (some r'))
    (hkp : key p.ver (some p.rev) = key p'.ver (some p'.rev)) :
    versionRestr op v r neg p = versionRestr op v' r' neg p' := by
  rw [versionRestr_eq op v r neg p hv hp, versionRestr_eq op v' r' neg p' hv' hp',
    opSpec_congr_key op hv hv' hp hp' hk hkp]

theorem WF_of_vop {a : Atom} (ha : Atom.WF a) {op : Op} {v : Ver} {r : Str} (hv : a.vop = some (op, v, r)) : WF v := by
  have := ha.1
  rwa [hv] at this

theorem atomMatch_congr_ver (a : Atom) (p : Pkg) (v' : Ver) (r' : Str) (ha : Atom.WF a) (hp : WF p.ver) (hv' : WF v')
    (heq : pmsCmp p.ver (some p.rev) v' (some r') = .eq) :
    atomMatch a p = atomMatch a { p with ver := v', rev := r' } := by
  rw [atomMatch_eq a p ha.2, atomMatch_eq a _ ha.2]
  cases hv : a.vop with
  | none => rfl
  | some q =>
    obtain ⟨op, v, r⟩ := q
    have hw : WF v := WF_of_vop ha hv
    simp only [versionRestr_congr_key op a.negate (p' := { p with ver := v', rev := r' }) hw hw hp hv' rfl
      (key_of_pms_eq p.ver v' p.rev r' hp hv' heq)]
    rfl

end Pkgcore.C04
