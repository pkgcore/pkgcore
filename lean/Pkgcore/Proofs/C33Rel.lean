import Pkgcore.Spec.C33
/-!
The notions the C33 statements use: a well-formed image (`WF`) and what an operation leaves at its own path
(`Op.leafOk`); `Op.toEntry`, through which a plan is compared with the prescribed entries (it keeps the path and the
directory kind: `toEntry_path`, `toEntry_isDir`), and the two relations up to which the comparison holds where it is not
an equation (`LoopRel`, `TreeRel`).
-/
namespace Pkgcore.C33
open Pkgcore.C33.Spec

/-- hence every ancestor of an entry is a directory (`wf_ancestors`) -/
def WF (fs : Fs) : Prop := ∀ p n, fs p = some n → p ≠ [] → fs.isDir p.dropLast = true

/-- what an operation leaves at its own path (`before` = the image it was applied to; `q` of `mkdirs` is left open) -/
def Op.leafOk (u : Umask) (before : Fs) : Op → Option Node → Prop
  | .mkdirs p mode, r => p = [] ∨ ∃ q, r = some (.dir ((mode.map (·.over q)).getD q))
  | .copy (.file id) _ mode, r => r = some (.file ((mode.map (·.over u.fileMode)).getD u.fileMode) id)
  | .copy (.link t) _ mode, r =>
    r = some (.link t ((mode.map (·.over u.fileMode)).getD u.fileMode).uid
      ((mode.map (·.over u.fileMode)).getD u.fileMode).gid)
  | .symlink t _, r => r = some (.link t u.fileMode.uid u.fileMode.gid)
  | .relink t _, r => r = some (.link t u.fileMode.uid u.fileMode.gid)
  | .hardlink src _, r => ∃ m id, before src = some (.file m id) ∧ r = some (.file m id)
  | .touch _, r => ∃ m, r = some (.file m 0)

def Op.toEntry : Op → Entry
  | .mkdirs p m => .dir p m
  | .copy (.file id) p m => .file p m id
  | .copy (.link t) p m => .link p t m
  | .symlink t p => .newlink p t
  | .relink t p => .link p t none
  | .hardlink s p => .hard s p
  | .touch p => .keep p

def Op.isMkdirs : Op → Bool
  | .mkdirs _ _ => true
  | _ => false

def Spec.Entry.isDir : Entry → Bool
  | .dir _ _ => true
  | _ => false

@[simp] theorem isDir_dir (p : Path) (m : Option Attr) : (Entry.dir p m).isDir = true := rfl
@[simp] theorem isMkdirs_mkdirs (p : Path) (m : Option Attr) : (Op.mkdirs p m).isMkdirs = true := rfl

theorem toEntry_path (op : Op) : op.toEntry.path = op.path := by
  cases op with
  | copy c p m => cases c <;> rfl
  | _ => rfl

theorem toEntry_isDir (o : Op) : o.toEntry.isDir = o.isMkdirs := by
  cases o with
  | copy c p m => cases c <;> rfl
  | _ => rfl

/-- A `doman`/`domo` loop started with the directory set `seen`, against the prescribed entries.  The specification
lists a page's directory before every page, the loop creates it only when it is not in its set.  So: the same rejection,
or the same non-directory entries in the same order, every operation a prescribed entry, and every prescribed entry
produced unless it is a directory of `seen` (which an earlier page created). -/
def LoopRel (c : Ctx) (seen : List Str) : Except Rej (List Op) → Except Rej (List Entry) → Prop
  | .error e, .error e' => e = e'
  | .ok ops, .ok es =>
    (ops.filter (!·.isMkdirs)).map Op.toEntry = es.filter (!·.isDir) ∧
    (∀ o ∈ ops, o.toEntry ∈ es) ∧
    (∀ e ∈ es, e ∈ ops.map Op.toEntry ∨ ∃ d ∈ seen, e = Entry.dir (prefixed c d) c.dirMode)
  | _, _ => False

/-- A recursive install against the prescribed entries: the same entries up to order (`os.walk` makes three passes
over a directory, the specification lists depth first), and one side rejects iff the other does — the reasons are not
compared, since the passes need not meet the same bad child first. -/
def TreeRel : Except Rej (List Op) → Except Rej (List Entry) → Prop
  | .ok ops, .ok es => (ops.map Op.toEntry).Perm es
  | .error _, .error _ => True
  | _, _ => False

end Pkgcore.C33
