import Pkgcore.Proofs.C33Rel
/-!
The interpreter: what one successful operation does to the image (`OpFacts` — frame, well-formedness, directories and
entries stay, the target exists; `applyOp_facts` adds `Op.leafOk` and that only `mkdirs` may find a directory at its
path), the same for a run (`RunFacts`), and that a hard link onto a directory fails.
-/
namespace Pkgcore.C33
open Pkgcore.C33.Spec

theorem wf_empty : WF emptyFs := by intro p n h; simp [emptyFs] at h

theorem isDir_cases (fs : Fs) (p : Path) (h : fs.isDir p = true) : p = [] ∨ ∃ m, fs p = some (.dir m) := by
  unfold Fs.isDir at h
  by_cases hp : p = []
  · exact Or.inl hp
  · right
    simp only [hp, decide_false, Bool.false_or] at h
    split at h
    · rename_i m hm; exact ⟨m, hm⟩
    · nomatch h

theorem wf_ancestors (fs : Fs) (hwf : WF fs) (a t : Path) (n : Node) (h : fs (a ++ t) = some n) :
    fs.isDir a = true ∨ t = [] := by
  induction t generalizing a n with
  | nil => exact .inr rfl
  | cons x t ih =>
    have key : ∀ k, fs (a ++ [x]) = some k → fs.isDir a = true := fun k hk => by
      simpa only [List.dropLast_concat] using hwf _ k hk (List.concat_ne_nil x a)
    rw [List.append_cons] at h
    rcases ih _ _ h with hd | rfl
    · exact (isDir_cases fs _ hd).elim (fun e => absurd e (List.concat_ne_nil x a)) fun ⟨m, hm⟩ => .inl (key _ hm)
    · exact .inl (key n (by rwa [List.append_nil] at h))

theorem isDir_of_dir (fs : Fs) (p : Path) (m : Perm) (h : fs p = some (.dir m)) : fs.isDir p = true := by
  unfold Fs.isDir; simp [h]

theorem Fs.set_self (fs : Fs) (p : Path) (n : Node) : fs.set p n p = some n := if_pos rfl

theorem Fs.set_ne (fs : Fs) {p q : Path} (n : Node) (h : q ≠ p) : fs.set p n q = fs q := if_neg h

/-- `hk`: what is put at `p` is a directory or does not replace one -/
theorem isDir_set (fs : Fs) (p a : Path) (n : Node) (hk : (∃ m, n = .dir m) ∨ ∀ m, fs p ≠ some (.dir m))
    (h : fs.isDir a = true) : (fs.set p n).isDir a = true := by
  rcases isDir_cases fs a h with rfl | ⟨m, hm⟩
  · rfl
  · by_cases hap : a = p
    · subst hap
      rcases hk with ⟨m', rfl⟩ | hk
      · exact isDir_of_dir _ _ m' (Fs.set_self ..)
      · exact absurd hm (hk m)
    · exact isDir_of_dir _ _ m ((Fs.set_ne fs n hap).trans hm)

structure OpFacts (fs fs' : Fs) (target : Path) : Prop where
  frame : ∀ q, ¬ q <+: target → fs' q = fs q
  wf : WF fs → WF fs'
  dirsStay : ∀ q, fs.isDir q = true → fs'.isDir q = true
  entriesStay : ∀ q, (fs q).isSome → (fs' q).isSome
  targetExists : target ≠ [] → (fs' target).isSome

theorem OpFacts.trans {fs fs1 fs2 : Fs} {t1 t2 : Path} (h1 : OpFacts fs fs1 t1) (h2 : OpFacts fs1 fs2 t2)
    (ht : t1 <+: t2) : OpFacts fs fs2 t2 :=
  ⟨fun q hq => (h2.frame q hq).trans (h1.frame q fun h => hq (h.trans ht)), fun w => h2.wf (h1.wf w),
    fun q hq => h2.dirsStay q (h1.dirsStay q hq), fun q hq => h2.entriesStay q (h1.entriesStay q hq), h2.targetExists⟩

/-- `hpar` (the parent of `p` is a directory) is wanted for `wf` only, hence under `WF fs`: the attribute change on an
existing directory knows it from there -/
theorem OpFacts.set (fs : Fs) (p : Path) (n : Node) (hk : (∃ m, n = .dir m) ∨ ∀ m, fs p ≠ some (.dir m))
    (hpar : WF fs → p ≠ [] → fs.isDir p.dropLast = true) : OpFacts fs (fs.set p n) p where
  frame q hq := Fs.set_ne fs n fun e => hq (e ▸ List.prefix_refl _)
  wf hwf q k hqk hq := by
    apply isDir_set fs p _ n hk
    by_cases hqp : q = p
    · exact hqp ▸ hpar hwf (hqp ▸ hq)
    · exact hwf q k ((Fs.set_ne fs n hqp).symm.trans hqk) hq
  dirsStay a := isDir_set fs p a n hk
  entriesStay q hq := by
    by_cases hqp : q = p
    · rw [hqp, Fs.set_self]; rfl
    · rwa [Fs.set_ne fs n hqp]
  targetExists _ := by rw [Fs.set_self]; rfl

theorem mkdirsAux_facts (u : Umask) (rest : List Str) : ∀ (fs : Fs) (pre : Path) (fs' : Fs),
    fs.isDir pre = true → mkdirsAux u fs pre rest = .ok fs' →
    OpFacts fs fs' (pre ++ rest) ∧ fs'.isDir (pre ++ rest) = true := by
  induction rest with
  | nil =>
    intro fs pre fs' hpre h
    cases h
    rw [List.append_nil]
    refine ⟨⟨fun _ _ => rfl, id, fun _ h => h, fun _ h => h, fun hp => ?_⟩, hpre⟩
    rcases isDir_cases fs pre hpre with e | ⟨m, hm⟩
    · exact absurd e hp
    · exact hm ▸ rfl
  | cons comp rest ih =>
    intro fs pre fs' hpre h
    rw [mkdirsAux] at h
    rw [List.append_cons]
    split at h
    · obtain ⟨f, hd⟩ := ih _ _ _ (isDir_of_dir _ _ _ (Fs.set_self ..)) h
      exact ⟨(OpFacts.set fs (pre ++ [comp]) _ (.inl ⟨_, rfl⟩) fun _ _ => List.dropLast_concat ▸ hpre).trans f
        (List.prefix_append _ _), hd⟩
    · rename_i m hm
      exact ih _ _ _ (isDir_of_dir fs _ m hm) h
    · nomatch h
    · nomatch h

theorem placeLeaf_facts (fs : Fs) (p : Path) (n : Node) (fs' : Fs) (h : placeLeaf fs p n = .ok fs') :
    ¬ fs.isDir p = true ∧ OpFacts fs fs' p ∧ fs' p = some n := by
  unfold placeLeaf at h
  by_cases hp : p = []
  · rw [if_pos hp] at h; nomatch h
  · rw [if_neg hp] at h
    by_cases hl : isLinkAt fs p.dropLast = true
    · rw [if_pos hl] at h; nomatch h
    · rw [if_neg hl] at h
      by_cases hd : (!fs.isDir p.dropLast) = true
      · rw [if_pos hd] at h; nomatch h
      · rw [if_neg hd] at h
        split at h
        · nomatch h
        · rename_i hnd
          cases h
          exact ⟨fun h => (isDir_cases fs p h).elim hp fun ⟨m, hm⟩ => hnd m hm,
            OpFacts.set fs p n (.inr fun m hm => hnd m hm) fun _ _ => by simpa using hd, Fs.set_self ..⟩

theorem applyOpRaw_facts (u : Umask) (fs fs' : Fs) (op : Op) (h : applyOpRaw u fs op = .ok fs') :
    (op.isMkdirs = true ∨ ¬ fs.isDir op.path = true) ∧ OpFacts fs fs' op.path ∧ op.leafOk u fs (fs' op.path) := by
  cases op with
  | mkdirs p mode =>
    refine ⟨.inl rfl, ?_⟩
    simp only [applyOpRaw, bind, Except.bind] at h
    split at h
    · nomatch h
    · rename_i fs1 h1
      obtain ⟨f, hd⟩ := mkdirsAux_facts u p fs [] fs1 rfl h1
      cases mode with
      | none => cases h; exact ⟨f, isDir_cases _ _ hd⟩
      | some a =>
        dsimp only at h
        split at h
        · rename_i q hq
          cases h
          exact ⟨f.trans (OpFacts.set fs1 p _ (.inl ⟨_, rfl⟩) fun hwf hp => hwf p _ hq hp) (List.prefix_refl _),
            .inr ⟨q, Fs.set_self ..⟩⟩
        · rename_i hnd
          cases h
          exact ⟨f, (isDir_cases _ _ hd).imp id fun ⟨m, hm⟩ => absurd hm (hnd m)⟩
  | copy c p mode => cases c <;> exact (placeLeaf_facts fs p _ fs' h).imp_left .inr
  | relink t p => exact (placeLeaf_facts fs p _ fs' h).imp_left .inr
  | symlink t p =>
    simp only [applyOpRaw] at h
    split at h
    · nomatch h
    · exact (placeLeaf_facts fs p _ fs' h).imp_left .inr
  | hardlink src p =>
    simp only [applyOpRaw] at h
    split at h
    · rename_i m id hsrc
      by_cases hsp : src = p
      · rw [if_pos hsp] at h; nomatch h
      · rw [if_neg hsp] at h
        have f := placeLeaf_facts fs p _ fs' h
        exact ⟨.inr f.1, f.2.1, m, id, hsrc, f.2.2⟩
    · nomatch h
    · nomatch h
  | touch p =>
    simp only [applyOpRaw] at h
    split at h
    · have f := placeLeaf_facts fs p _ fs' h
      exact ⟨.inr f.1, f.2.1, _, f.2.2⟩
    · nomatch h
    · have f := placeLeaf_facts fs p _ fs' h
      exact ⟨.inr f.1, f.2.1, _, f.2.2⟩

theorem applyOp_facts (u : Umask) (fs fs' : Fs) (op : Op) (h : applyOp u fs op = .ok fs') :
    (op.isMkdirs = true ∨ ¬ fs.isDir op.path = true) ∧ OpFacts fs fs' op.path ∧ op.leafOk u fs (fs' op.path) := by
  unfold applyOp at h
  by_cases hd : op.dotted = true
  · rw [if_pos hd] at h; nomatch h
  · rw [if_neg hd] at h; exact applyOpRaw_facts u fs fs' op h

theorem runOps_cons (u : Umask) (fs : Fs) (op : Op) (ops : List Op) (fs' : Fs)
    (h : runOps u fs (op :: ops) = .ok fs') : ∃ fs1, applyOp u fs op = .ok fs1 ∧ runOps u fs1 ops = .ok fs' := by
  rw [runOps] at h
  split at h
  · rename_i fs1 h1; exact ⟨fs1, h1, h⟩
  · nomatch h

theorem runOps_append (u : Umask) (a b : List Op) (fs fs' : Fs) (h : runOps u fs (a ++ b) = .ok fs') :
    ∃ fs1, runOps u fs a = .ok fs1 ∧ runOps u fs1 b = .ok fs' := by
  induction a generalizing fs with
  | nil => exact ⟨fs, rfl, h⟩
  | cons op a ih =>
    obtain ⟨fs1, h1, h2⟩ := runOps_cons u fs op (a ++ b) fs' h
    obtain ⟨fs2, h3, h4⟩ := ih fs1 h2
    exact ⟨fs2, by simp [runOps, h1, h3], h4⟩

structure RunFacts (fs fs' : Fs) (ops : List Op) : Prop where
  frame : ∀ q, (∀ op ∈ ops, ¬ q <+: op.path) → fs' q = fs q
  wf : WF fs → WF fs'
  dirsStay : ∀ q, fs.isDir q = true → fs'.isDir q = true
  entriesStay : ∀ q, (fs q).isSome → (fs' q).isSome
  targetExists : ∀ op ∈ ops, op.path ≠ [] → (fs' op.path).isSome

theorem runOps_facts (u : Umask) (ops : List Op) :
    ∀ (fs fs' : Fs), runOps u fs ops = .ok fs' → RunFacts fs fs' ops := by
  induction ops with
  | nil =>
    intro fs fs' h
    cases h
    exact ⟨fun _ _ => rfl, id, fun _ h => h, fun _ h => h, fun _ h => nomatch h⟩
  | cons op ops ih =>
    intro fs fs' h
    obtain ⟨fs1, h1, h2⟩ := runOps_cons u fs op ops fs' h
    have f1 := (applyOp_facts u fs fs1 op h1).2.1
    have f2 := ih fs1 fs' h2
    refine ⟨?_, fun w => f2.wf (f1.wf w), fun q hq => f2.dirsStay q (f1.dirsStay q hq),
      fun q hq => f2.entriesStay q (f1.entriesStay q hq), ?_⟩
    · intro q hq
      rw [f2.frame q (fun o ho => hq o (by simp [ho])), f1.frame q (hq op (by simp))]
    · intro o ho hp
      simp only [List.mem_cons] at ho
      rcases ho with rfl | ho
      · exact f2.entriesStay _ (f1.targetExists hp)
      · exact f2.targetExists o ho hp

theorem hardlink_onto_dir_error (u : Umask) (fs : Fs) (src p : Path) (h : fs.isDir p = true) :
    ∃ e, applyOp u fs (.hardlink src p) = .error e := by
  cases hr : applyOp u fs (.hardlink src p) with
  | error e => exact ⟨e, rfl⟩
  | ok fs' =>
    have hnm : ¬ (Op.hardlink src p).isMkdirs = true := Bool.false_ne_true
    exact absurd h ((applyOp_facts u fs fs' _ hr).1.resolve_left hnm)

/-- `os.makedirs(p)` then `os.link(src, p)`: whatever the image, the second step finds a directory in its way -/
theorem mkdirs_then_hardlink_error (u : Umask) (fs : Fs) (p src : Path) (mode : Option Attr) :
    ∃ e, runOps u fs [.mkdirs p mode, .hardlink src p] = .error e := by
  simp only [runOps]
  cases h1 : applyOp u fs (.mkdirs p mode) with
  | error e => exact ⟨e, rfl⟩
  | ok fs1 =>
    have hdir : fs1.isDir p = true :=
      (applyOp_facts u fs fs1 _ h1).2.2.elim (fun e => e ▸ rfl) fun ⟨_, h⟩ => isDir_of_dir _ _ _ h
    obtain ⟨e, he⟩ := hardlink_onto_dir_error u fs1 src p hdir
    simp only [he]
    exact ⟨e, rfl⟩

end Pkgcore.C33
