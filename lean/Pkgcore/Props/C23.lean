import Pkgcore.Proofs.C23
/-!
# C23 — merge-time permission hardening never lets unsafe modes through

`Standard` (the trigger lists the theorems quantify over) with its lemmas, then the property theorems and the two
definitions one of them needs; their `Trigger.step`, `hardenWith` and `Entry.rename` stand with their lemmas in
`Pkgcore/Proofs/C23.lean`.
Model: `fix_uid_perms`, `fix_gid_perms`, `fix_set_bits`, `detect_world_writable` as dict updates on `new_cset`
(`Pkgcore/Model/C23.lean`); specification: `Spec.Hardened` (`Pkgcore/Spec/C23.lean`).
The theorems hold for the hardening triggers run **in any order, any number of times** (`Standard`), in particular
for the order in which a default install/replace engine runs them (generated from the real engine).
-/
namespace Pkgcore.C23
open Pkgcore.C23.Spec

/-- a `pre_merge` trigger list made of the hardening triggers for build user/group `bu`/`bg` and root `ru`/`rg`, in
any order and multiplicity, each of the three fixing triggers present at least once -/
structure Standard (bu ru bg rg : Nat) (ts : List Trigger) : Prop where
  only : ∀ t ∈ ts, t = .fixUid bu ru ∨ t = .fixGid bg rg ∨ t = .fixSetBits ∨ ∃ fp, t = .detectWorldWritable fp
  has_uid : .fixUid bu ru ∈ ts
  has_gid : .fixGid bg rg ∈ ts
  has_bits : .fixSetBits ∈ ts

theorem Standard.noReset {bu ru bg rg : Nat} {ts : List Trigger} (hs : Standard bu ru bg rg ts) :
    ∀ t ∈ ts, t.isReset = false := by
  intro t ht
  rcases hs.only t ht with rfl | rfl | rfl | ⟨fp, rfl⟩ <;> rfl

theorem Standard.fixers_only {bu ru bg rg : Nat} {ts : List Trigger} (hs : Standard bu ru bg rg ts) :
    (∀ b g, .fixUid b g ∈ ts → b = bu ∧ g = ru) ∧ ∀ b g, .fixGid b g ∈ ts → b = bg ∧ g = rg := by
  constructor <;>
  · intro b g h
    rcases hs.only _ h with h | h | h | ⟨_, h⟩ <;> cases h
    exact ⟨rfl, rfl⟩

theorem standard_of_names (bu ru bg rg : Nat) (names : List String) (hu : "fix_uid_perms" ∈ names)
    (hg : "fix_gid_perms" ∈ names) (hb : "fix_set_bits" ∈ names) :
    Standard bu ru bg rg (names.filterMap (triggerOfName bu ru bg rg)) ∧
    Trigger.detectWorldWritable true ∉ names.filterMap (triggerOfName bu ru bg rg) := by
  have hof : ∀ t ∈ names.filterMap (triggerOfName bu ru bg rg),
      t = .fixUid bu ru ∨ t = .fixGid bg rg ∨ t = .fixSetBits ∨ t = .detectWorldWritable false := by
    intro t ht
    obtain ⟨name, _, h⟩ := List.mem_filterMap.1 ht
    exact triggerOfName_some h
  refine ⟨⟨fun t ht => ?_, List.mem_filterMap.2 ⟨_, hu, rfl⟩, List.mem_filterMap.2 ⟨_, hg, rfl⟩,
    List.mem_filterMap.2 ⟨_, hb, rfl⟩⟩, fun ht => ?_⟩
  · rcases hof t ht with h | h | h | h
    · exact Or.inl h
    · exact Or.inr (Or.inl h)
    · exact Or.inr (Or.inr (Or.inl h))
    · exact Or.inr (Or.inr (Or.inr ⟨false, h⟩))
  · rcases hof _ ht with h | h | h | h <;> cases h

/-- **The mutation-level model is a pointwise map.**  On a contents set (distinct locations) running the triggers —
each a `cset.update(x.change_attributes(…) for x in … if …)` — rewrites every entry in place by `hardenWith`:
no entry is added, dropped, duplicated or moved. -/
theorem premerge_pointwise (ts : List Trigger) (hnr : ∀ t ∈ ts, t.isReset = false) (c : CSet)
    (hnd : (c.map (·.loc)).Nodup) :
    runTriggers ts c = c.map (hardenWith ts) ∧ (runTriggers ts c).map (·.loc) = c.map (·.loc) := by
  have h := runTriggers_eq_map ts hnr c hnd
  refine ⟨h, ?_⟩
  rw [h, List.map_map]
  exact List.map_congr_left fun e _ => hardenWith_loc ts e

example : ((([⟨0, "/a".toList, 0o4777, 250, 250, 1⟩, ⟨2, "/l".toList, 0o777, 0, 0, 2⟩] : CSet).map (·.loc))).Nodup := by
  decide +kernel

/-- `&` with the masks of the code tests exactly the setuid/setgid/world-writable bits, and `& ~0o6002` clears exactly
those three — for every mode, of any size -/
theorem mask_arithmetic (m : Nat) :
    (unsafeMode m = true ↔ Unsafe m) ∧ ¬ Unsafe (clearBits m 0o6002) ∧
    (∀ i, (clearBits m 0o6002).testBit i = (m.testBit i && !decide (i = 1 ∨ i = 10 ∨ i = 11))) ∧
    (∀ i, (clearBits m 0o002).testBit i = (m.testBit i && !decide (i = 1))) :=
  ⟨unsafeMode_iff m, clear6002_safe m, fun i => by rw [testBit_clearBits, bits_6002],
    fun i => by rw [testBit_clearBits, bits_2]⟩

/-- **Every entry comes out hardened**, whatever the order and multiplicity of the triggers. -/
theorem harden_spec (bu ru bg rg : Nat) (ts : List Trigger) (hs : Standard bu ru bg rg ts) (e : Entry) :
    Hardened bu ru bg rg (decide (Trigger.detectWorldWritable true ∈ ts)) e (hardenWith ts e) :=
  { kind_eq := (hardenWith_frame ts e).1
    loc_eq := hardenWith_loc ts e
    payload_eq := (hardenWith_frame ts e).2.2
    uid_eq := hardenWith_uid ts bu ru hs.has_uid hs.fixers_only.1 e
    gid_eq := hardenWith_gid ts bg rg hs.has_gid hs.fixers_only.2 e
    safe := hardenWith_safe ts hs.has_bits e
    mode_sub := hardenWith_mode_sub ts e
    mode_rest := hardenWith_mode_rest ts e
    safe_kept := fun hfp => hardenWith_mode_of_safe ts (of_decide_eq_false hfp) e
    sym_kept := hardenWith_mode_of_sym ts e
    no_ww := fun hfp => hardenWith_not_ww ts (of_decide_eq_true hfp) e }

example : Standard 250 0 250 0 [.fixUid 250 0, .fixSetBits, .fixGid 250 0, .detectWorldWritable false] := by
  refine ⟨fun t ht => ?_, by simp, by simp, by simp⟩
  simp only [List.mem_cons, List.not_mem_nil, or_false] at ht
  rcases ht with rfl | rfl | rfl | rfl
  · exact Or.inl rfl
  · exact Or.inr (Or.inr (Or.inl rfl))
  · exact Or.inr (Or.inl rfl)
  · exact Or.inr (Or.inr (Or.inr ⟨false, rfl⟩))

/-- the hardening triggers of a default install engine and of a default replace engine, in the engines' own
`pre_merge` order (regenerated from the real engines on every run), form a `Standard` list; the four classes hook
`pre_merge`, work on `new_cset`, and register for exactly the installing modes -/
theorem engine_order_standard (bu ru bg rg : Nat) :
    Standard bu ru bg rg (defaultTriggers bu ru bg rg) ∧
    Generated.C23.replacePreMergeOrder.filterMap (triggerOfName bu ru bg rg) = defaultTriggers bu ru bg rg ∧
    Trigger.detectWorldWritable true ∉ defaultTriggers bu ru bg rg ∧
    (∀ m ∈ Generated.C23.triggerMeta, m.2.1 = ["pre_merge"] ∧ m.2.2.1 = ["new_cset"] ∧
      m.2.2.2 = Generated.C23.installingModes) ∧
    Generated.C23.triggerMeta.map (·.1) = ["fix_uid_perms", "fix_gid_perms", "fix_set_bits", "detect_world_writable"] := by
  have hnames : "fix_uid_perms" ∈ Generated.C23.preMergeOrder ∧ "fix_gid_perms" ∈ Generated.C23.preMergeOrder ∧
      "fix_set_bits" ∈ Generated.C23.preMergeOrder ∧
      Generated.C23.replacePreMergeOrder = Generated.C23.preMergeOrder := by decide +kernel
  obtain ⟨hstd, hno⟩ := standard_of_names bu ru bg rg _ hnames.1 hnames.2.1 hnames.2.2.1
  exact ⟨hstd, by rw [hnames.2.2.2]; rfl, hno, by decide +kernel, by decide +kernel⟩

/-- **After the pre-merge stage no entry that carries permissions is both set-id and world-writable** — for every
contents set, every mode, every order of the triggers.

Named `_partial` because of the guard `isSym = false`: the property text says "no entry"; the full statement
`∀ e' ∈ runTriggers ts c, ¬ Unsafe e'.mode` is false of the code (`no_suid_world_writable_counterexample`), by design:
`fix_set_bits` iterates `cset.iterlinks(True)` (everything but symbolic links), a link's mode bits are never applied by the
merger and are not permissions. -/
theorem no_suid_world_writable_partial (bu ru bg rg : Nat) (ts : List Trigger) (hs : Standard bu ru bg rg ts)
    (c : CSet) (hnd : (c.map (·.loc)).Nodup) :
    ∀ e' ∈ runTriggers ts c, e'.isSym = false → ¬ Unsafe e'.mode := by
  intro e' he' hsym
  rw [(premerge_pointwise ts hs.noReset c hnd).1] at he'
  obtain ⟨e, _, rfl⟩ := List.mem_map.1 he'
  exact (harden_spec bu ru bg rg ts hs e).safe (hardenWith_isSym ts e ▸ hsym)

/-- a symbolic-link entry recorded with mode 6777 leaves the stage with that mode -/
theorem no_suid_world_writable_counterexample :
    ∃ e' ∈ runTriggers [.fixUid 250 0, .fixSetBits, .fixGid 250 0, .detectWorldWritable false]
        [⟨kindSym, "/l".toList, 0o6777, 0, 0, 7⟩], Unsafe e'.mode :=
  ⟨⟨kindSym, "/l".toList, 0o6777, 0, 0, 7⟩, by decide +kernel, by decide +kernel⟩

/-- **Entries owned by the build user or group are re-owned to root**, all others keep their owner; in particular
(when the build ids are not root's) nothing is left owned by the build user or group. -/
theorem reowned (bu ru bg rg : Nat) (ts : List Trigger) (hs : Standard bu ru bg rg ts)
    (c : CSet) (hnd : (c.map (·.loc)).Nodup) :
    (runTriggers ts c).map (fun e => (e.loc, e.uid, e.gid)) =
      c.map (fun e => (e.loc, (if e.uid = bu then ru else e.uid), (if e.gid = bg then rg else e.gid))) ∧
    (bu ≠ ru → ∀ e' ∈ runTriggers ts c, e'.uid ≠ bu) ∧ (bg ≠ rg → ∀ e' ∈ runTriggers ts c, e'.gid ≠ bg) := by
  rw [(premerge_pointwise ts hs.noReset c hnd).1]
  have reown : ∀ b r u : Nat, b ≠ r → (if u = b then r else u) ≠ b := by
    intro b r u hne
    split
    · exact fun h => hne h.symm
    · assumption
  refine ⟨?_, fun hne e' he' => ?_, fun hne e' he' => ?_⟩
  · rw [List.map_map]
    apply List.map_congr_left
    intro e _
    have h := harden_spec bu ru bg rg ts hs e
    simp [h.loc_eq, h.uid_eq, h.gid_eq]
  · obtain ⟨e, _, rfl⟩ := List.mem_map.1 he'
    rw [(harden_spec bu ru bg rg ts hs e).uid_eq]
    exact reown _ _ _ hne
  · obtain ⟨e, _, rfl⟩ := List.mem_map.1 he'
    rw [(harden_spec bu ru bg rg ts hs e).gid_eq]
    exact reown _ _ _ hne

/-- **The fixes never change an entry's type, location, target or data**: the sequence of (kind, location, payload)
is the same before and after (same entries, same order, none added or dropped), and modes only lose setuid / setgid /
world-writable bits. -/
theorem fixes_preserve_identity (bu ru bg rg : Nat) (ts : List Trigger) (hs : Standard bu ru bg rg ts)
    (c : CSet) (hnd : (c.map (·.loc)).Nodup) :
    (runTriggers ts c).map (fun e => (e.kind, e.loc, e.payload)) = c.map (fun e => (e.kind, e.loc, e.payload)) ∧
    (runTriggers ts c).map (fun e => e.mode &&& 0o171775) = c.map (fun e => e.mode &&& 0o171775) := by
  rw [(premerge_pointwise ts hs.noReset c hnd).1]
  constructor
  · rw [List.map_map]
    apply List.map_congr_left
    intro e _
    have h := harden_spec bu ru bg rg ts hs e
    simp [h.kind_eq, h.loc_eq, h.payload_eq]
  · rw [List.map_map]
    apply List.map_congr_left
    intro e _
    -- the modes agree outside bits 1, 10, 11 (`or_mask_eq_iff`), and the mask has none of these
    have := congrArg (· &&& 0o171775) ((or_mask_eq_iff _ _).2 (harden_spec bu ru bg rg ts hs e).mode_rest)
    simp only [Nat.and_or_distrib_right, show (0o6002 : Nat) &&& 0o171775 = 0 from rfl, Nat.or_zero] at this
    exact this

/-- **What a default install or replace engine does at `pre_merge`**: with the engine's own trigger order (generated),
every entry of `new_cset` is hardened in place; safe modes are left untouched (the default `detect_world_writable`
only reports). -/
theorem engine_premerge_hardens (bu ru bg rg : Nat) (c : CSet) (hnd : (c.map (·.loc)).Nodup) :
    runTriggers (defaultTriggers bu ru bg rg) c = c.map (hardenWith (defaultTriggers bu ru bg rg)) ∧
    ∀ e ∈ c, Hardened bu ru bg rg false e (hardenWith (defaultTriggers bu ru bg rg) e) := by
  obtain ⟨hstd, _, hno, _, _⟩ := engine_order_standard bu ru bg rg
  refine ⟨(premerge_pointwise _ hstd.noReset c hnd).1, ?_⟩
  intro e _
  have h := harden_spec bu ru bg rg _ hstd e
  have : decide (Trigger.detectWorldWritable true ∈ defaultTriggers bu ru bg rg) = false := by simpa using hno
  rw [this] at h
  exact h

/-- **Hardening applies to what is finally merged.**  If the `pre_merge` hook contains `preinst_contents_reset`
(which replaces `new_cset` by a fresh scan `image` of `${D}`) and every hardening trigger runs *after* the last
reset (`post`), the hook's result is the hardened form of the scanned image, whatever ran before the reset. -/
theorem reset_then_harden (bu ru bg rg : Nat) (pre post : List Trigger) (image c : CSet)
    (himg : (image.map (·.loc)).Nodup) (hs : Standard bu ru bg rg post) :
    runTriggers (pre ++ .reset image :: post) c = image.map (hardenWith post) ∧
    ∀ e ∈ image, Hardened bu ru bg rg (decide (Trigger.detectWorldWritable true ∈ post)) e (hardenWith post e) := by
  constructor
  · rw [runTriggers_append]
    show runTriggers post (resetContents image (runTriggers pre c)) = _
    rw [resetContents_eq image _ himg]
    exact (premerge_pointwise post hs.noReset image himg).1
  · intro e _
    exact harden_spec bu ru bg rg post hs e

/-- the ordering that `reset_then_harden` needs is necessary: a fixer that runs before the reset is undone -/
theorem reset_after_fixers_counterexample :
    ∃ e' ∈ runTriggers [.fixUid 250 0, .fixGid 251 0, .fixSetBits, .reset [⟨0, "/bin/su".toList, 0o4757, 250, 251, 1⟩]]
        [⟨0, "/bin/su".toList, 0o4757, 250, 251, 1⟩], e'.uid = 250 ∧ Unsafe e'.mode :=
  ⟨⟨0, "/bin/su".toList, 0o4757, 250, 251, 1⟩, by decide +kernel, by decide +kernel⟩

/-- names of the generated ebuild-engine `pre_merge` order that come after the last `preinst_contents_reset` -/
def namesAfterReset : List String :=
  (Generated.C23.ebuildPreMergeOrder.reverse.takeWhile (· ≠ "preinst_contents_reset")).reverse

/-- names up to (excluding) the last `preinst_contents_reset` -/
def namesBeforeReset : List String :=
  (Generated.C23.ebuildPreMergeOrder.reverse.dropWhile (· ≠ "preinst_contents_reset")).reverse.dropLast

/-- **In the engine as the ebuild format really assembles it** (default plugins, then the format's triggers, then the
domain's triggers; order regenerated from the real engine on every run, priorities included) the contents reset
precedes every hardening trigger, so the hook's result is the hardened image: a change of any trigger priority that
lets a fixer run before the reset makes this theorem fail to re-prove. -/
theorem ebuild_engine_premerge_hardens (bu ru bg rg : Nat) (image c : CSet) (himg : (image.map (·.loc)).Nodup) :
    ∃ post, Standard bu ru bg rg post ∧ Trigger.detectWorldWritable true ∉ post ∧
      runTriggers (ebuildTriggers bu ru bg rg image) c = image.map (hardenWith post) ∧
      ∀ e ∈ image, Hardened bu ru bg rg false e (hardenWith post e) := by
  have hnames : Generated.C23.ebuildPreMergeOrder = namesBeforeReset ++ "preinst_contents_reset" :: namesAfterReset ∧
      "fix_uid_perms" ∈ namesAfterReset ∧ "fix_gid_perms" ∈ namesAfterReset ∧ "fix_set_bits" ∈ namesAfterReset ∧
      "preinst_contents_reset" ∉ namesAfterReset := by decide +kernel
  obtain ⟨hsplit, hu, hg, hb, hnr⟩ := hnames
  obtain ⟨hstd, hno⟩ := standard_of_names bu ru bg rg namesAfterReset hu hg hb
  have heq : ebuildTriggers bu ru bg rg image =
      namesBeforeReset.filterMap (triggerOfNameE bu ru bg rg image) ++
        .reset image :: namesAfterReset.filterMap (triggerOfName bu ru bg rg) := by
    rw [ebuildTriggers, hsplit, List.filterMap_append, List.filterMap_cons,
      filterMap_triggerOfNameE bu ru bg rg image namesAfterReset hnr]
    rfl
  have h := reset_then_harden bu ru bg rg (namesBeforeReset.filterMap (triggerOfNameE bu ru bg rg image)) _ image c
    himg hstd
  rw [decide_eq_false hno, ← heq] at h
  exact ⟨_, hstd, hno, h⟩

/-- **What happens to an entry depends on that entry alone** — not on which other entries the set holds, in particular
not on other names of the same inode (entries with the same `payload`: `dev`/`inode`, data, mtime): for every contents set
with distinct locations that contains `e`, the stage's result holds `hardenWith ts e` at `e`'s location and nothing else
there, and that entry is hardened.  Hence two sets that both contain `e` give the same entry at `e.loc`, and every name
of a hardlinked file is re-owned and stripped on its own. -/
theorem outcome_independent_of_other_entries (bu ru bg rg : Nat) (ts : List Trigger) (hs : Standard bu ru bg rg ts)
    (c : CSet) (hnd : (c.map (·.loc)).Nodup) (e : Entry) (he : e ∈ c) :
    hardenWith ts e ∈ runTriggers ts c ∧
    (∀ e' ∈ runTriggers ts c, e'.loc = e.loc → e' = hardenWith ts e) ∧
    Hardened bu ru bg rg (decide (Trigger.detectWorldWritable true ∈ ts)) e (hardenWith ts e) ∧
    (∀ c' : CSet, (c'.map (·.loc)).Nodup → e ∈ c' →
      ∀ e' ∈ runTriggers ts c', e'.loc = e.loc → e' ∈ runTriggers ts c) := by
  have key : ∀ (d : CSet), (d.map (·.loc)).Nodup → e ∈ d →
      hardenWith ts e ∈ runTriggers ts d ∧ ∀ e' ∈ runTriggers ts d, e'.loc = e.loc → e' = hardenWith ts e := by
    intro d hd hed
    rw [(premerge_pointwise ts hs.noReset d hd).1]
    refine ⟨List.mem_map.2 ⟨e, hed, rfl⟩, ?_⟩
    intro e' he' hl
    obtain ⟨x, hx, rfl⟩ := List.mem_map.1 he'
    rw [hardenWith_loc] at hl
    rw [Lib.inj_of_nodup_map hd hx hed hl]
  refine ⟨(key c hnd he).1, (key c hnd he).2, harden_spec bu ru bg rg ts hs e, ?_⟩
  intro c' hnd' he' e' hm hl
  rw [(key c' hnd' he').2 e' hm hl]
  exact (key c hnd he).1

example : (⟨0, "/usr/bin/gunzip".toList, 0o755, 0, 0, 1⟩ : Entry) ∈
    runTriggers [.fixUid 250 0, .fixSetBits, .fixGid 250 0, .detectWorldWritable false]
      [⟨0, "/usr/bin/gzip".toList, 0o755, 250, 250, 1⟩, ⟨0, "/usr/bin/gunzip".toList, 0o755, 250, 250, 1⟩] := by
  decide +kernel

/-- the executable judge the check applies to the real code's before/after pairs decides exactly `Hardened` -/
theorem spec_checker_sound (bu ru bg rg : Nat) (fp : Bool) (e e' : Entry) :
    hardenedB bu ru bg rg fp e e' = true ↔ Hardened bu ru bg rg fp e e' := hardenedB_iff bu ru bg rg fp e e'

example : hardenedB 250 0 250 0 false ⟨0, "/bin/su".toList, 0o104757, 250, 7, 1⟩ ⟨0, "/bin/su".toList, 0o100755, 0, 7, 1⟩ = true := by
  decide +kernel

/-- **What the stage does to an entry does not depend on how the entry is called.**  For every renaming `ρ` of the
locations that keeps them distinct (any characters whatsoever: `%`, `{`, spaces, …) and every standard trigger order,
hardening the renamed set gives the renamed hardened set: uid, gid, mode, kind and payload of each result are those
of the original run.  In particular no file name can switch the hardening off for itself or for the other entries. -/
theorem outcome_independent_of_names (bu ru bg rg : Nat) (ts : List Trigger) (hs : Standard bu ru bg rg ts)
    (ρ : List Char → List Char) (c : CSet) (hnd : (c.map (·.loc)).Nodup)
    (hnd' : ((c.map (Entry.rename ρ)).map (·.loc)).Nodup) :
    runTriggers ts (c.map (Entry.rename ρ)) = (runTriggers ts c).map (Entry.rename ρ) ∧
    ∀ e ∈ c, Hardened bu ru bg rg (decide (Trigger.detectWorldWritable true ∈ ts)) (e.rename ρ) ((hardenWith ts e).rename ρ) := by
  refine ⟨?_, ?_⟩
  · rw [(premerge_pointwise ts hs.noReset _ hnd').1, (premerge_pointwise ts hs.noReset c hnd).1, List.map_map,
      List.map_map]
    apply List.map_congr_left
    intro e _
    exact hardenWith_rename ρ ts e
  · intro e _
    rw [← hardenWith_rename]
    exact harden_spec bu ru bg rg ts hs (e.rename ρ)

example : ((([⟨0, "/a".toList, 0o4777, 250, 250, 1⟩, ⟨2, "/l".toList, 0o777, 0, 0, 2⟩] : CSet).map
    (Entry.rename fun l => l ++ "/100%.sav".toList)).map (·.loc)).Nodup := by decide +kernel

end Pkgcore.C23
