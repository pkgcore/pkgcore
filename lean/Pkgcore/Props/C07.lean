import Pkgcore.Proofs.C07
/-!
# C07 — restrictions that compare equal are interchangeable

`eqv` is `==`, `hashKey` what `__hash__` hashes, `mtch` is `match` (`Model/C07.lean`, mirroring the classes after the
`fix:` commits); `SameMatch`, `hkEq`, `lookup` are the notions of the property (`Spec/C07.lean`).  `wf` only says
that a version restriction holds an operator set of `_convert_str2op` (generated table) and that the version of an
atom is one `isvalid_version_re` accepts.  Atom equality and hashing are the C02 model (`atom.__cmp__(other) == 0`,
the canonical tuple); the match of an atom is an environment function of its canonical form, which
`atom_match_depends_only_on_canon` justifies against the C04 model of `atom.match` (record conversion: `C03.toC04`).
-/
namespace Pkgcore.C07
open Pkgcore.C07.Spec

/-- **equal restrictions match exactly the same values** — for every class of the model, any nesting, every
environment (case folding, regular expressions, user functions, atoms' own match) and every value. -/
theorem eq_implies_same_match (a b : Restr) (ha : wf a = true) (hb : wf b = true) (h : eqv a b = true) :
    SameMatch a b :=
  fun env x => eqv_match env a b ha hb h x

/-- an atom `[op]cat/pkg[-ver][use]` for the examples -/
def exAtom (cat pkg : String) (vop : Option (Pkgcore.C02.Op × Pkgcore.C01.Ver × Str)) (use : Option (List String)) :
    Pkgcore.C02.Atom :=
  { cat := cat.toList, pkg := pkg.toList, vop := vop, blocks := false, strong := false, negate := false,
    slot := none, subslot := none, slotOp := none, use := use.map (·.map String.toList), repo := none }

/-- not vacuous: a negated `<` inside a package restriction inside an any-of, against `>=`; a DepSet against a
permutation with a duplicate, one atom spelled differently (`=a/b-1.0` / `=a/b-1.00-r0`) -/
example :
    let v : Pkgcore.C01.Ver := ⟨[['1'], ['0']], none, []⟩
    let v' : Pkgcore.C01.Ver := ⟨[['1'], ['0', '0']], none, []⟩
    let ab := exAtom "a" "b" (some (.eq, v, [])) none
    let ab' := exAtom "a" "b" (some (.eq, v', ['0'])) none
    let cd := exAtom "c" "d" none none
    let cd' := exAtom "c" "d" none none
    let a := Restr.bool .or 2 false [.pkgRestr 1 false [["fullver".toList]] false (.version [-1] false true v (some ['0'])),
                                     .depset [.atom ab, .atom cd]]
    let b := Restr.bool .or 2 false [.pkgRestr 1 false [["fullver".toList]] false (.version [0, 1] false false v (some [])),
                                     .depset [.atom cd', .atom ab', .atom cd]]
    wf a = true ∧ wf b = true ∧ eqv a b = true := by decide +kernel

/-- **equal restrictions have equal hashes**: their hash keys agree component-wise (as sets for frozensets), hence
so does every hash function that is a function of the key up to that equivalence — CPython's is. -/
theorem eq_implies_same_hash (a b : Restr) (ha : wf a = true) (hb : wf b = true) (h : eqv a b = true) :
    hkEq (hashKey a) (hashKey b) = true ∧
    ∀ H : HK → Int, (∀ k k', hkEq k k' = true → H k = H k') → H (hashKey a) = H (hashKey b) :=
  ⟨eqv_hash a b ha hb h, fun _ hH => hH _ _ (eqv_hash a b ha hb h)⟩

example : ∃ H : HK → Int, ∀ k k', hkEq k k' = true → H k = H k' := ⟨fun _ => 0, fun _ _ _ => rfl⟩

/-- the repaired equalities / hashes, as facts about the model (the last one: a version glob's hash follows the
integer value of its revision, like its equality):
a negated `~` is not equal to the plain one; `<` negated equals `>=` (and now hashes alike); a restriction
without revision is not equal to one with revision 0 although `None == Revision("0")`; `_UseDepDefaultContainment`
compares `if_missing`. -/
theorem repaired_equalities (v : Pkgcore.C01.Ver) (r : Pkgcore.C01.Rev) (fl : List Str) (n : Bool) :
    eqv (.version [0] true true v r) (.version [0] true false v r) = false ∧
    eqv (.version [-1] false true v r) (.version [0, 1] false false v r) = true ∧
    eqv (.version [0] false false v none) (.version [0] false false v (some ['0'])) = false ∧
    eqv (.useDefault true fl n) (.useDefault false fl n) = false ∧
    (eqv (.verGlob v (some ['1'])) (.verGlob v (some ['0', '1'])) = true ∧
      hashKey (.verGlob v (some ['1'])) = hashKey (.verGlob v (some ['0', '1']))) := by
  refine ⟨?_, ?_, ?_, ?_, ?_, ?_⟩
  · simp [eqv, convertOps]
  · simp [eqv, convertOps]
  · simp [eqv]
  · simp [eqv]
  · simp [eqv, revInt, Pkgcore.C01.natOfDigits]
  · simp [hashKey, revInt, Pkgcore.C01.natOfDigits]

/-- atoms (C02's equality): a strong blocker is not a weak one, spelling of the version and order of the USE deps do
not matter — and such equal atoms are interchangeable by the two theorems above -/
theorem atom_equalities :
    let v : Pkgcore.C01.Ver := ⟨[['1'], ['0']], none, []⟩
    let v' : Pkgcore.C01.Ver := ⟨[['1'], ['0', '0']], none, []⟩
    eqv (.atom { exAtom "a" "b" none none with blocks := true, strong := true })
        (.atom { exAtom "a" "b" none none with blocks := true }) = false ∧
    eqv (.atom (exAtom "a" "b" (some (.eq, v, [])) none)) (.atom (exAtom "a" "b" (some (.eq, v', ['0'])) none)) = true ∧
    eqv (.atom (exAtom "a" "b" none (some ["x", "y"]))) (.atom (exAtom "a" "b" none (some ["y", "x"]))) = true := by
  refine ⟨by decide +kernel, by decide +kernel, ?_⟩
  simp only [eqv, beq_iff_eq]
  rw [Pkgcore.C02.atom_eq_iff_canon _ _ (by trivial) (by trivial)]
  simp only [Pkgcore.C02.Spec.atomCanon, exAtom, Pkgcore.C02.Atom.useAttr, Pkgcore.C02.Atom.opStr, Pkgcore.C02.Atom.vr,
    Option.map_some, List.map]
  rw [Pkgcore.C02.sortUse_perm _ _ (List.Perm.swap _ _ [])]

/-- **`atom.match` as C04 models it reads an atom only through its canonical form.**  `mtch` takes the match of an atom
to be `env.atomMatch (atomCanon a)` — an arbitrary function *of the canonical form* — so for atoms "equal ⇒ same
match" holds in the C07 model by construction.  This theorem discharges that modelling choice against the real
matching model: `C04.atomMatch` (the `AndRestriction` over `atom.restrictions`: repository, package, category, version
restriction incl. `=*` and `negate_vers`, slot, sub-slot, the `StaticUseDep`/`UseDepDefault` restrictions built by
`_parse_nontransitive_use`) on the record `C03.toC04 a` (the same attributes, USE tokens lexed as
`_parse_nontransitive_use` lexes them) gives the same verdict for two atoms with the same `C02.Spec.atomCanon` — the
spelling of the version (`1.0`/`1.00`, `_rc`/`_rc0`, `-r0`/none/`-r00`), the order of the USE deps, `!`/`!!` and the
slot operator being all the canonical form forgets or keeps without `match` reading it.
Hypotheses: valid versions (`atomOkB`, `Pkg.WF`: what `isvalid_version_re` accepts, for the atoms and the package) and
`slotPartsOkB` (a written slot / sub-slot is not the empty string — `atom.__init__` rejects `a/b:`, `a/b:0/`), without
which the canonical form's `slot or ""` cannot tell "no slot" from "slot ''" (`atom_match_canon_needs_slot_parts`). -/
theorem atom_match_depends_only_on_canon (a b : Pkgcore.C02.Atom) (ha : atomOkB a = true) (hb : atomOkB b = true)
    (hsa : slotPartsOkB a = true) (hsb : slotPartsOkB b = true)
    (h : Pkgcore.C02.Spec.atomCanon a = Pkgcore.C02.Spec.atomCanon b) :
    ∀ p : Pkgcore.C04.Pkg, Pkgcore.C04.Spec.Pkg.WF p →
      Pkgcore.C04.atomMatch (Pkgcore.C03.toC04 a) p = Pkgcore.C04.atomMatch (Pkgcore.C03.toC04 b) p :=
  fun p hp => atomMatch_of_canon a b ha hb hsa hsb h p hp

/-- not vacuous: `=a/b-1.0[x,-y(-)]` and `=a/b-1.00-r0[-y(-),x]` are different records with one canonical form, and
both match `a/b-1.0` with `IUSE=x USE=x` (the `(-)` default decides the missing flag `y`) -/
example :
    let v : Pkgcore.C01.Ver := ⟨[['1'], ['0']], none, []⟩
    let v' : Pkgcore.C01.Ver := ⟨[['1'], ['0', '0']], none, []⟩
    let a := exAtom "a" "b" (some (.eq, v, [])) (some ["x", "-y(-)"])
    let b := exAtom "a" "b" (some (.eq, v', ['0'])) (some ["-y(-)", "x"])
    let p : Pkgcore.C04.Pkg := ⟨['a'], ['b'], v, [], ['0'], ['0'], ['r'], [['x']], [['x']]⟩
    (atomOkB a = true ∧ atomOkB b = true ∧ slotPartsOkB a = true ∧ slotPartsOkB b = true ∧ a.use ≠ b.use ∧
      Pkgcore.C04.atomMatch (Pkgcore.C03.toC04 a) p = true ∧ Pkgcore.C04.atomMatch (Pkgcore.C03.toC04 b) p = true) ∧
    Pkgcore.C02.Spec.atomCanon a = Pkgcore.C02.Spec.atomCanon b ∧ Pkgcore.C04.Spec.Pkg.WF p := by
  refine ⟨by decide +kernel, ?_, ?_⟩
  · simp only [Pkgcore.C02.Spec.atomCanon, exAtom, Pkgcore.C02.Atom.useAttr, Option.map_some, List.map]
    rw [Pkgcore.C02.sortUse_perm _ _ (List.Perm.swap _ _ [])]
    rfl
  · refine ⟨by simp, ?_⟩
    intro c hc
    simp only [List.mem_cons, List.not_mem_nil, or_false] at hc
    rcases hc with rfl | rfl <;> exact ⟨by simp, by decide⟩

/-- the slot hypothesis is needed (and only excludes records no atom has): "no slot" and "slot `''`" share a canonical
form — `atom._hash` / `__cmp__` use `slot or ""` — but only the second carries a `SlotDep` -/
theorem atom_match_canon_needs_slot_parts :
    let a := exAtom "a" "b" none none
    let b := { exAtom "a" "b" none none with slot := some [] }
    let p : Pkgcore.C04.Pkg := ⟨['a'], ['b'], ⟨[['1']], none, []⟩, [], ['0'], ['0'], ['r'], [], []⟩
    Pkgcore.C02.Spec.atomCanon a = Pkgcore.C02.Spec.atomCanon b ∧ slotPartsOkB b = false ∧
    Pkgcore.C04.atomMatch (Pkgcore.C03.toC04 a) p = true ∧ Pkgcore.C04.atomMatch (Pkgcore.C03.toC04 b) p = false := by
  intro a b p
  exact ⟨rfl, by decide +kernel, by decide +kernel, by decide +kernel⟩

/-- the same, in the shape the model uses it: **there is a function of the canonical form that is C04's `atom.match`**
— the `atomMatch` field of `Env` applied to `atomCanon a` in `mtch` stands for this function -/
theorem atom_match_factors_through_canon :
    ∃ f : AtomCanon → Pkgcore.C04.Pkg → Bool,
      ∀ a : Pkgcore.C02.Atom, atomOkB a = true → slotPartsOkB a = true → ∀ p, Pkgcore.C04.Spec.Pkg.WF p →
        Pkgcore.C04.atomMatch (Pkgcore.C03.toC04 a) p = f (Pkgcore.C02.Spec.atomCanon a) p := by
  classical
  refine ⟨fun c p =>
    if h : ∃ a, atomOkB a = true ∧ slotPartsOkB a = true ∧ Pkgcore.C02.Spec.atomCanon a = c
    then Pkgcore.C04.atomMatch (Pkgcore.C03.toC04 h.choose) p else false, ?_⟩
  intro a ha hs p hp
  have hex : ∃ a', atomOkB a' = true ∧ slotPartsOkB a' = true ∧
      Pkgcore.C02.Spec.atomCanon a' = Pkgcore.C02.Spec.atomCanon a := ⟨a, ha, hs, rfl⟩
  obtain ⟨h1, h2, h3⟩ := hex.choose_spec
  show _ = dite _ _ _
  rw [dif_pos hex]
  exact atom_match_depends_only_on_canon a _ ha h1 hs h2 h3.symm p hp

/-- **atoms that compare equal (`atom.__eq__`, C02) are matched alike by C04's `atom.match`** — the atom case of
`eq_implies_same_match`, with the match of C04 in place of the environment's -/
theorem equal_atoms_same_c04_match (a b : Pkgcore.C02.Atom) (ha : wf (.atom a) = true) (hb : wf (.atom b) = true)
    (hsa : slotPartsOkB a = true) (hsb : slotPartsOkB b = true) (h : eqv (.atom a) (.atom b) = true)
    (p : Pkgcore.C04.Pkg) (hp : Pkgcore.C04.Spec.Pkg.WF p) :
    Pkgcore.C04.atomMatch (Pkgcore.C03.toC04 a) p = Pkgcore.C04.atomMatch (Pkgcore.C03.toC04 b) p := by
  simp only [wf] at ha hb
  simp only [eqv, beq_iff_eq] at h
  exact atom_match_depends_only_on_canon a b ha hb hsa hsb
    ((Pkgcore.C02.atom_eq_iff_canon a b (atomWF_of_ok a ha) (atomWF_of_ok b hb)).mp h) p hp

example :
    let v : Pkgcore.C01.Ver := ⟨[['1'], ['0']], none, []⟩
    let v' : Pkgcore.C01.Ver := ⟨[['1'], ['0', '0']], none, []⟩
    let a := exAtom "a" "b" (some (.glob, v, [])) none
    let b := exAtom "a" "b" (some (.glob, v', ['0', '0'])) none
    wf (.atom a) = true ∧ wf (.atom b) = true ∧ slotPartsOkB a = true ∧ slotPartsOkB b = true ∧
      eqv (.atom a) (.atom b) = true := by decide +kernel

/-- **a restriction-keyed cache never answers with a result computed for a different query.**
`cache` is a Python dict whose entries were all stored as `compute key` (the invariant of `caching_repo.match` and of
the `lru_cache` on `_compiled_constraints`), `compute` depends on its argument only through what it matches (a
repository query is `filter (match r) packages`, C08).  Then whatever a lookup with key `k` returns is `compute k`. -/
theorem cache_lookup_sound {V : Type} (H : HK → Int) (compute : Restr → V) (cache : List (Restr × V)) (k : Restr)
    (v : V) (hcomp : ∀ a b, SameMatch a b → compute a = compute b)
    (hinv : ∀ p ∈ cache, p.2 = compute p.1) (hwf : ∀ p ∈ cache, wf p.1 = true) (hk : wf k = true)
    (h : lookup H cache k = some v) : v = compute k := by
  obtain ⟨k', hm, he, _⟩ := lookup_some H cache k v h
  have h1 : v = compute k' := hinv (k', v) hm
  rw [h1]
  exact hcomp k' k (eq_implies_same_match k' k (hwf (k', v) hm) hk he)

/-- and it does answer when an equal key is stored (this is where equal hashes are needed) -/
theorem cache_hit_complete {V : Type} (H : HK → Int) (hH : ∀ k k', hkEq k k' = true → H k = H k')
    (cache : List (Restr × V)) (k k' : Restr) (v : V) (hm : (k', v) ∈ cache) (hk' : wf k' = true) (hk : wf k = true)
    (he : eqv k' k = true) : (lookup H cache k).isSome = true :=
  lookup_hit H cache k k' v hm he (hH _ _ (eqv_hash k' k hk' hk he))

/-- the instance for `caching_repo`: the cached answer for `k` is the list of packages `k` matches -/
theorem caching_repo_sound (env : Env) (H : HK → Int) (pkgs : List Value) (cache : List (Restr × List Value))
    (k : Restr) (v : List Value)
    (hinv : ∀ p ∈ cache, p.2 = pkgs.filter (fun x => mtch env p.1 x)) (hwf : ∀ p ∈ cache, wf p.1 = true)
    (hk : wf k = true) (h : lookup H cache k = some v) : v = pkgs.filter (fun x => mtch env k x) :=
  cache_lookup_sound H (fun r => pkgs.filter (fun x => mtch env r x)) cache k v
    (fun a b hab => by simp only [hab env]) hinv hwf hk h

/-- not vacuous: a cache holding the answer for `=a/b-1.0`, queried with `=a/b-1.00-r0` -/
example :
    let k' := Restr.atom (exAtom "a" "b" (some (.eq, ⟨[['1'], ['0']], none, []⟩, [])) none)
    let k := Restr.atom (exAtom "a" "b" (some (.eq, ⟨[['1'], ['0', '0']], none, []⟩, ['0'])) none)
    lookup (fun _ => 7) [(Restr.obj 3, 10), (k', 11)] k = some 11 := by
  decide +kernel

/-- **the hash of a boolean node does not depend on how the node was assembled**: after any sequence of `hash` /
`add_restriction` / `finalize` calls on a node created with `finalize=False`, a cached hash exists only if the node is
finalized, and it is the hash of the node's final children — the same key a node built in one go from those children
hashes.  (What was hashed, and when, during construction is irrelevant: an unfinalized node refuses to be hashed.) -/
theorem builder_hash_history_independent (k : Kind) (t : Nat) (n : Bool) (cs0 : List Restr) (ops : List BOp) :
    let b := brun k t n ⟨cs0, false, none⟩ ops
    ∀ h, b.cached = some h → b.finalized = true ∧ h = hashKey (.bool k t n b.cs) := by
  exact brun_cacheOk ops ⟨cs0, false, none⟩ (fun h hh => by cases hh)

/-- not vacuous: hash refused while building, children added, finalized, hashed -/
example :
    let b := brun .and 2 false ⟨[.obj 1], false, none⟩ [.hash, .add [.obj 2], .hash, .finalize, .hash, .add [.obj 3]]
    b.finalized = true ∧ b.cs.length = 2 ∧ b.cached.isSome = true := by decide +kernel

/-- **instance caches are transparent: what a restriction matches does not depend on which other restrictions are
alive when it is built.**  `cachedBuild step s d` builds the description `d` bottom-up through the instance caches
(`WeakInstMeta`: every constructor call may be answered with an alive instance found by a dict lookup of its
arguments, children included); `step` / `s` are an arbitrary cache policy and state, constrained only by what a dict
lookup guarantees (`HitsEqual`: a hit is an instance that compares equal to the one asked for).  The object handed
out matches exactly what `d` built alone matches — whatever was built before. -/
theorem instance_cache_transparent {σ : Type} (step : σ → Restr → Option Restr × σ) (hstep : HitsEqual step) (s : σ)
    (d : Restr) (hd : wf d = true) : SameMatch (cachedBuild step s d).1 d :=
  fun env x => (cachedBuild_spec step hstep env d s hd).2 x

/-- the instance for the real cache — a dict lookup (hash and `==`) among the alive instances, misses registered: the
result of building `d` matches the same whatever two sets of instances `alive`, `alive'` were built before -/
theorem build_history_irrelevant (H : HK → Int) (alive alive' : Alive) (d : Restr) (hd : wf d = true) :
    SameMatch (cachedBuild (aliveStep H) alive d).1 d ∧
    SameMatch (cachedBuild (aliveStep H) alive d).1 (cachedBuild (aliveStep H) alive' d).1 := by
  have h1 := instance_cache_transparent (aliveStep H) (aliveStep_hitsEqual H) alive d hd
  have h2 := instance_cache_transparent (aliveStep H) (aliveStep_hitsEqual H) alive' d hd
  exact ⟨h1, fun env x => (h1 env x).trans (h2 env x).symm⟩

/-- not vacuous, both ways: with the AND tree of `c/p[-x,y]` (plain containments) alive, building the tree of
`c/p[-x(-),y(-)]` (use-dep-default containments over the same flags, same `all`/`negate` shape, same hash) is *not*
answered from the cache — the containments are unequal — while building `[y,-x]`'s plain tree again is. -/
example :
    let x : Str := ['x']
    let y : Str := ['y']
    let plain := Restr.bool .and 1 false [.contain [x] false true, .contain [y] true false]
    let dflt := Restr.bool .and 1 false [.useDefault false [x] true, .useDefault false [y] false]
    let alive : Alive := ⟨[plain], by decide⟩
    hkEq (hashKey plain) (hashKey dflt) = true ∧
    (match (cachedBuild (aliveStep fun _ => 0) alive dflt).1 with
      | .bool _ _ _ [.useDefault _ _ _, .useDefault _ _ _] => true | _ => false) = true ∧
    (cachedBuild (aliveStep fun _ => 0) alive dflt).2.val.length = 2 ∧
    (cachedBuild (aliveStep fun _ => 0) alive plain).2.val.length = 3 := by
  decide +kernel

end Pkgcore.C07
