import Pkgcore.Proofs.C37
/-!
# C37 — Bugzilla searches keep their meaning when rendered, combined and batched

`BugQuery.params`, `.and`, `.anyOf`, `.batches` mirror `pkgcore.bugzilla.query`; `Spec.readCharts`,
`Spec.meaning` are the reference Bugzilla reader / evaluator.
-/
namespace Pkgcore.C37
open Pkgcore.C37.Spec

/-- what every query built from the named constructors, `&`, `any_of`, `paged` satisfies: no condition is
called `OP`/`CP`, and no plain key is listed twice -/
structure BugQuery.WF (q : BugQuery) : Prop where
  charts : Chart.WFs q.charts
  keys : KeysNodup q.simple

/-- **every chart condition and group marker gets a unique slot**: the `f` parameters of a rendered search
are, in order of appearance, exactly `f1, f2, …, fn` (each slot once, no gaps), and every other chart
parameter (`o`, `v`, `j`, `n`) carries one of these slot numbers.  No hypothesis on the query. -/
theorem slots_unique_consecutive (q : BugQuery) :
    fKeys q.params = (List.range' 1 ((renderCharts q.charts 1).2 - 1)).map Key.f ∧
    ∀ p ∈ q.params, ∀ k, slotOf p.1 = some k → 1 ≤ k ∧ k ≤ (renderCharts q.charts 1).2 - 1 :=
  ⟨fKeys_params q, slotOf_params q⟩

example : fKeys (BugQuery.params { charts := [.group "OR" [.crit ⟨"keywords", "anywords", ["x"], false, false⟩],
    .crit ⟨"tag", "nowordssubstr", ["y"], true, false⟩] }) = [.f 1, .f 2, .f 3, .f 4] := by decide +kernel

/-- **group open/close markers are balanced**: scanning the `f` values of a rendered search, the nesting
depth never drops below zero and ends at zero -/
theorem groups_balanced (q : BugQuery) (hwf : Chart.WFs q.charts) : balanced (fVals q.params) 0 = true := by
  rw [fVals, filter_isF_params, ← List.append_nil (List.map _ _)]
  exact balanced_charts q.charts 1 [] 0 hwf

/-- **reading a rendered search with the reference Bugzilla chart reader gives back exactly its charts**
(so rendering loses and invents nothing, whatever the nesting) -/
theorem read_render_roundtrip (q : BugQuery) (hwf : Chart.WFs q.charts) :
    readCharts q.params = some (erase.eraseList q.charts) := by
  have hn : (q.params.filter (fun p => isF p.1)).length = (renderCharts q.charts 1).2 - 1 := by
    rw [← List.length_map (·.1), ← fKeys, fKeys_params, List.length_map, List.length_range']
  have hall : q.params.all (slotInBounds ((renderCharts q.charts 1).2 - 1)) = true := by
    refine List.all_eq_true.2 fun p hp => ?_
    unfold slotInBounds
    cases hk : slotOf p.1 with
    | none => rfl
    | some k => exact decide_eq_true (slotOf_params q p hp k hk)
  unfold readCharts
  simp only [hn]
  rw [if_pos hall, read_charts q.charts 1 q.params ⟨"AND", []⟩ [] hwf (agree_params q)]
  rfl

example : Chart.WFs [.group "OR" [.crit ⟨"keywords", "anywords", ["x"], false, false⟩, .group "AND" []],
    .crit ⟨"tag", "nowordssubstr", ["y"], true, true⟩] := by
  simp [Chart.WFs, Chart.WF]

/-- the invariant is established by the constructors and preserved by `&` -/
theorem and_preserves_wf (a b : BugQuery) (ha : a.WF) (hb : b.WF) : (a.and b).WF :=
  ⟨(Chart.WFs_iff _).2 fun t ht => (List.mem_append.1 ht).elim ((Chart.WFs_iff _).1 ha.charts t)
    ((Chart.WFs_iff _).1 hb.charts t), (mergeSimple_spec a.simple b.simple ha.keys).1⟩

/-- … and by `any_of` -/
theorem anyOf_preserves_wf (qs : List BugQuery) (h : ∀ q ∈ qs, q.WF) (r : BugQuery) (hr : BugQuery.anyOf qs = some r) :
    r.WF := by
  unfold BugQuery.anyOf at hr
  split at hr
  · cases hr
    -- `r.charts` is a single group: `Chart.WFs [.group j ts]` unfolds to `Chart.WFs ts ∧ True`
    refine ⟨⟨(Chart.WFs_iff _).2 fun t ht => ?_, trivial⟩, by simp [KeysNodup]⟩
    obtain ⟨q, hq, htq⟩ := List.mem_flatMap.1 ht
    exact (Chart.WFs_iff _).1 (h q hq).charts t htq
  · cases hr

/-- the guard under which `&` is a conjunction: a plain key constrained by *both* operands carries the same
set of values on both sides -/
def SameKeyGuard (a b : BugQuery) : Prop :=
  ∀ k, (∃ v, Mention a.simple k v) → (∃ v, Mention b.simple k v) → ∀ v, Mention a.simple k v ↔ Mention b.simple k v

/-- the guard is decidable: `Spec.sameKeyGuardB` (what the driver and the harness evaluate) says the same -/
theorem sameKeyGuardB_iff (a b : BugQuery) : sameKeyGuardB a b = true ↔ SameKeyGuard a b := by
  simp only [sameKeyGuardB, List.all_eq_true, Bool.or_eq_true, Bool.and_eq_true, List.isEmpty_iff,
    List.contains_eq_mem, decide_eq_true_eq, mem_mentioned]
  constructor
  · rintro h k ⟨v, vs, hm, hv⟩ ⟨w, hw⟩ u
    rcases h (k, vs) hm with (he | he) | ⟨h1, h2⟩
    · have : v ∈ mentioned a.simple k := (mem_mentioned _ _ _).2 ⟨vs, hm, hv⟩
      simp only at he; rw [he] at this; cases this
    · have : w ∈ mentioned b.simple k := (mem_mentioned _ _ _).2 hw
      simp only at he; rw [he] at this; cases this
    · exact ⟨h1 u, h2 u⟩
  · rintro h ⟨k, vs⟩ hm
    simp only
    by_cases hea : mentioned a.simple k = []
    · exact Or.inl (Or.inl hea)
    by_cases heb : mentioned b.simple k = []
    · exact Or.inl (Or.inr heb)
    obtain ⟨v, hv⟩ := List.exists_mem_of_ne_nil _ hea
    obtain ⟨w, hw⟩ := List.exists_mem_of_ne_nil _ heb
    have := h k ⟨v, (mem_mentioned _ _ _).1 hv⟩ ⟨w, (mem_mentioned _ _ _).1 hw⟩
    exact Or.inr ⟨fun u hu => (this u).1 hu, fun u hu => (this u).2 hu⟩

/- The full statement

     theorem and_is_conjunction (a b) (ha : a.WF) (hb : b.WF) S I :
       meaning S I (a.and b).params = (meaning S I a.params && meaning S I b.params)

   is FALSE of the code (see `and_counterexample`): `_merge_simple` unions the values of a key that both
   operands constrain, and Bugzilla ORs the values of one key.  This is open finding
   `C37-same-key-values-unioned`; the theorem below holds under exactly the complementary guard. -/

/-- **`a & b` means `a` and `b`** for every bug (every interpretation `S`, `I` of the atomic facts), for all
well-formed searches — arbitrary nesting of groups, any number of conditions — whenever no plain key is
constrained to different value sets by the two operands. -/
theorem and_is_conjunction_partial (a b : BugQuery) (ha : a.WF) (hb : b.WF) (hg : SameKeyGuard a b)
    (S : String → String → Bool) (I : String → String → List String → Bool) :
    meaning S I (a.and b).params = (meaning S I a.params && meaning S I b.params) := by
  have hab := and_preserves_wf a b ha hb
  unfold meaning
  rw [read_render_roundtrip _ hab.charts, read_render_roundtrip _ ha.charts, read_render_roundtrip _ hb.charts]
  have hcharts : evalAll I (erase.eraseList (a.and b).charts)
      = (evalAll I (erase.eraseList a.charts) && evalAll I (erase.eraseList b.charts)) := by
    simp only [BugQuery.and, eraseList_eq_map, List.map_append, evalAll_eq_all, List.all_append]
  have hsimple : simpleHolds S (a.and b).params = (simpleHolds S a.params && simpleHolds S b.params) := by
    rw [Bool.eq_iff_iff, Bool.and_eq_true, simpleHolds_params, simpleHolds_params, simpleHolds_params]
    have hm := (mergeSimple_spec a.simple b.simple ha.keys).2
    simp only [BugQuery.and, hm]
    constructor
    · intro h
      constructor
      · intro k v hv
        obtain ⟨v', hv' | hv', hs⟩ := h k v (Or.inl hv)
        · exact ⟨v', hv', hs⟩
        · exact ⟨v', (hg k ⟨v, hv⟩ ⟨v', hv'⟩ v').2 hv', hs⟩
      · intro k v hv
        obtain ⟨v', hv' | hv', hs⟩ := h k v (Or.inr hv)
        · exact ⟨v', (hg k ⟨v', hv'⟩ ⟨v, hv⟩ v').1 hv', hs⟩
        · exact ⟨v', hv', hs⟩
    · rintro ⟨h1, h2⟩ k v (hv | hv)
      · obtain ⟨v', hv', hs⟩ := h1 k v hv
        exact ⟨v', Or.inl hv', hs⟩
      · obtain ⟨v', hv', hs⟩ := h2 k v hv
        exact ⟨v', Or.inr hv', hs⟩
  simp only [hcharts, hsimple]
  cases simpleHolds S a.params <;> cases simpleHolds S b.params <;> simp

example : SameKeyGuard { simple := [("id", ["1", "2"])] } { simple := [("id", ["2", "1", "2"])] } :=
  (sameKeyGuardB_iff _ _).1 (by decide +kernel)

/-- the defect: `ids([1,2]) & ids([2,3])` renders ids 1, 2, 3 — bug 1 satisfies the combination but not the
right operand -/
theorem and_counterexample :
    ∃ (a b : BugQuery) (S : String → String → Bool) (I : String → String → List String → Bool),
      a.WF ∧ b.WF ∧ meaning S I (a.and b).params ≠ (meaning S I a.params && meaning S I b.params) := by
  refine ⟨{ simple := [("id", ["1", "2"])] }, { simple := [("id", ["2", "3"])] },
    (fun _ v => v == "1"), (fun _ _ _ => true), ⟨trivial, by simp [KeysNodup]⟩, ⟨trivial, by simp [KeysNodup]⟩,
    ?_⟩
  decide +kernel

/-- without a splittable axis the search is its own single batch -/
theorem batches_no_axis (el : String → Nat) (q : BugQuery) (base max : Int) (h : q.splitAxis = none) :
    q.batches el base max = [q] := by
  simp [BugQuery.batches, h]

/-- **batches partition the split values in their original order**: reading, in every batch, the values
rendered under the axis key (`id`, or `v<slot>` of the split condition) and concatenating them over the batches
gives exactly the values the search itself renders there (= the values of the chosen axis); and no batch is
empty unless there is nothing to split.  For all budgets and all cost functions `el`. -/
theorem batches_partition_in_order (el : String → Nat) (q : BugQuery) (hwf : q.WF) (base max : Int)
    (c : Candidate) (hc : q.splitAxis = some c) :
    ((q.batches el base max).flatMap fun b => valuesOf b.params (axisKey q c.axis))
        = valuesOf q.params (axisKey q c.axis) ∧
    valuesOf q.params (axisKey q c.axis) = c.values ∧
    (c.values ≠ [] → ∀ b ∈ q.batches el base max, valuesOf b.params (axisKey q c.axis) ≠ []) := by
  obtain ⟨A, B, hs, _⟩ := shape_of_splitAxis q hwf.keys c hc
  obtain ⟨l, hbat, hflat, hb⟩ := batches_of_axis el q base max c hc
  rw [hbat]
  refine ⟨?_, hs.values, fun hne b hb' => ?_⟩
  · rw [hs.values, List.flatMap_map]
    simp only [hs.valuesOf_rebuilt]
    rw [List.flatMap_id', hflat]
  · obtain ⟨vals, hv, rfl⟩ := List.mem_map.1 hb'
    rw [hs.valuesOf_rebuilt]
    exact (hb vals hv).1 hne

/-- **every other parameter is repeated unchanged in each batch**: dropping the axis values, each batch renders
exactly the parameters of the search itself, in the same order -/
theorem batches_repeat_rest (el : String → Nat) (q : BugQuery) (hwf : q.WF) (base max : Int)
    (c : Candidate) (hc : q.splitAxis = some c) :
    ∀ b ∈ q.batches el base max,
      b.params.filter (fun p => p.1 ≠ axisKey q c.axis) = q.params.filter (fun p => p.1 ≠ axisKey q c.axis) := by
  obtain ⟨A, B, hs, _⟩ := shape_of_splitAxis q hwf.keys c hc
  obtain ⟨l, hbat, _⟩ := batches_of_axis el q base max c hc
  rw [hbat]
  intro b hb
  obtain ⟨vals, _, rfl⟩ := List.mem_map.1 hb
  rw [hs.rest_rebuilt, hs.rest]

/-- **each batch stays within the URL budget whenever a single value fits**: if the search has values to split
and every one of them, alone with the fixed parameters, fits `max_length - base_length`, then so does every batch.
For every length function `el` (the quoted length of a string) under which the key the values are really rendered
with (`v<slot>`) is not longer than the key the code prices them with (the field name) — for the `id` axis these
are the same key, for `package_list_any` it is `v<slot>` against `cf_stabilisation_atoms`. -/
theorem batch_within_budget (el : String → Nat) (q : BugQuery) (hwf : q.WF) (base max : Int)
    (c : Candidate) (hc : q.splitAxis = some c) (hne : c.values ≠ [])
    (hkey : ∀ idx, c.axis = .chart idx → el (axisKey q c.axis).toString ≤ el c.key)
    (hfit : ∀ v ∈ c.values, base + (urlLen el (q.rebuild c.axis [v]).params : Int) ≤ max) :
    ∀ b ∈ q.batches el base max, base + (urlLen el b.params : Int) ≤ max := by
  obtain ⟨A, B, hs, hplain⟩ := shape_of_splitAxis q hwf.keys c hc
  have hk : el (axisKey q c.axis).toString ≤ el c.key := by
    cases hax : c.axis with
    | simple key => rw [hplain key hax]; exact Nat.le_refl _
    | chart idx => exact hax ▸ hkey idx hax
  obtain ⟨l, hbat, hflat, hloop⟩ := batches_of_axis el q base max c hc
  rw [hbat]
  intro b hb
  obtain ⟨vals, hv, rfl⟩ := List.mem_map.1 hb
  rcases (hloop vals hv).2 with hlen | hsum
  · -- a single value: fits by hypothesis
    match vals, (hloop vals hv).1 hne, hlen with
    | [v], _, _ =>
      refine hfit v ?_
      rw [← hflat]; exact List.mem_flatten.2 ⟨[v], hv, List.mem_singleton.2 rfl⟩
  · -- the loop kept the priced sum within the budget; the real sum is not larger
    rw [urlLen, hs.sumLen_rebuilt] at hsum ⊢
    exact within_budget (costSum_mono _ _ (fun v => by omega) vals) hsum

example : BugQuery.splitAxis ⟨[("cc", ["x"]), ("id", ["1", "22", "333"])],
      [.crit ⟨"cf_stabilisation_atoms", "anywords", ["a/b", "c"], false, true⟩], none, none, none⟩
    = some ⟨"id", ["1", "22", "333"], .simple "id"⟩ := by decide +kernel

example : ((({ simple := [("id", ["1", "2", "3"]), ("cc", ["x"])] } : BugQuery).batches String.length 0 15).map (·.simple))
    = [[("cc", ["x"]), ("id", ["1", "2"])], [("cc", ["x"]), ("id", ["3"])]] := by decide +kernel

end Pkgcore.C37
