import Pkgcore.Spec.C45
import Pkgcore.Proofs.C01
/-!
# C45 — one range, then one `<package>` entry

The PMS order is the order without revisions, then the revisions (`pmsCmp_split`), so the r-operators become `~` plus a
comparison of revisions.  The nine operator names are handled through `opName` and one table lemma.
`range_of_stdOp` follows `generate_restrict_from_range` branch by branch for a node with a GLSA operator;
`ranges_of_stdOps` lifts it to the `mapM` over the nodes, from which Props/C45 gets the whole entry.  The last part
relates the string-prefix reading of `eq V*` to the component-prefix reading outside the open finding.
-/
namespace Pkgcore.C45
open Spec
open Pkgcore.C01 (Ver natOfDigits)
open Pkgcore.C01.Spec (pmsCmp revNat)

theorem pmsCmp_split (v1 v2 : Ver) (r1 r2 : Str) :
    pmsCmp v1 (some r1) v2 (some r2) = (pmsCmp v1 none v2 none).then (compare (natOfDigits r1) (natOfDigits r2)) := by
  simp only [pmsCmp, revNat, Nat.compare_eq_eq.2 rfl, Ordering.then_eq, Ordering.then_assoc]

theorem compare_zero_ne_lt (n : Nat) : compare n 0 ≠ Ordering.lt := by
  intro h; rw [Nat.compare_eq_lt] at h; omega

/-- the atom operator `op_translate` gives for a comparison -/
def sym : Cmp → Str
  | .lt => ['<'] | .le => ['<', '='] | .eq => ['='] | .ge => ['>', '='] | .gt => ['>']

theorem opVals_sym (c : Cmp) : ∃ vals, C01.opVals (String.ofList (sym c)) = some (vals, false) ∧
    ∀ o, vals.contains (C01.ordToInt o) = c.holds o := by
  cases c <;> exact ⟨_, rfl, fun o => by cases o <;> rfl⟩

theorem vmatch_std (c : Cmp) (v : Ver) (rev : Str) (p : Pkg) :
    VR.eval p (.vmatch (sym c) v (some rev)) = c.holds (pmsCmp p.ver (some p.rev) v (some rev)) := by
  obtain ⟨vals, h1, h2⟩ := opVals_sym c
  simp only [VR.eval, h1]
  rw [C01.versionMatch_pms _ _ _ _ _ _ _ (Or.inr (Or.inr ⟨rfl, rfl⟩)), Bool.bne_false, h2]
  rfl

theorem vmatch_tilde (v : Ver) (p : Pkg) :
    VR.eval p (.vmatch ['~'] v none) = (pmsCmp p.ver none v none == .eq) := by
  have h1 : C01.opVals (String.ofList ['~']) = some ([0], true) := rfl
  simp only [VR.eval, h1]
  rw [C01.versionMatch_pms _ _ _ _ _ _ _ (Or.inl rfl), Bool.bne_false]
  generalize pmsCmp p.ver none v none = o; cases o <;> rfl

/-- the GLSA name of an operator: `r` form or not, comparison -/
def opName : Bool → Cmp → Str
  | false, .lt => "lt".toList | false, .le => "le".toList | false, .eq => "eq".toList
  | false, .ge => "ge".toList | false, .gt => "gt".toList
  | true, .lt => "rlt".toList | true, .le => "rle".toList | true, .ge => "rge".toList | true, .gt => "rgt".toList
  | true, .eq => "eq".toList     -- not an operator; never produced by `parseOp`

theorem parseOp_cases {s : Str} {r : Bool} {c : Cmp} (h : parseOp s = some (r, c)) :
    s = opName r c ∧ ¬ (r = true ∧ c = .eq) := by
  unfold parseOp at h
  -- each of the nine tests either fixes `s` and `(r, c)` or hands `h` on to the next
  repeat
    rcases Lib.ite_eq_some h with ⟨rfl, h⟩ | h
    · cases h; exact ⟨rfl, nofun⟩
  cases h

theorem opName_table {r : Bool} {c : Cmp} (h : ¬ (r = true ∧ c = .eq)) :
    parseOp (opName r c) = some (r, c) ∧ opTranslate (lstripR (opName r c)) = some (sym c) ∧
      ((opName r c).head? = some 'r' ↔ r = true) := by
  cases r <;> cases c <;> first | decide +kernel | exact absurd ⟨rfl, rfl⟩ h

/-- the code tests the operator text; on operator names that is a test of the operator -/
theorem opName_eq_iff {r r' : Bool} {c c' : Cmp} (h : ¬ (r = true ∧ c = .eq)) (h' : ¬ (r' = true ∧ c' = .eq)) :
    opName r c = opName r' c' ↔ r = r' ∧ c = c' := by
  refine ⟨fun e => ?_, fun ⟨e1, e2⟩ => e1 ▸ e2 ▸ rfl⟩
  have := (opName_table h).1
  rw [e, (opName_table h').1] at this
  cases this; exact ⟨rfl, rfl⟩

theorem slot_all (p : Pkg) (xs : List VR) (slot : Str) :
    (xs ++ (if slot = [] then [] else [VR.slot slot])).all (VR.eval p)
      = (xs.all (VR.eval p) && (slot.isEmpty || decide (p.slot = slot))) := by
  cases slot <;> simp [VR.eval]

theorem then_eq_iff (a b : Ordering) : (a.then b == .eq) = (a == .eq && b == .eq) := by
  cases a <;> cases b <;> rfl

theorem holds_then (a b : Ordering) (c : Cmp) : (a == .eq && c.holds (a.then b)) = (a == .eq && c.holds b) := by
  cases a <;> rfl

theorem eq_holds_then (a b : Ordering) (hb : b ≠ .lt) : Cmp.eq.holds (a.then b) = (a == .eq && Cmp.le.holds b) := by
  cases a <;> cases b <;> first | rfl | exact absurd rfl hb

theorem ge_holds (b : Ordering) (hb : b ≠ .lt) : Cmp.ge.holds b = true := by
  cases b <;> first | rfl | exact absurd rfl hb

/-- the general form: `~` for the r-operators, then the comparison with the revision, then the slot -/
theorem general_eval (r : Bool) (c : Cmp) (v : Ver) (rev slot : Str) (p : Pkg) :
    ((if r = true then [VR.vmatch ['~'] v none] else []) ++ [VR.vmatch (sym c) v (some rev)]
        ++ (if slot = [] then [] else [VR.slot slot])).all (VR.eval p)
      = ((if r = true then pmsCmp p.ver none v none == .eq && c.holds (compare (natOfDigits p.rev) (natOfDigits rev))
          else c.holds (pmsCmp p.ver (some p.rev) v (some rev))) && (slot.isEmpty || decide (p.slot = slot))) := by
  rw [slot_all]
  congr 1
  cases r with
  | false =>
    simp only [Bool.false_eq_true, if_false, List.nil_append, List.all_cons, List.all_nil, Bool.and_true, vmatch_std]
  | true =>
    simp only [if_true, List.cons_append, List.nil_append, List.all_cons, List.all_nil, Bool.and_true, vmatch_tilde,
      vmatch_std, pmsCmp_split]
    exact holds_then _ _ c

/-- operators the code accepts are GLSA operators (the code strips *every* leading `r`, so it also accepts `req`,
`rrle`, …; those are outside the class of advisories) -/
def StdOp (n : RangeNode) : Prop := parseOp n.op = none → opTranslate (lstripR n.op) = none

def StdOps (n : PkgNode) : Prop := ∀ r ∈ n.vulnerable ++ n.unaffected, StdOp r

/-- the two short forms for revision 0 (`rle` as `=`, `rge` as `~`) agree with the general form (`general_eval`)
because no revision is below 0 -/
theorem range_of_stdOp (n : RangeNode) (hs : StdOp n) (neg : Bool) :
    (rangeValid n = false ∧ restrictFromRange n neg = .error ()) ∨
    (rangeValid n = true ∧ ∃ rr, restrictFromRange n neg = .ok rr ∧ rr.negate = neg ∧
      ∀ p, rr.eval p = (rangeHolds true n p != neg)) := by
  rcases hop : parseOp n.op with _ | ⟨r, c⟩
  · exact .inl ⟨by simp only [rangeValid, hop], by simp only [restrictFromRange, hs hop]⟩
  obtain ⟨op, slot, text⟩ := n
  obtain ⟨rfl, hrc⟩ := parseOp_cases hop
  unfold rangeValid restrictFromRange rangeHolds RangeR.eval
  simp only [hop, (opName_table hrc).2.1]
  match text with
  | none => exact .inl ⟨rfl, rfl⟩
  | some ⟨_, none⟩ => exact .inl ⟨rfl, rfl⟩
  | some ⟨true, some (fv, v, rev)⟩ =>
    simp only [if_true]
    by_cases he : opName r c = "eq".toList
    · refine .inr ⟨decide_eq_true he, _, if_neg (not_not_intro he), rfl, fun p => ?_⟩
      simp only [slot_all, List.all_cons, List.all_nil, Bool.and_true, VR.eval]
    · exact .inl ⟨decide_eq_false he, if_pos he⟩
  | some ⟨false, some (fv, v, rev)⟩ =>
    simp only [Bool.false_eq_true, if_false, show "rlt".toList = opName true .lt from rfl,
      show "rle".toList = opName true .le from rfl, show "rge".toList = opName true .ge from rfl,
      opName_eq_iff hrc (r' := true) (c' := .lt) nofun, opName_eq_iff hrc (r' := true) (c' := .le) nofun,
      opName_eq_iff hrc (r' := true) (c' := .ge) nofun, (opName_table hrc).2.2]
    by_cases hK : (r = true ∧ c = .lt ∨ r = true ∧ c = .le ∨ r = true ∧ c = .ge) ∧ rev = []
    · obtain ⟨⟨rfl, rfl⟩ | ⟨rfl, rfl⟩ | ⟨rfl, rfl⟩, rfl⟩ := hK
      · exact .inl ⟨rfl, rfl⟩
      · refine .inr ⟨rfl, _, rfl, rfl, fun p => ?_⟩
        rw [slot_all, show (['='] : Str) = sym .eq from rfl]
        simp only [List.all_cons, List.all_nil, Bool.and_true, if_true, vmatch_std, pmsCmp_split]
        rw [eq_holds_then _ (compare (natOfDigits p.rev) (natOfDigits [])) (compare_zero_ne_lt _)]
      · refine .inr ⟨rfl, _, rfl, rfl, fun p => ?_⟩
        rw [slot_all]
        simp only [List.all_cons, List.all_nil, Bool.and_true, if_true, vmatch_tilde,
          ge_holds (compare (natOfDigits p.rev) (natOfDigits [])) (compare_zero_ne_lt _)]
    · refine .inr ⟨?_, _, if_neg hK, rfl, fun p => by rw [general_eval]⟩
      rw [Bool.not_eq_true', Bool.eq_false_iff]
      intro h
      simp only [Bool.and_eq_true, beq_iff_eq, List.isEmpty_iff] at h
      exact hK ⟨.inl h.1, h.2⟩

/-- a well-formed range has a GLSA operator, which leaves the second case of `range_of_stdOp` -/
theorem range_of_valid (n : RangeNode) (hv : rangeValid n = true) (neg : Bool) :
    ∃ rr, restrictFromRange n neg = .ok rr ∧ rr.negate = neg ∧ ∀ p, rr.eval p = (rangeHolds true n p != neg) :=
  ((range_of_stdOp n (fun h => by simp only [rangeValid, h, Bool.false_eq_true] at hv) neg).resolve_left
    (fun h => by simp [hv] at h)).2

theorem ranges_of_stdOps (ns : List RangeNode) (hs : ∀ n ∈ ns, StdOp n) (neg : Bool) :
    (ns.all rangeValid = false ∧ ns.mapM (restrictFromRange · neg) = .error ()) ∨
    (ns.all rangeValid = true ∧
      ∃ rs, ns.mapM (restrictFromRange · neg) = .ok rs ∧ (∀ r ∈ rs, r.negate = neg) ∧
      ∀ p, rs.map (RangeR.eval p) = ns.map (fun n => rangeHolds true n p != neg)) := by
  induction ns with
  | nil => exact .inr ⟨rfl, [], rfl, nofun, fun _ => rfl⟩
  | cons n ns ih =>
    rw [List.all_cons, List.mapM_cons]
    rcases range_of_stdOp n (hs n List.mem_cons_self) neg with ⟨hn, e⟩ | ⟨hn, r, e, g2, g3⟩
    · exact .inl ⟨by rw [hn]; rfl, by rw [e]; rfl⟩
    · rw [hn, e]
      rcases ih (fun m hm => hs m (List.mem_cons_of_mem _ hm)) with ⟨hns, e'⟩ | ⟨hns, rs, e', h2, h3⟩
      · exact .inl ⟨hns, by rw [e']; rfl⟩
      · exact .inr ⟨hns, r :: rs, by rw [e']; rfl, List.forall_mem_cons.2 ⟨g2, h2⟩,
          fun p => by rw [List.map_cons, g3 p, h3 p, List.map_cons]⟩

theorem filter_negated (inv vuln : List RangeR) (h1 : ∀ r ∈ inv, r.negate = true)
    (h2 : ∀ r ∈ vuln, r.negate = false) : inv.filter (fun x => x ∉ vuln) = inv := by
  rw [List.filter_eq_self]
  intro x hx
  simp only [decide_eq_true_eq]
  intro hm
  have := h2 x hm
  rw [h1 x hx] at this
  cases this

theorem any_of_map_eq {α β : Type} {l : List α} {l' : List β} {f : α → Bool} {g : β → Bool}
    (h : l.map f = l'.map g) : l.any f = l'.any g := by
  simpa only [List.any_map, Function.id_comp] using congrArg (List.any · id) h

theorem all_of_map_eq {α β : Type} {l : List α} {l' : List β} {f : α → Bool} {g : β → Bool}
    (h : l.map f = l'.map g) : l.all f = l'.all g := by
  simpa only [List.all_map, Function.id_comp] using congrArg (List.all · id) h

theorem archOk_archFilter (arch : Option (List Str)) (p : Pkg) : archOk (archFilter arch) p = archHolds arch p := by
  cases arch with
  | none => rfl
  | some l =>
    unfold archFilter archOk archHolds
    by_cases hl : l = [] ∨ ['*'] ∈ l <;> simp [hl]

/-- the input class of the open finding: an `eq V*` range whose base is a string prefix of the package's full
version that does not end at a component boundary (`1.2*` against `1.20`) -/
def LoosePrefix (r : RangeNode) (p : Pkg) : Prop :=
  ∃ fv v rev, r.text = some ⟨true, some (fv, v, rev)⟩ ∧ fv.isPrefixOf p.fullver = true ∧
    boundary fv (p.fullver.drop fv.length) = false

theorem rangeHolds_strict (r : RangeNode) (p : Pkg) (h : ¬ LoosePrefix r p) :
    rangeHolds false r p = rangeHolds true r p := by
  obtain ⟨op, slot, text⟩ := r
  unfold rangeHolds
  simp only
  cases parseOp op with
  | none => rfl
  | some rc =>
    cases text with
    | none => rfl
    | some t =>
      obtain ⟨glob, parsed⟩ := t
      cases parsed with
      | none => rfl
      | some fvr =>
        obtain ⟨fv, v, rev⟩ := fvr
        cases glob with
        | false => rfl
        | true =>
          simp only [if_true, Bool.false_eq_true, if_false, compPrefix]
          cases hp : fv.isPrefixOf p.fullver with
          | false => rfl
          | true =>
            cases hb : boundary fv (p.fullver.drop fv.length) with
            | true => rfl
            | false => exact absurd ⟨fv, v, rev, rfl, hp, hb⟩ h

theorem affected_strict (n : PkgNode) (p : Pkg) (h : ∀ r ∈ n.vulnerable ++ n.unaffected, ¬ LoosePrefix r p) :
    affected false n p = affected true n p := by
  unfold affected
  rw [Lib.any_congr_left (l := n.vulnerable) (fun x hx => rangeHolds_strict x p (h x (by simp [hx]))),
    Lib.any_congr_left (l := n.unaffected) (fun x hx => rangeHolds_strict x p (h x (by simp [hx])))]

end Pkgcore.C45
