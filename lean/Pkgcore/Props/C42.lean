import Pkgcore.Proofs.C42
/-!
# C42 — package move updates follow move chains in file order

`readUpdates` mirrors `pkgcore.ebuild.pkg_updates.read_updates` (deque graph = heap of nodes);
`Spec.reference` is the sequential per-name reference.
-/
namespace Pkgcore.C42
open Spec

/-- **files are processed chronologically**: `_scan_directory` returns exactly the correctly named files
(each once), ordered by year and then quarter — whatever the order of the directory listing. -/
theorem scan_chronological (files : List UFile) :
    (scan files).Perm (files.filter fun f => f.key.isSome) ∧ (scan files).Pairwise chronLe := by
  refine ⟨List.mergeSort_perm _ _, ?_⟩
  have := List.pairwise_mergeSort UFile.le_trans UFile.le_total (files.filter fun f => f.key.isSome)
  exact this.imp (fun h => UFile.le_chron _ _ h)

/-- **the mapping returned by `read_updates` is the sequential reference**: for every list of update files (any
number, any content, any listing order) and every package name `k`, the commands reported for `k` are exactly
the chain of accepted moves and slotmoves that apply to the package originally called `k`, in file order; names
with an empty chain are absent. -/
theorem updates_eq_reference (files : List UFile) (k : Key) :
    assoc k (readUpdates files) = reference ((scan files).flatMap (·.lines)) k := by
  have trk := processAll_tracks files
  unfold readUpdates reference
  simp only
  rw [assoc_map_filter (fun e => flatten (processAll files).heap e.2.1) (fun e => !e.2.isEmpty) k _ trk.nodup]
  cases h : assoc k (processAll files).mods with
  | none =>
    simp only
    rw [(trk.absent h).1]; rfl
  | some v =>
    obtain ⟨hd, tl⟩ := v
    simp only
    rw [flatten_head trk h]
    cases chain k (accepted ((scan files).flatMap (·.lines))) <;> rfl

/-- every name is reported at most once -/
theorem updates_keys_nodup (files : List UFile) : ((readUpdates files).map (·.1)).Nodup := by
  have trk := processAll_tracks files
  unfold readUpdates
  simp only
  refine List.Nodup.sublist (List.Sublist.map _ List.filter_sublist) ?_
  rw [List.map_map]
  exact trk.nodup

-- the reference is not trivial: a chain through a cycle, with a redundant and a malformed line in between
example :
    let a : Atom := ⟨"c/a", "c/a", false, false⟩
    let b : Atom := ⟨"c/b", "c/b", false, false⟩
    let tk (x : Atom) : Tok := ⟨x.text, some x, false⟩
    let w (s : String) : Tok := ⟨s, none, true⟩
    reference [[w "slotmove", tk b, w "2", w "3"], [w "move", tk a, tk b], [w "move", tk b, tk a],
               [w "slotmove", tk a, w "0", w "1"], [w "move", tk b]] "c/a" = some [.move a b, .move b a] := by
  decide

/-- **redundant moves are ignored**: a well-formed `move`/`slotmove` whose source name has already been moved
changes nothing. -/
theorem redundant_moves_ignored (st : St) (line : List Tok) (c : Cmd)
    (hwf : wellFormed line = some c) (hmoved : c.srcKey ∈ st.moved) : processLine st line = st := by
  rw [processLine_eq, hwf]
  exact if_pos hmoved

example : wellFormed [⟨"move", none, false⟩, ⟨"c/a", some ⟨"c/a", "c/a", false, false⟩, false⟩,
    ⟨"c/b", some ⟨"c/b", "c/b", false, false⟩, false⟩] = some (.move ⟨"c/a", "c/a", false, false⟩ ⟨"c/b", "c/b", false, false⟩) := by
  decide

/-- **malformed lines are skipped**: a line that is not a well-formed command (blank, unknown command, wrong number
of arguments, unparsable or versioned atom, slotted slotmove source, invalid slot) changes nothing. -/
theorem malformed_lines_skipped (st : St) (line : List Tok) (hbad : wellFormed line = none) :
    processLine st line = st := by
  rw [processLine_eq, hbad]

example : wellFormed [⟨"move", none, false⟩, ⟨"=c/a-1", some ⟨"=c/a-1", "c/a", true, false⟩, false⟩,
    ⟨"c/b", some ⟨"c/b", "c/b", false, false⟩, false⟩] = none := by decide

/-- … hence the malformed lines of a file can be deleted without changing the outcome, from any state -/
theorem malformed_lines_removable (st : St) (lines : List (List Tok)) :
    lines.foldl processLine st = (lines.filter fun l => (wellFormed l).isSome).foldl processLine st := by
  rw [List.foldl_filter]
  refine List.foldl_rel (r := Eq) rfl fun l _ st _ e => e ▸ ?_
  split
  · rfl
  · next h => exact malformed_lines_skipped st l (Option.not_isSome_iff_eq_none.1 h)

/-- **the deque graph is acyclic**: in every reachable state each nested deque is younger than the deque that
contains it, so `iflatten_instance` terminates and the guard in `flatten` is always true. -/
theorem deque_graph_acyclic (files : List UFile) (i j : Nat)
    (h : Item.ref j ∈ node (processAll files).heap i) : i < j ∧ j < (processAll files).heap.length :=
  (processAll_tracks files).refs i j h

end Pkgcore.C42
