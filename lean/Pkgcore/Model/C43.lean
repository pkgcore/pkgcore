/-!
# C43 model — `pkgcore.config.central.ConfigManager`: section lookup, inheritance expansion, collapse

Mirrors, as written:

* `_integrate_config_source`: `sections_lookup[name].appendleft(section)` for every section of every source, sources in
  order (`buildLookup`; a stack's head is the section from the *latest* source);
* `_get_inherited_sections` (`loop`/`expand`): the `for … in slist` loop over a list that grows while it is iterated,
  with `inherit_names`, self-inherits served from the rest of the stack, and its three errors;
* `collapse_section` + `_ConfigStack.render_value`: inherit-only check, first entry (in `slist` order) holding a key wins,
  `class` required, the four special keys dropped.

A section is its `inherit` list (if the key is present), its `inherit-only` flag and its other items (string values;
typed rendering is glue exercised by the harness).  Names, keys and values are `String`.

`loop` is defined by well-founded recursion: Lean accepting the definition *is* the proof that the expansion
terminates on arbitrary (cyclic, self-referential, duplicated) inheritance graphs.
-/
namespace Pkgcore.C43

abbrev Name := String

structure Sec where
  inherit : Option (List Name)          -- `None` = no "inherit" key
  inheritOnly : Bool
  items : List (String × String)         -- every other key (including "class" and "default")
  deriving DecidableEq, Repr

abbrev Source := List (Name × Sec)       -- one config source: section name ↦ section
abbrev Lookup := List (Name × List Sec)  -- `sections_lookup`: name ↦ deque, head = most recently added

/-- `sections_lookup[n].appendleft(s)` -/
def pushLeft : Lookup → Name → Sec → Lookup
  | [], n, s => [(n, [s])]
  | (m, st) :: rest, n, s => if m = n then (m, s :: st) :: rest else (m, st) :: pushLeft rest n s

/-- the `for name in config_data` loop of `_integrate_config_source` -/
def integrate (lk : Lookup) (src : Source) : Lookup := src.foldl (fun lk p => pushLeft lk p.1 p.2) lk

/-- `reload()`: every source in order -/
def buildLookup (sources : List Source) : Lookup := sources.foldl integrate []

/-- `sections_lookup.get(n)` as (head, rest); stacks are never empty -/
def stackOf (lk : Lookup) (n : Name) : Option (Sec × List Sec) :=
  match lk.lookup n with
  | some (c :: r) => some (c, r)
  | _ => none

/-- one `(name, section_stack)` element of `slist`; the stack is `conf :: rest` -/
structure Entry where
  name : Name
  conf : Sec
  rest : List Sec
  deriving DecidableEq, Repr

inductive Err
  | noSection (n : Name)       -- "no section called …"
  | inheritOnly                -- "cannot collapse inherit-only section"
  | selfMissing (n : Name)     -- "Self-inherit … cannot be found"
  | recursive (n : Name)       -- "Inherit … is recursive"
  | missing (n : Name)         -- "Inherit target … cannot be found"
  | noClass                    -- "no class specified"
  deriving DecidableEq, Repr

/-- the `for inherit in inherits` loop for the entry `(cur, _ :: rest)`: appends to `slist` (here `adds`) and to
`inherit_names` (`v`) -/
def expand (lk : Lookup) (cur : Name) (rest : List Sec) : List Name → List Name → List Entry → Except Err (List Entry × List Name)
  | [], v, adds => .ok (adds, v)
  | i :: is, v, adds =>
    if i = cur then
      match rest with
      | [] => .error (.selfMissing i)
      | c :: r => expand lk cur rest is v (adds ++ [⟨i, c, r⟩])
    else if i ∈ v then .error (.recursive i)
    else match stackOf lk i with
      | none => .error (.missing i)
      | some (c, r) => expand lk cur rest is (v ++ [i]) (adds ++ [⟨i, c, r⟩])

/-! ### termination measure -/

/-- size of the tree of self-inherit entries hanging below a stack -/
def sts (n : Name) : List Sec → Nat
  | [] => 0
  | c :: r => 1 + (c.inherit.getD []).count n * sts n r

def weight (e : Entry) : Nat := sts e.name (e.conf :: e.rest)
def wsum (q : List Entry) : Nat := (q.map weight).sum

/-- names with a section that were not inherited yet -/
def unv (lk : Lookup) (v : List Name) : Nat := ((lk.map (·.1)).filter (fun n => !(v.contains n))).length

theorem wsum_append (a b : List Entry) : wsum (a ++ b) = wsum a + wsum b := by simp [wsum]

theorem stackOf_mem (lk : Lookup) (i : Name) (c : Sec) (r : List Sec) (h : stackOf lk i = some (c, r)) :
    i ∈ lk.map (·.1) := by
  unfold stackOf at h
  cases hl : lk.lookup i with
  | none => simp [hl] at h
  | some st =>
    obtain ⟨p, hp, hip⟩ := List.lookup_isSome_iff.1 (hl ▸ rfl : (lk.lookup i).isSome = true)
    exact List.mem_map.2 ⟨p, hp, (beq_iff_eq.1 hip).symm⟩

/-- inheriting a name that has a section and was not inherited before uses it up -/
theorem unv_lt (lk : Lookup) (v : List Name) (i : Name) (hi : i ∈ lk.map (·.1)) (hv : i ∉ v) :
    unv lk (v ++ [i]) < unv lk v := by
  have hsplit : (fun n => !((v ++ [i]).contains n)) = fun n => (!decide (n = i)) && !(v.contains n) := by
    funext n; simp [Bool.and_comm]
  have hmem : i ∈ (lk.map (·.1)).filter (fun n => !(v.contains n)) := List.mem_filter.2 ⟨hi, by simpa using hv⟩
  unfold unv
  rw [hsplit, ← List.filter_filter]
  exact Nat.lt_of_le_of_ne (List.length_filter_le _ _)
    fun h => by simpa using List.length_filter_eq_length_iff.1 h i hmem

/-- what one `expand` does to the measure of `loop`: either no new name was inherited and the added self-inherit entries
weigh no more than the rest of the stack allows, or the number of names not yet inherited went down -/
theorem expand_measure (lk : Lookup) (cur : Name) (rest : List Sec) (inh : List Name) (v : List Name)
    (adds adds' : List Entry) (v' : List Name) (h : expand lk cur rest inh v adds = .ok (adds', v')) :
    (v' = v ∧ wsum adds' ≤ wsum adds + inh.count cur * sts cur rest) ∨ unv lk v' < unv lk v := by
  -- the cases of `expand`: no name left; the section's own name with no earlier section, with one; a name inherited
  -- before; a name without a section; a name with one
  fun_induction expand lk cur rest inh v adds with
  | case1 v adds =>
    cases h
    exact .inl ⟨rfl, Nat.le_add_right _ _⟩
  | case2 => cases h
  | case3 is v adds c r hr ih =>
    subst hr
    refine (ih h).imp_left fun ⟨hv, hw⟩ => ⟨hv, ?_⟩
    have : wsum [⟨cur, c, r⟩] = sts cur (c :: r) := by simp [wsum, weight]
    rw [wsum_append, this] at hw
    rw [List.count_cons_self, Nat.add_mul, Nat.one_mul]
    omega
  | case4 => cases h
  | case5 => cases h
  | case6 i is v adds hic hiv c r hs ih =>
    have hlt := unv_lt lk v i (stackOf_mem lk i c r hs) hiv
    rcases ih h with ⟨rfl, _⟩ | hlt'
    · exact .inr hlt
    · exact .inr (Nat.lt_trans hlt' hlt)

/-- `_get_inherited_sections`: `q` = the part of `slist` not yet visited by the `for` loop, `acc` = the visited part
(reversed), `v` = `inherit_names` -/
def loop (lk : Lookup) (q : List Entry) (v : List Name) (acc : List Entry) : Except Err (List Entry) :=
  match q with
  | [] => .ok acc.reverse
  | e :: q' =>
    match hinh : e.conf.inherit with
    | none => loop lk q' v (e :: acc)
    | some inh =>
      match h : expand lk e.name e.rest inh v [] with
      | .error err => .error err
      | .ok (adds, v') => loop lk (q' ++ adds) v' (e :: acc)
termination_by (unv lk v, wsum q)
decreasing_by
  · simp_wf
    right
    simp [wsum, weight, sts]
    omega
  · simp_wf
    have := expand_measure lk e.name e.rest inh v [] adds v' h
    simp only [wsum_append]
    have hw : wsum (e :: q') = 1 + inh.count e.name * sts e.name e.rest + wsum q' := by
      simp [wsum, weight, sts, hinh]
    rw [hw]
    have h0 : wsum ([] : List Entry) = 0 := rfl
    rcases this with ⟨rfl, hle⟩ | hlt
    · right; omega
    · left; exact hlt

/-- first entry in `slist` order holding `key` (`_ConfigStack.render_value`) -/
def firstDef (key : String) (slist : List Entry) : Option String :=
  slist.findSome? (fun e => e.conf.items.lookup key)

/-- keys in order of first appearance (insertion order of the `_ConfigStack` dict) -/
def dedup : List String → List String
  | [] => []
  | a :: l => a :: (dedup l).filter (· ≠ a)

def specialKeys : List String := ["inherit", "inherit-only", "class", "default"]

/-- `collapse_named_section(name)` → `collapse_section`: the `config` mapping of the collapsed section,
keys in order of first appearance -/
def collapse (lk : Lookup) (name : Name) : Except Err (List (String × String)) :=
  match stackOf lk name with
  | none => .error (.noSection name)
  | some (c, r) =>
    if c.inheritOnly then .error .inheritOnly
    else match loop lk [⟨name, c, r⟩] [name] [] with
      | .error e => .error e
      | .ok slist =>
        match firstDef "class" slist with
        | none => .error .noClass
        | some _ =>
          let keys := (dedup (slist.flatMap (fun e => e.conf.items.map (·.1)))).filter (fun k => !(specialKeys.contains k))
          .ok (keys.filterMap (fun k => (firstDef k slist).map (k, ·)))

/-- stands for Python's `None`, the name under which `collapse_section([section])` walks an anonymous (inline) section:
it equals no section name and no name in an inherit list (the driver rejects inputs that use it), so neither the
self-inherit test `inherit == current_section` nor `inherit in inherit_names` can hit it -/
def anonName : Name := "<anonymous>"

/-- the part of `collapse_section` after `_get_inherited_sections`: `class` required, special keys dropped, first holder
of every key wins -/
def finish (slist : List Entry) : Except Err (List (String × String)) :=
  match firstDef "class" slist with
  | none => .error .noClass
  | some _ =>
    let keys := (dedup (slist.flatMap (fun e => e.conf.items.map (·.1)))).filter (fun k => !(specialKeys.contains k))
    .ok (keys.filterMap (fun k => (firstDef k slist).map (k, ·)))

/-- `collapse_section([sec])` for an anonymous section (inline `ref:`/`refs:` values, `LazyUnnamedSectionRef`): the
stack has one element and the name is `None` -/
def collapseAnon (lk : Lookup) (sec : Sec) : Except Err (List (String × String)) :=
  if sec.inheritOnly then .error .inheritOnly
  else match loop lk [⟨anonName, sec, []⟩] [anonName] [] with
    | .error e => .error e
    | .ok slist => finish slist

/-- the relevant sections themselves (for inspection by the driver) -/
def inherited (lk : Lookup) (name : Name) : Except Err (List Entry) :=
  match stackOf lk name with
  | none => .error (.noSection name)
  | some (c, r) => loop lk [⟨name, c, r⟩] [name] []

/-- the relevant sections of an anonymous section -/
def inheritedAnon (lk : Lookup) (sec : Sec) : Except Err (List Entry) := loop lk [⟨anonName, sec, []⟩] [anonName] []

/-- `is_default = bool(config_stack.render_value("default"))`: the raw value of the first relevant section holding the
key `default` (whatever it is — an explicit false shadows an inherited true) -/
def defaultOf (slist : List Entry) : Option String := firstDef "default" slist

/-! ## the manager over time: `rendered_sections`, `add_config_source`, `reload`

`collapse_named_section` answers from `rendered_sections` when the name was collapsed before; `reload()` rebuilds
`sections_lookup` from `original_config_sources` and throws the rendered sections away; `add_config_source` appends to
`original_config_sources` and reloads. -/

abbrev Cfg := List (String × String)

structure Mgr where
  sources : List Source            -- `original_config_sources`
  lookup : Lookup                  -- `sections_lookup`
  cache : List (Name × Cfg)        -- `rendered_sections` (successful collapses only)

/-- `reload()` -/
def Mgr.reload (m : Mgr) : Mgr := { m with lookup := buildLookup m.sources, cache := [] }

/-- `ConfigManager(sources)` -/
def Mgr.init (sources : List Source) : Mgr := Mgr.reload ⟨sources, [], []⟩

inductive MOp
  | collapse (name : Name)         -- `collapse_named_section(name)`
  | addSource (src : Source)       -- `add_config_source(src)`
  | reload                         -- `reload()`
  | collapseAnon (sec : Sec)       -- `collapse_section([sec])` on an anonymous section (not cached by the manager)

/-- one call; `some r` = what a collapse returned -/
def Mgr.step (m : Mgr) : MOp → Mgr × Option (Except Err Cfg)
  | .collapse n =>
    match m.cache.lookup n with
    | some c => (m, some (.ok c))
    | none =>
      match collapse m.lookup n with
      | .ok c => ({ m with cache := (n, c) :: m.cache }, some (.ok c))
      | .error e => (m, some (.error e))
  | .addSource src => (Mgr.reload { m with sources := m.sources ++ [src] }, none)
  | .reload => (m.reload, none)
  | .collapseAnon sec => (m, some (collapseAnon m.lookup sec))

def Mgr.run : Mgr → List MOp → Mgr × List (Option (Except Err Cfg))
  | m, [] => (m, [])
  | m, op :: ops =>
    let r := m.step op
    let rest := Mgr.run r.1 ops
    (rest.1, r.2 :: rest.2)

end Pkgcore.C43
