import Pkgcore.Proofs.C11Verdict
/-!
# C11 — `package.use` lines: the splitter, and the one chunk a line is stored as

Each splitter loop is the look-ahead specification behind the validity check (`splitUse_eq`), then what a token says
(`verdict_tokChunk`) per flag, so that what the splitter drops is overridden anyway (`lastTok_splitSpecFrom`); last, the
one chunk a line is stored as says the same as the line's tokens if the line is `orderFree` (`lastTok_orderFree`).
-/
namespace Pkgcore.C11
open Pkgcore.C11.Spec

theorem isSection_dashStar : ¬isSection dashStar = true := by decide

/-- how a token reads in the part `cur` (`none` = before the first section) -/
def inPart (cur : Option Tok) (t : Tok) : Tok := match cur with | none => t | some ue => expandTok ue t

theorem restOfPart_section {t : Tok} {ts : List Tok} (h : isSection t = true) : restOfPart (t :: ts) = [] := by
  simp [restOfPart, h]

theorem restOfPart_plain {t : Tok} {ts : List Tok} (h : ¬isSection t = true) :
    restOfPart (t :: ts) = t :: restOfPart ts := by
  simp [restOfPart, h]

theorem rewriteFrom_section {t : Tok} (h : isSection t = true) (cur : Option Tok) (ts : List Tok) :
    rewriteFrom cur (t :: ts) = rewriteFrom (some (sectionName t)) ts := by
  simp only [rewriteFrom, h, if_true]

theorem rewriteFrom_plain {t : Tok} (h : ¬isSection t = true) (cur : Option Tok) (ts : List Tok) :
    rewriteFrom cur (t :: ts) = inPart cur t :: rewriteFrom cur ts := by
  cases cur <;> simp only [rewriteFrom, h, Bool.false_eq_true, if_false, inPart]

theorem rewriteFrom_append (cur : Option Tok) (vals rest : List Tok) (h : (vals.all fun t => !isSection t) = true) :
    rewriteFrom cur (vals ++ rest) = vals.map (inPart cur) ++ rewriteFrom cur rest := by
  induction vals with
  | nil => rfl
  | cons t ts ih =>
    rw [List.all_cons, Bool.and_eq_true, Bool.not_eq_true'] at h
    rw [List.cons_append, rewriteFrom_plain (Bool.eq_false_iff.mp h.1), ih h.2]
    rfl

theorem splitSpecFrom_section {t : Tok} (h : isSection t = true) (cur : Option Tok) (ts : List Tok) :
    splitSpecFrom cur (t :: ts) = splitSpecFrom (some (sectionName t)) ts := by
  simp only [splitSpecFrom, h, if_true]

theorem splitSpecFrom_none {t : Tok} (h : ¬isSection t = true) (ts : List Tok) : splitSpecFrom none (t :: ts) =
    if (restOfPart ts).contains dashStar then splitSpecFrom none ts else t :: splitSpecFrom none ts := by
  simp only [splitSpecFrom, h, Bool.false_eq_true, if_false]

theorem splitSpecFrom_some {t : Tok} (h : ¬isSection t = true) (ue : Tok) (ts : List Tok) :
    splitSpecFrom (some ue) (t :: ts) =
      if t != dashStar && (restOfPart ts).contains dashStar then splitSpecFrom (some ue) ts
      else expandTok ue t :: splitSpecFrom (some ue) ts := by
  simp only [splitSpecFrom, h, Bool.false_eq_true, if_false]

theorem splitSpecFrom_plain {t : Tok} (hs : ¬isSection t = true) (cur : Option Tok) (ts : List Tok) :
    dashStar ∈ restOfPart ts ∧ splitSpecFrom cur (t :: ts) = splitSpecFrom cur ts ∨
      splitSpecFrom cur (t :: ts) = inPart cur t :: splitSpecFrom cur ts := by
  cases cur with
  | none =>
    rw [splitSpecFrom_none hs]
    split
    · rename_i hc
      exact .inl ⟨List.contains_iff_mem.mp hc, rfl⟩
    · exact .inr rfl
  | some ue =>
    rw [splitSpecFrom_some hs]
    split
    · rename_i hc
      exact .inl ⟨List.contains_iff_mem.mp (Bool.and_eq_true _ _ ▸ hc).2, rfl⟩
    · exact .inr rfl

theorem splitSpecFrom_sublist (toks : List Tok) (cur : Option Tok) :
    (splitSpecFrom cur toks).Sublist (rewriteFrom cur toks) := by
  fun_induction rewriteFrom cur toks with
  | case1 =>
    rw [splitSpecFrom]
    exact .slnil
  | case2 cur t ts hs ih =>
    rw [splitSpecFrom_section hs]
    exact ih
  | case3 cur t ts hs ih =>
    rcases splitSpecFrom_plain hs cur ts with ⟨_, h⟩ | h <;> rw [h]
    · exact ih.cons _
    · exact ih.cons_cons _

theorem checkedFrom_section {t : Tok} (h : isSection t = true) (cur : Option Tok) (ts : List Tok) :
    checkedFrom cur (t :: ts) = checkedFrom (some (sectionName t)) ts := by
  simp only [checkedFrom, h, if_true]

theorem checkedFrom_dashStar (cur : Option Tok) (ts : List Tok) :
    checkedFrom cur (dashStar :: ts) = checkedFrom cur ts := by
  simp only [checkedFrom, isSection_dashStar, Bool.false_eq_true, if_false, if_true]

theorem checkedFrom_plain {t : Tok} (h : ¬isSection t = true) (hd : t ≠ dashStar) (cur : Option Tok) (ts : List Tok) :
    checkedFrom cur (t :: ts) = inPart cur t :: checkedFrom cur ts := by
  cases cur <;> simp only [checkedFrom, h, hd, Bool.false_eq_true, if_false, inPart]

/-- the buffer survives iff no `-*` follows in this section -/
theorem secLoop_eq (valid : Tok → Bool) (ts : List Tok) (ue : Tok) (buf : List Tok) :
    secLoop valid ts ue buf =
      if (checkedFrom (some ue) ts).all fun t => valid (lstripDash t) then
        some ((if (restOfPart ts).contains dashStar then [] else buf) ++ splitSpecFrom (some ue) ts)
      else none := by
  fun_induction secLoop valid ts ue buf with
  | case1 => simp [checkedFrom, restOfPart, splitSpecFrom]  -- end
  | case2 t ts ue buf hs ih =>  -- header
    rw [ih, checkedFrom_section hs, restOfPart_section hs, splitSpecFrom_section hs, apply_ite (Option.map _),
      ite_self]
    rfl
  | case3 ts ue buf _ ih =>  -- `-*`
    rw [ih, checkedFrom_dashStar, restOfPart_plain isSection_dashStar, splitSpecFrom_some isSection_dashStar,
      apply_ite (Option.map _)]
    simp
  | case4 t ts ue buf hs hd f hv ih =>  -- valid token
    rw [ih, checkedFrom_plain hs hd, List.all_cons, inPart, hv, Bool.true_and, restOfPart_plain hs,
      splitSpecFrom_some hs, List.contains_cons, beq_eq_false_iff_ne.mpr (Ne.symm hd), bne_iff_ne.mpr hd]
    refine ite_congr rfl (fun _ => congrArg some ?_) fun _ => rfl
    cases (restOfPart ts).contains dashStar <;> simp [f]
  | case5 t ts ue buf hs hd f hv =>  -- invalid token
    rw [checkedFrom_plain hs hd, List.all_cons, inPart, Bool.eq_false_iff.mpr hv, Bool.false_and]
    rfl

/-- what has been seen of the plain head survives iff no `-*` follows in the plain head -/
theorem plainLoop_eq (valid : Tok → Bool) (ts pre : List Tok) :
    plainLoop valid ts pre =
      if (checkedFrom none ts).all fun t => valid (lstripDash t) then
        some ((if (restOfPart ts).contains dashStar then [] else pre) ++ splitSpecFrom none ts)
      else none := by
  fun_induction plainLoop valid ts pre with
  | case1 => simp [checkedFrom, restOfPart, splitSpecFrom]  -- end
  | case2 ts pre ih =>  -- `-*`
    rw [ih, checkedFrom_dashStar, restOfPart_plain isSection_dashStar, splitSpecFrom_none isSection_dashStar]
    refine ite_congr rfl (fun _ => congrArg some ?_) fun _ => rfl
    cases (restOfPart ts).contains dashStar <;> simp
  | case3 t ts pre _ hs =>  -- header
    rw [secLoop_eq, checkedFrom_section hs, restOfPart_section hs, splitSpecFrom_section hs,
      apply_ite (Option.map _), ite_self]
    rfl
  | case4 t ts pre hd hs hv ih =>  -- valid token
    rw [ih, checkedFrom_plain hs hd, List.all_cons, inPart, hv, Bool.true_and, restOfPart_plain hs,
      splitSpecFrom_none hs, List.contains_cons, beq_eq_false_iff_ne.mpr (Ne.symm hd)]
    refine ite_congr rfl (fun _ => congrArg some ?_) fun _ => rfl
    cases (restOfPart ts).contains dashStar <;> simp
  | case5 t ts pre hd hs hv =>  -- invalid token
    rw [checkedFrom_plain hs hd, List.all_cons, inPart, Bool.eq_false_iff.mpr hv, Bool.false_and]
    rfl

/-- **`package_use_splitter` is its specification**: a line whose checked tokens are all valid flag names yields
`splitSpec`, any other line is rejected -/
theorem splitUse_eq (valid : Tok → Bool) (toks : List Tok) :
    splitUse valid toks =
      if (checkedFrom none toks).all fun t => valid (lstripDash t) then some (splitSpec toks) else none := by
  rw [splitUse, plainLoop_eq, ite_self]
  rfl

theorem lastTok_cons (t : Tok) (ts : List Tok) (x : Tok) :
    lastTok (t :: ts) x = (lastTok ts x).orElse fun _ => verdict (tokChunk t) x := by
  simp [lastTok, lastV]

theorem verdict_tokChunk (t x : Tok) : verdict (tokChunk t) x =
    if t.head? = some '-' then (if covers [t.tail] x then some false else none)
    else if x = t then some true else none := by
  unfold tokChunk
  split <;> simp [verdict, covers_nil]

theorem verdict_dashStar (x : Tok) : verdict (tokChunk dashStar) x = some false := by
  rw [verdict_tokChunk, if_pos (show dashStar.head? = some '-' from rfl),
    if_pos ((covers_singleton dashStar.tail x).mpr (Or.inl rfl))]

theorem verdict_prefixClear (ue x : Tok) (hp : (ue ++ ['_']).isPrefixOf x = true) :
    verdict (tokChunk (expandTok ue dashStar)) x = some false := by
  have h1 : expandTok ue dashStar = '-' :: (ue ++ ['_', '*']) := by simp [expandTok, dashStar]
  have h2 : (ue ++ ['_', '*']).dropLast = ue ++ ['_'] := by
    rw [List.dropLast_append_of_ne_nil (by simp)]; rfl
  rw [verdict_tokChunk, h1, if_pos (List.head?_cons ..), if_pos]
  exact (covers_singleton _ x).mpr (Or.inr (Or.inl ⟨by simp [endsUS], by rw [List.tail_cons, h2]; exact hp⟩))

theorem lastTok_isSome_of_mem {t x : Tok} (ht : (verdict (tokChunk t) x).isSome = true) :
    ∀ toks : List Tok, t ∈ toks → (lastTok toks x).isSome = true := by
  intro toks
  induction toks with
  | nil => nofun
  | cons u us ih =>
    intro h
    rw [lastTok_cons, Option.orElse_eq_or, Option.isSome_or, Bool.or_eq_true]
    rcases List.mem_cons.mp h with rfl | h
    · exact Or.inr ht
    · exact Or.inl (ih h)

theorem clear_mem_rewriteFrom (cur : Option Tok) (ts : List Tok) (h : dashStar ∈ restOfPart ts) :
    inPart cur dashStar ∈ rewriteFrom cur ts := by
  rw [← List.takeWhile_append_dropWhile (p := fun t => !isSection t) (l := ts),
    rewriteFrom_append cur _ _ List.all_takeWhile]
  exact List.mem_append_left _ (List.mem_map_of_mem h)

/-- a name `ue_…` as a positive or as a negative (itself, or as a `ue_…_*` wildcard) only concerns flags `ue_…` -/
theorem prefix_of_concerned (ue r x : Tok) (h : x = ue ++ '_' :: r ∨ covers [ue ++ '_' :: r] x = true) :
    ue ++ ['_'] <+: x := by
  have hn : ue ++ '_' :: r = (ue ++ ['_']) ++ r := by simp
  rcases h with h | h
  · rw [h, hn]; exact List.prefix_append _ _
  · rcases (covers_singleton _ x).mp h with h' | ⟨he, hpre⟩ | h'
    · cases ue <;> simp [star] at h'
    · refine List.IsPrefix.trans ?_ (List.isPrefixOf_iff_prefix.mp hpre)
      cases r with
      | nil => simp [endsUS, List.isSuffixOf, List.reverse_append] at he
      | cons b bs =>
        rw [hn, List.dropLast_append_of_ne_nil (by simp)]
        exact List.prefix_append _ _
    · rw [h', hn]; exact List.prefix_append _ _

theorem verdict_expandTok_prefix (ue t x : Tok) (hue : ue.head? ≠ some '-')
    (h : verdict (tokChunk (expandTok ue t)) x ≠ none) : (ue ++ ['_']).isPrefixOf x = true := by
  rw [List.isPrefixOf_iff_prefix]
  rw [verdict_tokChunk, expandTok] at h
  by_cases ht : t.head? = some '-'
  · rw [if_pos ht, if_pos (List.head?_cons ..), List.tail_cons] at h
    refine prefix_of_concerned ue t.tail x (Or.inr ?_)
    cases hc : covers [ue ++ '_' :: t.tail] x
    · rw [hc] at h; exact absurd rfl h
    · rfl
  · have hh : (ue ++ '_' :: t).head? ≠ some '-' := by
      cases ue with
      | nil => simp
      | cons a as => simpa using hue
    rw [if_neg ht, if_neg hh] at h
    exact prefix_of_concerned ue t x (Or.inl (Decidable.not_not.mp fun hx => h (if_neg hx)))

theorem lastTok_cons_of_overridden {t u x : Tok} {l : List Tok} (hu : u ∈ l)
    (h : verdict (tokChunk t) x ≠ none → (verdict (tokChunk u) x).isSome = true) :
    lastTok (t :: l) x = lastTok l x := by
  rw [lastTok_cons]
  by_cases hv : verdict (tokChunk t) x = none
  · rw [hv]
    cases lastTok l x <;> rfl
  · obtain ⟨b, hb⟩ := Option.isSome_iff_exists.mp (lastTok_isSome_of_mem (h hv) l hu)
    rw [hb]
    rfl

/-- the clear of a part switches off every flag a token of that part speaks about -/
theorem verdict_clear {cur : Option Tok} (hcur : ∀ ue, cur = some ue → ue.head? ≠ some '-') (t x : Tok)
    (h : verdict (tokChunk (inPart cur t)) x ≠ none) : verdict (tokChunk (inPart cur dashStar)) x = some false := by
  cases cur with
  | none => exact verdict_dashStar x
  | some ue => exact verdict_prefixClear ue x (verdict_expandTok_prefix ue t x (hcur ue rfl) h)

/-- what the splitter drops is overridden anyway: per flag, the last token speaking about it is the same -/
theorem lastTok_splitSpecFrom (toks : List Tok) (x : Tok) (cur : Option Tok) :
    (∀ ue, cur = some ue → ue.head? ≠ some '-') → plainNames toks = true →
    lastTok (splitSpecFrom cur toks) x = lastTok (rewriteFrom cur toks) x := by
  fun_induction rewriteFrom cur toks with
  | case1 => intro _ _; rw [splitSpecFrom]
  | case2 cur t ts hs ih =>
    intro _ hn
    rw [plainNames, List.all_cons, Bool.and_eq_true] at hn
    rw [splitSpecFrom_section hs]
    refine ih (fun ue hue => ?_) hn.2
    rw [← Option.some.inj hue]
    simpa [hs] using hn.1
  | case3 cur t ts hs ih =>
    intro hcur hn
    rw [plainNames, List.all_cons, Bool.and_eq_true] at hn
    rcases splitSpecFrom_plain hs cur ts with ⟨hc, h⟩ | h <;> rw [h]
    · rw [ih hcur hn.2]
      exact (lastTok_cons_of_overridden (clear_mem_rewriteFrom cur ts hc) fun hv => by
        rw [verdict_clear hcur t x hv]; rfl).symm
    · rw [lastTok_cons, lastTok_cons, ih hcur hn.2]
      rfl

/-- the test that `orderFree` and `lineChunk` write out -/
def isNegTok (t : Tok) : Bool := t.head? == some '-'

/-- `split_negations` on a line that has no duplicates to remove: `negsOf` are the `-x` tokens without their `-`,
`possOf` the others -/
def negsOf (toks : List Tok) : List Tok := (toks.filter isNegTok).map List.tail

def possOf (toks : List Tok) : List Tok := toks.filter fun t => !isNegTok t

theorem negsOf_cons (t : Tok) (ts : List Tok) :
    negsOf (t :: ts) = if isNegTok t then t.tail :: negsOf ts else negsOf ts := by
  unfold negsOf
  rw [List.filter_cons]
  split <;> rfl

theorem possOf_cons (t : Tok) (ts : List Tok) :
    possOf (t :: ts) = if isNegTok t then possOf ts else t :: possOf ts := by
  unfold possOf
  rw [List.filter_cons]
  cases isNegTok t <;> rfl

/-- snakeoil's `stable_unique` is core's `eraseDups`: what is already `seen` is filtered out first -/
theorem stableUniqueAux_eq (ts seen : List Tok) :
    stableUniqueAux ts seen = (ts.filter fun t => !seen.contains t).eraseDups := by
  induction ts generalizing seen with
  | nil => rfl
  | cons t ts ih =>
    rw [stableUniqueAux, List.filter_cons]
    split
    · rename_i h
      rw [h]
      exact ih seen
    · rename_i h
      rw [(Bool.not_eq_true _).mp h, ih, Bool.not_false, if_pos rfl, List.eraseDups_cons, List.filter_filter]
      simp only [List.contains_cons, Bool.not_or]

theorem stableUnique_eq (ts : List Tok) : stableUnique ts = ts.eraseDups := by
  rw [stableUnique, stableUniqueAux_eq]
  exact congrArg _ (List.filter_eq_self.2 fun _ _ => rfl)

theorem verdict_lineChunk (kid : Nat) (simple : Bool) (toks : List Tok) (x : Tok) :
    verdict (lineChunk kid simple toks) x = verdict ⟨kid, simple, negsOf toks, possOf toks⟩ x := by
  have hp : (lineChunk kid simple toks).pos.contains x = (possOf toks).contains x := by
    rw [Bool.eq_iff_iff]
    simp [lineChunk, possOf, isNegTok, stableUnique_eq]
  have hc : covers (lineChunk kid simple toks).neg x = covers (negsOf toks) x := by
    apply covers_congr
    intro n
    simp [lineChunk, negsOf, isNegTok, stableUnique_eq]
  rw [verdict, verdict, hp, hc]

theorem covers_negsOf (ts : List Tok) (x : Tok) :
    covers (negsOf ts) x = ts.any fun u => isNegTok u && covers [u.tail] x := by
  induction ts with
  | nil => rfl
  | cons t ts ih =>
    rw [negsOf_cons, List.any_cons, ← ih]
    cases isNegTok t
    · rfl
    · exact covers_cons _ _ x

/-- an order-free line says per flag what its one chunk `(negsOf, possOf)` says, under any key (`verdict` does not look
at `kid`, `simple`) -/
theorem lastTok_orderFree (kid : Nat) (simple : Bool) (toks : List Tok) (x : Tok) (h : orderFree toks = true) :
    lastTok toks x = verdict ⟨kid, simple, negsOf toks, possOf toks⟩ x := by
  induction toks with
  | nil => rfl
  | cons t ts ih =>
    rw [orderFree, Bool.and_eq_true] at h
    rw [lastTok_cons, ih h.2, verdict_tokChunk, verdict, verdict, possOf_cons, negsOf_cons]
    have hhead : t.head? = some '-' ↔ isNegTok t = true := by rw [isNegTok, beq_iff_eq]
    simp only [hhead]
    cases ht : isNegTok t
    · rw [if_neg Bool.false_ne_true, if_neg Bool.false_ne_true, if_neg Bool.false_ne_true, List.contains_cons]
      by_cases hx : x = t
      · -- the flag the token switches on is not switched off again later
        have hfree : covers (negsOf ts) x = false := by
          rw [hx, covers_negsOf]
          simpa [isNegTok, show (t.head? == some '-') = false from ht] using h.1
        rw [if_pos hx, hfree, beq_iff_eq.mpr hx]
        cases (possOf ts).contains x <;> rfl
      · rw [if_neg hx, beq_eq_false_iff_ne.mpr hx]
        cases (possOf ts).contains x <;> cases covers (negsOf ts) x <;> rfl
    · rw [if_pos rfl, if_pos rfl, if_pos rfl, covers_cons t.tail (negsOf ts)]
      cases (possOf ts).contains x <;> cases covers (negsOf ts) x <;> cases covers [t.tail] x <;> rfl

end Pkgcore.C11
