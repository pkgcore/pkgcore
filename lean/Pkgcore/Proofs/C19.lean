import Pkgcore.Proofs.C18
import Pkgcore.Model.C19
import Pkgcore.Spec.C19
/-! # C19 — every state a merge passes through (`Reach`, Proofs/C18) is crash-safe -/
namespace Pkgcore.C19
open Pkgcore.C18 Pkgcore.C18.Spec Pkgcore.C19.Spec

theorem reach_oldPathSafeW {pre : Fs} {es : List Entry} {f : Fs} (h : Reach pre es f) (q : Path) :
    OldPathSafeW pre es f q := by
  unfold OldPathSafeW OldPathSafe
  cases hv : pre.view q with
  | none => exact Or.inl trivial
  | some v =>
    obtain ⟨i, nd⟩ := v
    simp only
    -- as in `pre` | a missing parent (but `pre` has `q`) | `IsTmp` | `NewAt` | `DirAt`: `KeptAt` or the window
    rcases h q with h1 | ⟨e, he, ⟨h1, _⟩ | ⟨h1, h2 | ⟨h2, j, h3⟩⟩ | ⟨h1, h2, h3⟩⟩
    · left; left; rw [h1, hv]
    · rw [hv] at h1; cases h1
    · left; right; right; right; exact ⟨e, he, h1, h2⟩
    · left; right; left; exact ⟨e, he, h2.symm, j, h3⟩
    · unfold DirAt at h3
      rcases h3 with ⟨i', nd0, g1, g2⟩ | ⟨⟨i', nd0, t, g1, g2⟩, g3⟩
      · rw [← h2, hv] at g1; cases g1
        left; right; right; left
        exact ⟨e, he, h1, h2.symm, g2⟩
      · right
        exact ⟨e, he, h1, h2.symm, ⟨i', nd0, t, by rw [h2]; exact g1, g2⟩, g3⟩

theorem reach_newPathInside {pre : Fs} {es : List Entry} {f : Fs} (h : Reach pre es f) (q : Path) :
    NewPathInside pre es f q := by
  intro hv hc
  rcases h q with h1 | ⟨e, he, ⟨_, h2⟩ | ⟨h1, h2 | ⟨h2, _⟩⟩ | ⟨_, h2, _⟩⟩
  · rw [h1, hv] at hc; exact absurd rfl hc
  · exact Or.inl ⟨e, he, h2⟩
  · exact Or.inr ⟨e, he, h1, h2⟩
  · exact Or.inl ⟨e, he, h2 ▸ List.suffix_refl _⟩
  · exact Or.inl ⟨e, he, h2 ▸ List.suffix_refl _⟩

theorem windowAt_excluded {pre : Fs} {es : List Entry} (hg : NoDirOverSymlink pre es) {q : Path}
    {v : Option (Nat × Inode)} (h : WindowAt pre es q v) : False := by
  obtain ⟨e, he, h1, h2, ⟨i, nd, t, h3, h4⟩, _⟩ := h
  exact hg e he h1 ⟨i, nd, h2 ▸ h3, t, h4⟩

theorem reach_crashSafe {pre : Fs} {es : List Entry} {f : Fs} (hg : NoDirOverSymlink pre es) (h : Reach pre es f) :
    CrashSafe pre es f := by
  refine ⟨fun q => ?_, reach_newPathInside h⟩
  rcases reach_oldPathSafeW h q with h1 | h1
  · exact h1
  · exact (windowAt_excluded hg h1).elim

theorem crashState_of_traj {env : Env} {P : Fs → Prop} {pre : Fs} {s' : St} (t : Traj env P ⟨pre, []⟩ s') :
    (∀ k, P (crashState env pre s'.log k)) ∧ s'.fs = crashState env pre s'.log s'.log.length := by
  obtain ⟨ops, h1, h2, h3⟩ := t
  simp only [List.nil_append] at h1
  unfold crashState
  rw [h1]
  exact ⟨h3, by rw [h2, ← List.length_map (f := Prod.fst), List.take_length]⟩

theorem merge_crashStates_reach {env : Env} {off : Bool} {pre : Fs} {es : List Entry}
    (g : Guards pre es) (hd : DistinctLocs es) (hroot : RootGuard off pre es) :
    (∀ k, Reach pre es (crashState env pre (mergeContents env off es pre).1.log k)) ∧
      (mergeContents env off es pre).1.fs =
        crashState env pre (mergeContents env off es pre).1.log (mergeContents env off es pre).1.log.length :=
  crashState_of_traj (merge_spec g hd hroot).1

end Pkgcore.C19
