import Pkgcore.Proofs.C03Prim
/-!
# C03 — USE dependencies

The validation loop accepts exactly the PMS forms: `stripUseAffixes` against `useForms`, the rest of its body
(`checkUseTok_eq`) as `stripUseDefault` against `useDefaults` and `checkUseFlag`, then `checkUseTok_iff` and
`parseUse_ok_iff`.  On top of it the USE stage of `parseWith` (`splitUse`, then `useStage`): one `_complete` for the
two together, since the text between the brackets only exists between them, and a `_sound` each.
-/
namespace Pkgcore.C03
open Pkgcore.C01 Pkgcore.C02 Pkgcore.C03.Spec

theorem useFlagOk_shape {f : Str} (h : useFlagOk f = true) :
    ∃ c cs, f = c :: cs ∧ c.isAlphanum = true ∧ nameChars ['+', '_', '@', '-'] f = true := by
  cases f with
  | nil => exact absurd h (by decide)
  | cons c cs =>
    rw [useFlagOk, Bool.and_eq_true] at h
    exact ⟨c, cs, rfl, h.2, h.1⟩

theorem stripUseAffixes_concat (x : Str) (l : Char) (hl : l = '=' ∨ l = '?') :
    stripUseAffixes (x ++ [l]) =
      match x with
      | [] => .error .useEmptyTok
      | c :: t =>
        match (if c = '!' then t else c :: t) with
        | [] => .error .useEmptyTok
        | d :: r => if d = '-' then .error .useMalformed else .ok (d :: r) := by
  unfold stripUseAffixes
  rw [List.getLast?_concat, List.dropLast_concat]
  simp only [hl, if_true]
  cases x with
  | nil => rfl
  | cons c t =>
    simp only
    by_cases hc : c = '!'
    · simp only [hc, if_true]
      cases t <;> rfl
    · simp only [hc, if_false]

theorem stripUseAffixes_plain (c : Char) (t : Str) (l : Char) (hl : (c :: t).getLast? = some l)
    (hl1 : l ≠ '=') (hl2 : l ≠ '?') :
    stripUseAffixes (c :: t) = if c = '-' then .ok t else .ok (c :: t) := by
  unfold stripUseAffixes
  simp only [hl, hl1, hl2, or_self, if_false]

theorem stripUseAffixes_complete {pre suf : Str} (hf : (pre, suf) ∈ useForms) {c : Char} {rest : Str}
    (hc1 : c ≠ '!') (hc2 : c ≠ '-') {l : Char} (hl : (c :: rest).getLast? = some l)
    (hl1 : l ≠ '=') (hl2 : l ≠ '?') : stripUseAffixes (pre ++ c :: rest ++ suf) = .ok (c :: rest) := by
  simp only [useForms, List.mem_cons, Prod.mk.injEq, List.not_mem_nil, or_false] at hf
  rcases hf with ⟨rfl, rfl⟩ | ⟨rfl, rfl⟩ | ⟨rfl, rfl⟩ | ⟨rfl, rfl⟩ | ⟨rfl, rfl⟩ | ⟨rfl, rfl⟩
  · simp only [List.nil_append, List.append_nil]
    rw [stripUseAffixes_plain c rest l hl hl1 hl2]
    simp [hc2]
  · have : ('-' :: c :: rest).getLast? = some l := by
      rw [show '-' :: c :: rest = ['-'] ++ (c :: rest) from rfl, List.getLast?_append, hl]
      rfl
    simp only [List.append_nil]
    rw [show ['-'] ++ c :: rest = '-' :: c :: rest from rfl, stripUseAffixes_plain '-' (c :: rest) l this hl1 hl2]
    simp
  · rw [List.nil_append, stripUseAffixes_concat _ _ (Or.inl rfl)]
    simp [hc1, hc2]
  · rw [show ['!'] ++ c :: rest = '!' :: c :: rest from rfl, stripUseAffixes_concat _ _ (Or.inl rfl)]
    simp [hc2]
  · rw [List.nil_append, stripUseAffixes_concat _ _ (Or.inr rfl)]
    simp [hc1, hc2]
  · rw [show ['!'] ++ c :: rest = '!' :: c :: rest from rfl, stripUseAffixes_concat _ _ (Or.inr rfl)]
    simp [hc2]

theorem stripUseAffixes_sound {t y : Str} (h : stripUseAffixes t = .ok y) :
    ∃ pre suf, (pre, suf) ∈ useForms ∧ t = pre ++ y ++ suf := by
  cases t with
  | nil => cases h
  | cons c0 t0 =>
    obtain ⟨l, hl⟩ : ∃ l, (c0 :: t0).getLast? = some l :=
      ⟨_, List.getLast?_eq_some_getLast (List.cons_ne_nil _ _)⟩
    by_cases hq : l = '=' ∨ l = '?'
    · have ht := Lib.eq_dropLast_append_of_getLast? hl
      rw [ht, stripUseAffixes_concat _ _ hq] at h
      rw [ht]
      -- `=` and `?` at once: the suffix is `[l]`, and both go with either prefix
      have hsuf : ∀ pre, (pre = [] ∨ pre = ['!']) → (pre, [l]) ∈ useForms := by
        rcases hq with rfl | rfl <;> rintro _ (rfl | rfl) <;> decide
      generalize (c0 :: t0).dropLast = x at h
      cases x with
      | nil => cases h
      | cons c tl =>
        by_cases hc : c = '!'
        · rw [hc] at h ⊢
          cases tl with
          | nil => cases h
          | cons d r =>
            simp only [if_true] at h
            split at h
            · cases h
            · cases h
              exact ⟨['!'], [l], hsuf _ (Or.inr rfl), rfl⟩
        · simp only [if_neg hc] at h
          split at h
          · cases h
          · cases h
            exact ⟨[], [l], hsuf _ (Or.inl rfl), rfl⟩
    · rw [stripUseAffixes_plain c0 t0 l hl (fun e => hq (Or.inl e)) (fun e => hq (Or.inr e))] at h
      split at h
      · rename_i hc
        cases h
        exact ⟨['-'], [], by decide, by rw [hc, List.append_nil]; rfl⟩
      · cases h
        exact ⟨[], [], by decide, (List.append_nil _).symm⟩

theorem mem_useDefaults {b : Bool} {dfl : Str} :
    dfl ∈ useDefaults b ↔ dfl = [] ∨ (b = true ∧ (dfl = ['(', '+', ')'] ∨ dfl = ['(', '-', ')'])) := by
  cases b <;> simp [useDefaults]

/-- the `(+)` / `(-)` handling of the validation loop: the token without its default -/
def stripUseDefault (o : Opts) (y : Str) : Except Err Str :=
  match y.getLast? with
  | none => .error .useEmptyTok
  | some l =>
    if l = ')' then
      if !o.useDepDefaults then .error .useDefaultsEapi
      else match stripSuffix? ['(', '+', ')'] y with
        | some z => .ok z
        | none => match stripSuffix? ['(', '-', ')'] y with
          | some z => .ok z
          | none => .ok y
    else .ok y

/-- the end of the validation loop -/
def checkUseFlag (z : Str) : Except Err Unit :=
  if z.isEmpty then .error .useEmptyTok else if !validUseFlag z then .error .useBadFlag else .ok ()

theorem checkUseTok_eq (o : Opts) (x : Str) :
    checkUseTok o x = (stripUseAffixes x).bind fun y => (stripUseDefault o y).bind checkUseFlag := by
  unfold checkUseTok stripUseDefault
  cases stripUseAffixes x with
  | error e => rfl
  | ok y =>
    dsimp only [Except.bind]
    cases y.getLast? with
    | none => rfl
    | some l =>
      -- `checkUseTok` and the right side use different auxiliary matchers; the elaborator sees that they agree only
      -- when it may unfold a matcher that is applied to a variable
      set_option smartUnfolding false in rfl

theorem stripUseDefault_sound {o : Opts} {y z : Str} (h : stripUseDefault o y = .ok z) :
    ∃ dfl ∈ useDefaults o.useDepDefaults, y = z ++ dfl := by
  have hnil : ∃ dfl ∈ useDefaults o.useDepDefaults, y = y ++ dfl :=
    ⟨[], mem_useDefaults.mpr (Or.inl rfl), (List.append_nil y).symm⟩
  unfold stripUseDefault at h
  split at h
  · cases h
  · split at h
    · cases ho : o.useDepDefaults with
      | false =>
        rw [ho] at h
        cases h
      | true =>
        rw [ho] at h
        simp only [Bool.not_true, Bool.false_eq_true, if_false] at h
        split at h
        · rename_i h1
          cases h
          exact ⟨_, mem_useDefaults.mpr (Or.inr ⟨rfl, Or.inl rfl⟩), stripSuffix?_sound h1⟩
        · split at h
          · rename_i h2
            cases h
            exact ⟨_, mem_useDefaults.mpr (Or.inr ⟨rfl, Or.inr rfl⟩), stripSuffix?_sound h2⟩
          · cases h
            exact ho ▸ hnil
    · cases h
      exact hnil

theorem stripUseDefault_complete {o : Opts} {flag dfl : Str} (hflag : useFlagOk flag = true)
    (hd : dfl ∈ useDefaults o.useDepDefaults) : stripUseDefault o (flag ++ dfl) = .ok flag := by
  unfold stripUseDefault
  rcases mem_useDefaults.mp hd with rfl | ⟨ho, rfl | rfl⟩
  · obtain ⟨c, cs, hfc, _, hall⟩ := useFlagOk_shape hflag
    obtain ⟨l, hl⟩ : ∃ l, flag.getLast? = some l :=
      ⟨_, List.getLast?_eq_some_getLast (hfc ▸ List.cons_ne_nil c cs)⟩
    have : l ≠ ')' := fun e => not_mem_of_nameChars hall (by decide) (by decide) (e ▸ List.mem_of_getLast? hl)
    rw [List.append_nil, hl]
    exact if_neg this
  · simp [List.getLast?_append, ho, stripSuffix?_append]
  · have hplus : stripSuffix? ['(', '+', ')'] (flag ++ ['(', '-', ')']) = none :=
      stripSuffix?_append_ne flag rfl (by decide)
    simp [List.getLast?_append, ho, hplus, stripSuffix?_append]

theorem checkUseFlag_iff {z : Str} : checkUseFlag z = .ok () ↔ useFlagOk z = true := by
  rw [← validUseFlag_iff, checkUseFlag]
  cases z with
  | nil => exact ⟨nofun, nofun⟩
  | cons c cs => cases validUseFlag (c :: cs) <;> simp

/-- **the body of the validation loop accepts exactly the PMS USE-dependency forms** (8.3.4) of EAPI record `o` -/
theorem checkUseTok_iff {o : Opts} {t : Str} : checkUseTok o t = .ok () ↔ useTokOk o t := by
  rw [checkUseTok_eq]
  constructor
  · intro h
    obtain ⟨y, hs, h⟩ := Lib.bind_eq_ok h
    obtain ⟨z, hd, hz⟩ := Lib.bind_eq_ok h
    obtain ⟨pre, suf, hf, rfl⟩ := stripUseAffixes_sound hs
    obtain ⟨dfl, hdfl, rfl⟩ := stripUseDefault_sound hd
    exact ⟨pre, z, dfl, suf, hf, hdfl, checkUseFlag_iff.mp hz, by simp only [List.append_assoc]⟩
  · rintro ⟨pre, flag, dfl, suf, hf, hd, hflag, rfl⟩
    -- `stripUseAffixes_complete` strips `pre` and `suf` off `flag ++ dfl`: a flag begins with neither `!` nor `-`, and
    -- `flag ++ dfl` ends in a flag character or `)`
    obtain ⟨c, cs, rfl, hc, hall⟩ := useFlagOk_shape hflag
    have hw : nameChars ['+', '_', '@', '-', '(', ')'] (c :: cs ++ dfl) = true := by
      have hdfl : ∀ b, ∀ d ∈ useDefaults b, nameChars ['+', '_', '@', '-', '(', ')'] d = true := by decide +kernel
      rw [nameChars_append, nameChars_mono (by decide) hall, hdfl _ _ hd]
      rfl
    obtain ⟨l, hl⟩ : ∃ l, (c :: (cs ++ dfl)).getLast? = some l :=
      ⟨_, List.getLast?_eq_some_getLast (List.cons_ne_nil _ _)⟩
    have hlw : ∀ x, x.isAlphanum = false → ['+', '_', '@', '-', '(', ')'].contains x = false → l ≠ x :=
      fun x h1 h2 e => not_mem_of_nameChars hw h1 h2 (e ▸ List.mem_of_getLast? hl)
    rw [List.append_assoc pre, List.cons_append, stripUseAffixes_complete hf
      (Lib.ne_of_class (p := Char.isAlphanum) hc (by decide)) (Lib.ne_of_class (p := Char.isAlphanum) hc (by decide)) hl
      (hlw '=' (by decide) (by decide)) (hlw '?' (by decide) (by decide))]
    show (stripUseDefault o (c :: cs ++ dfl)).bind checkUseFlag = _
    rw [stripUseDefault_complete hflag hd]
    exact checkUseFlag_iff.mpr hflag

theorem checkUseToks_iff (o : Opts) (l : List Str) :
    checkUseToks o l = .ok () ↔ ∀ t ∈ l, checkUseTok o t = .ok () := by
  induction l with
  | nil => simp [checkUseToks]
  | cons t ts ih =>
    unfold checkUseToks
    cases ht : checkUseTok o t with
    | error e => simp [ht]
    | ok u => simp [ht, ih]

theorem parseUse_ok_iff (o : Opts) (body : Str) (u : List Str) :
    parseUse o body = .ok u ↔ u = sortUse (splitOn ',' body) ∧ ∀ t ∈ splitOn ',' body, useTokOk o t := by
  unfold parseUse
  simp only [← checkUseTok_iff]
  cases hc : checkUseToks o (sortUse (splitOn ',' body)) with
  | error e =>
    refine ⟨nofun, fun ⟨_, hall⟩ => ?_⟩
    rw [(checkUseToks_iff o (sortUse _)).mpr fun t ht => hall t (List.mem_mergeSort.mp ht)] at hc
    cases hc
  | ok x =>
    have := (checkUseToks_iff o _).mp hc
    exact ⟨fun h => ⟨(Except.ok.inj h).symm, fun t ht => this t (List.mem_mergeSort.mpr ht)⟩,
      fun h => h.1 ▸ rfl⟩

/-- what can occur in a USE token besides letters and digits -/
def useExtra : List Char := ['+', '_', '@', '-', '!', '=', '?', '(', ')']

theorem useTok_chars {o : Opts} {t : Str} (h : useTokOk o t) : nameChars useExtra t = true := by
  obtain ⟨pre, flag, dfl, suf, hf, hd, hflag, rfl⟩ := h
  obtain ⟨_, _, _, _, hall⟩ := useFlagOk_shape hflag
  have hforms : ∀ ps ∈ useForms, nameChars useExtra ps.1 = true ∧ nameChars useExtra ps.2 = true := by
    decide +kernel
  have hdfl : ∀ b, ∀ d ∈ useDefaults b, nameChars useExtra d = true := by decide +kernel
  simp only [nameChars_append, Bool.and_eq_true]
  exact ⟨⟨⟨(hforms _ hf).1, nameChars_mono (by decide) hall⟩, hdfl _ _ hd⟩, (hforms _ hf).2⟩

/-- the `if use_start != -1:` block of `atom.__init__` after the bracket checks: a stage of `parseWith`
(`parseWith_eq`) -/
def useStage (o : Opts) (useBody : Option Str) : Except Err (Option (List Str)) :=
  match useBody with
  | none => .ok none
  | some body => match parseUse o body with
    | .ok u => .ok (some u)
    | .error e => .error e

/-- what `splitUse` cuts off -/
def useTxt : Option Str → Str
  | none => []
  | some body => '[' :: body ++ [']']

/-- `find("[")`, the `]` checks, `split(",")`, `sorted` and the validation loop on a rendered USE part -/
theorem splitUse_useStage_complete {o : Opts} {a : Atom} {pre : Str} (hpre : '[' ∉ pre)
    (hu : match a.use with | none => True | some u => u ≠ [] ∧ ∀ t ∈ u, useTokOk o t) :
    ∃ useBody, splitUse (pre ++ renderUse a) = .ok (pre, useBody) ∧ useStage o useBody = .ok (a.use.map sortUse) := by
  unfold renderUse
  cases hua : a.use with
  | none =>
    refine ⟨none, ?_, rfl⟩
    simp only [List.append_nil]
    unfold splitUse
    rw [breakOn_of_not_mem hpre]
  | some u =>
    rw [hua] at hu
    obtain ⟨hne, htok⟩ := hu
    cases u with
    | nil => exact absurd rfl hne
    | cons t ts =>
      have hnot : ∀ x : Char, x.isAlphanum = false → useExtra.contains x = false → ∀ p ∈ t :: ts, x ∉ p :=
        fun x h1 h2 p hp => not_mem_of_nameChars (useTok_chars (htok p hp)) h1 h2
      refine ⟨some (joinSep ',' (t :: ts)), ?_, ?_⟩
      · have hclose : ']' ∉ joinSep ',' (t :: ts) := not_mem_joinSep (by decide) (hnot ']' (by decide) (by decide))
        unfold splitUse
        rw [show pre ++ ('[' :: joinSep ',' (t :: ts) ++ [']']) = pre ++ '[' :: (joinSep ',' (t :: ts) ++ [']'])
          from rfl, breakOn_append _ hpre]
        simp only
        rw [show joinSep ',' (t :: ts) ++ [']'] = joinSep ',' (t :: ts) ++ ']' :: [] from rfl, breakOn_append [] hclose]
        simp
      · have hsplit : splitOn ',' (joinSep ',' (t :: ts)) = t :: ts :=
          splitOn_joinSep ',' (t :: ts) (by simp) (hnot ',' (by decide) (by decide))
        have : parseUse o (joinSep ',' (t :: ts)) = .ok (sortUse (t :: ts)) := by
          rw [parseUse_ok_iff, hsplit]
          exact ⟨rfl, htok⟩
        simp [useStage, this]

theorem splitUse_sound {s t : Str} {useBody : Option Str} (h : splitUse s = .ok (t, useBody)) :
    s = t ++ useTxt useBody := by
  unfold splitUse at h
  cases hb : breakOn '[' s with
  | none =>
    simp only [hb, Except.ok.injEq, Prod.mk.injEq] at h
    obtain ⟨rfl, rfl⟩ := h
    simp [useTxt]
  | some p =>
    obtain ⟨pre, post⟩ := p
    simp only [hb] at h
    obtain ⟨hs, _⟩ := breakOn_sound hb
    cases hb2 : breakOn ']' post with
    | none => simp [hb2] at h
    | some q =>
      obtain ⟨body, rest⟩ := q
      simp only [hb2] at h
      obtain ⟨hp, _⟩ := breakOn_sound hb2
      cases rest with
      | cons _ _ => simp at h
      | nil =>
        simp only [List.isEmpty_nil, if_true, Except.ok.injEq, Prod.mk.injEq] at h
        obtain ⟨rfl, rfl⟩ := h
        rw [hs, hp]
        simp [useTxt]

theorem renderUse_of_split {a : Atom} {useBody : Option Str} (h : a.use = useBody.map (splitOn ',')) :
    renderUse a = useTxt useBody := by
  unfold renderUse
  rw [h]
  cases useBody with
  | none => rfl
  | some body =>
    cases hsp : splitOn ',' body with
    | nil => exact absurd hsp (splitOn_ne_nil _ _)
    | cons p ps =>
      simp only [Option.map_some, hsp, useTxt]
      rw [← hsp, joinSep_splitOn]

theorem useStage_sound {o : Opts} {useBody : Option Str} {use : Option (List Str)} (h : useStage o useBody = .ok use) :
    use = (useBody.map (splitOn ',')).map sortUse ∧
      ∀ body, useBody = some body → ∀ t ∈ splitOn ',' body, useTokOk o t := by
  unfold useStage at h
  cases useBody with
  | none =>
    simp only [Except.ok.injEq] at h
    subst h
    exact ⟨rfl, fun _ e => by cases e⟩
  | some body =>
    simp only at h
    cases hp : parseUse o body with
    | error e => simp [hp] at h
    | ok u =>
      simp only [hp, Except.ok.injEq] at h
      subst h
      obtain ⟨hu, hall⟩ := (parseUse_ok_iff o body u).mp hp
      exact ⟨by simp [hu], fun b e => Option.some.inj e ▸ hall⟩

end Pkgcore.C03
