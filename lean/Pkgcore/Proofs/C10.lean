import Pkgcore.Spec.C10
import Pkgcore.Proofs.C09Eval
/-!
# C10 — the compiled constraints against the REQUIRED_USE semantics, and the cartesian product

First the compilation, each fact with a node half and a list half by C09's `Dep.induct₂`: the constraints `toMultiple`
splits a rule into hold together iff the single compiled constraint `evalSingle` does (`toMultiple_single`), and
`evalSingle` is C09's three-valued `satAbs` with an absent member read as satisfied (`condFree_sat`, `guarded_single`).
Then the enumeration: membership, shape, distinctness and head of `product`, the four shapes of `domainOf`, and that
the last value of each domain is the property's preferred value.
-/
namespace Pkgcore.C10
open Pkgcore.C09 Pkgcore.C09.Spec Pkgcore.C10.Spec

@[simp] theorem toMultipleL_nil : toMultipleL [] = [] := by simp [toMultipleL]

@[simp] theorem toMultipleL_cons (c cs) : toMultipleL (c :: cs) = toMultiple c ++ toMultipleL cs := by
  simp [toMultipleL]

@[simp] theorem allSingle_nil (on) : allSingle on [] = true := by simp [allSingle]

@[simp] theorem allSingle_cons (on c cs) : allSingle on (c :: cs) = (evalSingle on c && allSingle on cs) := by
  simp [allSingle]

theorem toMultiple_single (on : List Tok) :
    (∀ t : Dep, (toMultiple t).all (·.eval on) = evalSingle on t) ∧
      ∀ ts : List Dep, (toMultipleL ts).all (·.eval on) = allSingle on ts := by
  apply Dep.induct₂
  case leaf => intro k r; simp [toMultiple, MC.eval]
  case cond =>
    intro n f cs ih
    simp only [toMultiple, List.all_map, evalSingle, ← ih]
    rw [List.or_all_distrib_left]
    congr 1
    funext c
    simp [MC.eval, Bool.or_assoc]
  case grp =>
    intro kind cs ih
    cases kind
    case and => simp [toMultiple, evalSingle, ih]
    all_goals simp [toMultiple, MC.eval]
  case nil => simp
  case cons => intro c cs hc hcs; simp [List.all_append, hc, hcs]

theorem toMultiple_all (on : List Tok) : ∀ t : Dep, (toMultiple t).all (·.eval on) = evalSingle on t :=
  (toMultiple_single on).1

theorem anySingle_eq (on : List Tok) : ∀ cs : List Dep, anySingle on cs = (cs.map (evalSingle on)).any id
  | [] => by simp [anySingle]
  | c :: cs => by simp [anySingle, anySingle_eq on cs]

theorem allSingle_eq (on : List Tok) : ∀ cs : List Dep, allSingle on cs = (cs.map (evalSingle on)).all id
  | [] => by simp
  | c :: cs => by simp [allSingle_eq on cs]

theorem countSingle_eq (on : List Tok) : ∀ cs : List Dep, countSingle on cs = (cs.map (evalSingle on)).count true
  | [] => by simp [countSingle]
  | c :: cs => by
      simp only [countSingle, List.map_cons, List.count_cons, countSingle_eq on cs]
      cases evalSingle on c
      · simp
      · simp; omega

theorem condFree_sat (on : List Tok) :
    (∀ t : Dep, hasCond t = false → nonEmpty t = true → satAbs (flagOn on) (litOn on) t = some (evalSingle on t)) ∧
      ∀ cs : List Dep, hasCondL cs = false → nonEmptyL cs = true →
        membersAbs (flagOn on) (litOn on) cs = cs.map (evalSingle on) := by
  apply Dep.induct₂
  case leaf => intro k r _ _; simp [satAbs, evalSingle, litOn]
  case cond => intro n f cs _ h; simp [hasCond] at h
  case grp =>
    intro kind cs ih h hne
    have hc : hasCondL cs = false := by simpa [hasCond] using h
    simp only [nonEmpty, Bool.and_eq_true, Bool.not_eq_true', List.isEmpty_eq_false_iff] at hne
    have hm := ih hc hne.2
    have hmne : (cs.map (evalSingle on)).isEmpty = false := by
      cases cs with
      | nil => exact absurd rfl hne.1
      | cons _ _ => rfl
    simp only [satAbs, hm, hmne, Bool.false_and, Bool.false_eq_true, if_false]
    cases kind with
    | and => simp [judge, evalSingle, allSingle_eq]
    | or => simp [judge, evalSingle, anySingle_eq, hmne]
    | justOne => simp [judge, evalSingle, countSingle_eq, hmne]
    | atMostOne => simp [judge, evalSingle, countSingle_eq]
  case nil => intro _ _; simp
  case cons =>
    intro c cs hc hcs h hne
    simp only [hasCondL_cons, Bool.or_eq_false_iff] at h
    simp only [nonEmptyL, Bool.and_eq_true] at hne
    simp [hc h.1 hne.1, hcs h.2 hne.2]

theorem condFree_members (on : List Tok) : ∀ cs : List Dep, hasCondL cs = false → nonEmptyL cs = true →
    membersAbs (flagOn on) (litOn on) cs = cs.map (evalSingle on) :=
  (condFree_sat on).2

/-- with no conditional below a choice group, the compiled constraint is `satAbs` read with `.getD true`: an absent
member (an unmet conditional) counts as satisfied.  Under `&&` and in a conditional body that is what dropping it
means; inside `||`/`^^`/`??` it is not (finding C10-unmet-conditional-in-choice-group), hence the guard
`choiceCondFree`, under which those groups fall to `condFree_sat`. -/
theorem guarded_single (on : List Tok) :
    (∀ t : Dep, choiceCondFree t = true → nonEmpty t = true →
        evalSingle on t = (satAbs (flagOn on) (litOn on) t).getD true) ∧
      ∀ cs : List Dep, choiceCondFreeL cs = true → nonEmptyL cs = true →
        allSingle on cs = (membersAbs (flagOn on) (litOn on) cs).all id := by
  apply Dep.induct₂
  case leaf => intro k r _ _; simp [satAbs, evalSingle, litOn]
  case cond =>
    intro n f cs ih hg hne
    simp only [nonEmpty, Bool.and_eq_true] at hne
    -- unmet: the compiled rule holds and the conditional is absent; met: both are the body read as an all-of
    rw [evalSingle, satAbs_cond_getD, ih (by simpa [choiceCondFree] using hg) hne.2,
      show (flagOn on f != n) = !(on.contains f == n) from rfl]
    cases on.contains f == n <;> rfl
  case grp =>
    intro kind cs ih hg hne
    cases kind
    case and =>
      simp only [nonEmpty, Bool.and_eq_true] at hne
      rw [evalSingle, satAbs_grp_getD, ih (by simpa [choiceCondFree] using hg) hne.2, judge]
    all_goals
      rw [(condFree_sat on).1 _ (by simpa [choiceCondFree, hasCond] using hg) hne]; rfl
  case nil => intro _ _; simp
  case cons =>
    intro c cs hc hcs hg hne
    simp only [choiceCondFreeL, Bool.and_eq_true] at hg
    simp only [nonEmptyL, Bool.and_eq_true] at hne
    rw [allSingle_cons, hc hg.1 hne.1, hcs hg.2 hne.2, membersAbs_cons_all]

theorem guarded_sat (on : List Tok) : ∀ t : Dep, choiceCondFree t = true → nonEmpty t = true →
    evalSingle on t = (satAbs (flagOn on) (litOn on) t).getD true :=
  (guarded_single on).1

theorem mem_product : ∀ (doms : List (Tok × List Bool)) (a : List (Tok × Bool)),
    a ∈ product doms ↔ inProd a doms = true
  | [], [] => by simp [product, inProd]
  | [], (v, b) :: es => by simp [product, inProd]
  | (w, dom) :: rest, [] => by simp [product, inProd]
  | (w, dom) :: rest, (v, b) :: es => by
      simp only [product, List.mem_flatMap, List.mem_reverse, List.mem_map, inProd, Bool.and_eq_true, beq_iff_eq,
        List.contains_iff_mem, List.cons.injEq, Prod.mk.injEq, ← mem_product rest]
      constructor
      · rintro ⟨b', hb', a', ha', ⟨rfl, rfl⟩, rfl⟩
        exact ⟨⟨rfl, hb'⟩, ha'⟩
      · rintro ⟨⟨rfl, h2⟩, h3⟩
        exact ⟨b, h2, es, h3, ⟨rfl, rfl⟩, rfl⟩

theorem inProd_map (D : Tok → List Bool) (f : Tok → Bool) : ∀ vars : List Tok,
    inProd (vars.map fun v => (v, f v)) (vars.map fun v => (v, D v)) = true ↔ ∀ v ∈ vars, f v ∈ D v
  | [] => by simp [inProd]
  | v :: vs => by simp [inProd, inProd_map D f vs]

/-- an assignment of the product lists the variables in order: it is determined by its `lookup` -/
theorem inProd_shape (D : Tok → List Bool) : ∀ (vars : List Tok) (al : List (Tok × Bool)), vars.Nodup →
    inProd al (vars.map fun v => (v, D v)) = true → al = vars.map fun v => (v, (al.lookup v).getD false)
  | [], [], _, _ => rfl
  | [], (v, b) :: es, _, h => by simp [inProd] at h
  | w :: ws, [], _, h => by simp [inProd] at h
  | w :: ws, (v, b) :: es, hnd, h => by
      simp only [List.map_cons, inProd, Bool.and_eq_true, beq_iff_eq] at h
      obtain ⟨⟨rfl, _⟩, h3⟩ := h
      have hnd' := List.nodup_cons.mp hnd
      rw [List.map_cons, List.lookup_cons_self, Option.getD_some, List.cons.injEq]
      refine ⟨rfl, (inProd_shape D ws es hnd'.2 h3).trans (List.map_congr_left fun x hx => ?_)⟩
      rw [List.lookup_cons, beq_false_of_ne fun e : x = v => hnd'.1 (e ▸ hx)]

theorem inProd_domain (D : Tok → List Bool) (vars : List Tok) (a : List (Tok × Bool)) (hnd : vars.Nodup)
    (h : inProd a (vars.map fun v => (v, D v)) = true) : ∀ e ∈ a, e.2 ∈ D e.1 := by
  have hs := inProd_shape D vars a hnd h
  intro e he
  rw [hs] at h he
  obtain ⟨w, hw, rfl⟩ := List.mem_map.mp he
  exact (inProd_map D _ vars).mp h w hw

theorem product_nodup : ∀ (doms : List (Tok × List Bool)), (∀ d ∈ doms, d.2.Nodup) → (product doms).Nodup
  | [], _ => by simp [product]
  | (v, dom) :: rest, h => by
      have ih := product_nodup rest (fun d hd => h d (List.mem_cons_of_mem _ hd))
      have hd : dom.Nodup := h (v, dom) (by simp)
      unfold product
      unfold List.Nodup
      rw [List.pairwise_flatMap]
      -- within the block of one value by `ih`; across blocks the heads differ, the reversed domain having no duplicates
      refine ⟨fun b _ => ?_, ?_⟩
      · rw [List.pairwise_map]
        exact List.Pairwise.imp (fun {a b} hab h0 => hab (by simpa using h0)) ih
      · have : List.Pairwise (· ≠ ·) dom.reverse := by
          rw [List.pairwise_reverse]; exact List.Pairwise.imp (fun {a b} h => Ne.symm h) hd
        refine List.Pairwise.imp (fun {b1 b2} hne x hx y hy => ?_) this
        simp only [List.mem_map] at hx hy
        obtain ⟨_, _, rfl⟩ := hx
        obtain ⟨_, _, rfl⟩ := hy
        intro h0
        simp only [List.cons.injEq, Prod.mk.injEq, true_and] at h0
        exact hne h0.1

theorem product_head : ∀ (doms : List (Tok × List Bool)), (∀ d ∈ doms, d.2 ≠ []) →
    (product doms).head? = some (doms.map fun d => (d.1, d.2.getLast?.getD false))
  | [], _ => by simp [product]
  | (v, dom) :: rest, h => by
      have ih := product_head rest (fun d hd => h d (List.mem_cons_of_mem _ hd))
      have hne : dom ≠ [] := h (v, dom) (by simp)
      unfold product
      cases hr : dom.reverse with
      | nil => simp at hr; exact absurd hr hne
      | cons b bs =>
        have hb : dom.getLast? = some b := by
          rw [← List.head?_reverse, hr]; rfl
        cases hp : product rest with
        | nil => rw [hp] at ih; simp at ih
        | cons a as =>
          rw [hp] at ih
          simp only [List.head?_cons, Option.some.injEq] at ih
          simp [List.flatMap_cons, hb, ih]

theorem mem_dedup : ∀ (l : List Tok) (x : Tok), x ∈ dedup l ↔ x ∈ l
  | [], x => by simp [dedup]
  | y :: ys, x => by
      unfold dedup
      by_cases h : ys.contains y = true
      · have hy : y ∈ ys := by simpa using h
        simp only [h, if_true, mem_dedup ys x, List.mem_cons]
        exact ⟨Or.inr, fun h0 => h0.elim (fun h1 => h1 ▸ hy) id⟩
      · have hy : y ∉ ys := by simpa using h
        simp only [h, Bool.false_eq_true, if_false, List.mem_cons, mem_dedup ys x]

theorem dedup_nodup : ∀ l : List Tok, (dedup l).Nodup
  | [] => by simp [dedup]
  | y :: ys => by
      unfold dedup
      by_cases h : ys.contains y = true
      · simp only [h, if_true]; exact dedup_nodup ys
      · have hy : y ∉ ys := by simpa using h
        simp only [h, Bool.false_eq_true, if_false, List.nodup_cons]
        exact ⟨fun h0 => hy ((mem_dedup ys y).mp h0), dedup_nodup ys⟩

theorem domainOf_cases (inp : Inputs) (v : Tok) :
    ((v ∉ inp.iuse ∨ v ∈ inp.forceF) ∧ domainOf inp v = [false]) ∨
    (v ∈ inp.iuse ∧ v ∉ inp.forceF ∧ v ∈ inp.forceT ∧ domainOf inp v = [true]) ∨
    (v ∈ inp.iuse ∧ v ∉ inp.forceF ∧ v ∉ inp.forceT ∧ v ∈ inp.preferT ∧
      domainOf inp v = [false, true]) ∨
    (v ∈ inp.iuse ∧ v ∉ inp.forceF ∧ v ∉ inp.forceT ∧ v ∉ inp.preferT ∧
      domainOf inp v = [true, false]) := by
  unfold domainOf
  by_cases h1 : v ∈ inp.iuse
  · by_cases h2 : v ∈ inp.forceF
    · simp [h1, h2]
    · by_cases h3 : v ∈ inp.forceT
      · simp [h1, h2, h3]
      · by_cases h4 : v ∈ inp.preferT <;> simp [h1, h2, h3, h4]
  · simp [h1]

theorem domainOf_nodup (inp : Inputs) (v : Tok) : (domainOf inp v).Nodup := by
  rcases domainOf_cases inp v with ⟨_, h⟩ | ⟨_, _, _, h⟩ | ⟨_, _, _, _, h⟩ | ⟨_, _, _, _, h⟩
  all_goals rw [h]; decide

theorem domainOf_ne_nil (inp : Inputs) (v : Tok) : domainOf inp v ≠ [] := by
  rcases domainOf_cases inp v with ⟨_, h⟩ | ⟨_, _, _, h⟩ | ⟨_, _, _, _, h⟩ | ⟨_, _, _, _, h⟩
  all_goals rw [h]; nofun

/-- `hdis`: no IUSE flag is forced both ways (`add_variable` asserts it) -/
theorem domainOf_last_eq_wording (inp : Inputs) (v : Tok)
    (hdis : v ∈ inp.iuse → v ∈ inp.forceT → v ∉ inp.forceF) :
    (domainOf inp v).getLast?.getD false = Spec.preferredOn inp v := by
  unfold Spec.preferredOn
  rcases domainOf_cases inp v with ⟨h | h, e⟩ | ⟨h1, h2, h3, e⟩ | ⟨h1, h2, h3, h4, e⟩ | ⟨h1, h2, h3, h4, e⟩
  all_goals rw [e]
  · simp [h]
  · by_cases h1 : v ∈ inp.iuse
    · have h3 : v ∉ inp.forceT := fun h3 => hdis h1 h3 h
      simp [h, h3]
    · simp [h1]
  · simp [h1, h3]
  · simp [h1, h2, h3, h4]
  · simp [h1, h2, h3, h4]

theorem preferred_eq_wording (inp : Inputs) (vars : List Tok)
    (hdis : ∀ f, f ∈ inp.iuse → f ∈ inp.forceT → f ∉ inp.forceF) :
    Spec.preferred inp vars = Spec.preferredByWording inp vars := by
  unfold Spec.preferred Spec.preferredByWording
  exact List.map_congr_left fun v _ => by rw [domainOf_last_eq_wording inp v (hdis v)]

end Pkgcore.C10
