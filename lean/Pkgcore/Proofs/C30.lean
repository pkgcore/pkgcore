import Pkgcore.Spec.C30
import Pkgcore.Proofs.Lib
/-! # C30 proofs

What `setAdd` and `setRemove` do to a duplicate-free list comes first.  A request acts on the in-memory set as the
total function `applyReq` (`KeyError` leaves the set alone); `applyReq_spec` says what it does in the terms of the
specification, and `updateWorldsetF_eq` reduces both `update_worldset` variants to it.  On disk, `flush` and `discard`
work on the temp file only (`OnlyOn`, `run_other`) until their last operation, so a crash point is a prefix of that
preparation or the whole run (`Lib.take_concat_cases`). -/
namespace Pkgcore.C30
open Pkgcore.C30.Spec

/-- the slot as the world file sees it: slot `0` is "no slot" -/
def normSlot : Option Line → Option Line
  | none => none
  | some s => if s = ['0'] then none else some s

/-- the in-memory set is a well-formed set of entries -/
def MemOk (w : World) : Prop := w.Nodup ∧ ∀ e ∈ w, isEntryLine e = true

def ReqOk : Req → Prop
  | .add k s => KeyOk k ∧ SlotOptOk s
  | .remove k s => KeyOk k ∧ SlotOptOk s

/-- the in-memory set of a `WorldFile` instance agrees with the file on disk -/
def Synced (w : World) (fs : Fs) (path : Name) : Prop :=
  w.Nodup ∧ (∀ e ∈ w, isEntryLine e = true) ∧ ∃ ls, fs path = some ls ∧ ∀ e, e ∈ parse ls ↔ e ∈ w

/-- `layout` only reorders / chunks the set (what `sorted` + the buffered writer do) -/
def LayoutOk (layout : World → List (List Line)) : Prop := ∀ w e, e ∈ (layout w).flatten ↔ e ∈ w

theorem Synced.memOk {w : World} {fs : Fs} {path : Name} (h : Synced w fs path) : MemOk w := ⟨h.1, h.2.1⟩

theorem mem_setAdd (w : World) (e x : Line) : x ∈ setAdd w e ↔ x ∈ w ∨ x = e :=
  Lib.mem_add_if_absent id x

theorem nodup_setAdd (w : World) (e : Line) (h : w.Nodup) : (setAdd w e).Nodup := by
  unfold setAdd
  split
  · exact h
  · exact Lib.nodup_concat h ‹_›

theorem setRemove_eq_none (w : World) (e : Line) : setRemove w e = none ↔ e ∉ w := by
  unfold setRemove
  by_cases h : e ∈ w <;> simp [h]

theorem setRemove_some (w w' : World) (e : Line) (hn : w.Nodup) (h : setRemove w e = some w') :
    e ∈ w ∧ w'.Nodup ∧ ∀ x, x ∈ w' ↔ x ∈ w ∧ x ≠ e := by
  unfold setRemove at h
  by_cases he : e ∈ w
  · simp only [he, if_true, Option.some.injEq] at h
    subst h
    refine ⟨he, hn.erase e, fun x => ?_⟩
    rw [hn.mem_erase_iff]; exact And.comm
  · simp [he] at h

theorem mem_parse (ls : List Line) (x : Line) : x ∈ parse ls ↔ x ∈ ls ∧ isEntryLine x = true := by
  simp [parse, Lib.mem_foldl_add mem_setAdd, List.mem_filter]

theorem nodup_parse (ls : List Line) : (parse ls).Nodup :=
  List.foldlRecOn _ setAdd List.nodup_nil fun w hw e _ => nodup_setAdd w e hw

theorem colon_not_slot : ':' ∉ Generated.C30.validSlotChars := by decide +kernel

theorem worldText_eq_spec (key : Line) (slot : Option Line) (h : SlotOptOk slot) :
    worldText key slot = specEntry key slot := by
  cases slot with
  | none => rfl
  | some s =>
    cases s with
    | nil => exact absurd rfl h.1
    | cons c cs => simp [worldText, specEntry]

theorem isEntryLine_append (k r : Line) (h : isEntryLine k = true) : isEntryLine (k ++ r) = true := by
  cases k with
  | nil => cases h
  | cons c cs => exact h

theorem isEntryLine_specEntry (key : Line) (slot : Option Line) (hk : KeyOk key) :
    isEntryLine (specEntry key slot) = true := by
  cases slot with
  | none => exact hk.1
  | some s =>
    show isEntryLine (if s = ['0'] then key else key ++ [':'] ++ s) = true
    split
    · exact hk.1
    · rw [List.append_assoc]; exact isEntryLine_append _ _ hk.1

theorem specEntry_eq_normSlot (key : Line) (slot : Option Line) :
    specEntry key slot = match normSlot slot with | none => key | some s => key ++ ':' :: s := by
  cases slot with
  | none => rfl
  | some s => by_cases h : s = ['0'] <;> simp [specEntry, normSlot, h]

theorem append_sep_inj {α : Type} [DecidableEq α] (c : α) (l1 l2 r1 r2 : List α) (h1 : c ∉ l1) (h2 : c ∉ l2)
    (h : l1 ++ c :: r1 = l2 ++ c :: r2) : l1 = l2 ∧ r1 = r2 := by
  have hs := congrArg (List.splitOn c) h
  rw [List.splitOn_append_cons_self_of_not_mem h1, List.splitOn_append_cons_self_of_not_mem h2] at hs
  obtain rfl := (List.cons.inj hs).1
  exact ⟨rfl, (List.cons.inj (List.append_cancel_left h)).2⟩

/-- the set after a request, `KeyError` or not -/
def applyReq (w : World) (r : Req) : World := (modify w r).getD w

theorem applyReq_of_some {w w' : World} {r : Req} (h : modify w r = some w') : applyReq w r = w' := by
  rw [applyReq, h]; rfl

theorem applyReq_of_none {w : World} {r : Req} (h : modify w r = none) : applyReq w r = w := by
  rw [applyReq, h]; rfl

theorem applyReq_spec (w : World) (r : Req) (hw : MemOk w) (hr : ReqOk r) :
    MemOk (applyReq w r) ∧ ∀ e, e ∈ applyReq w r ↔ specApply (· ∈ w) r e := by
  cases r with
  | add k s =>
    show MemOk (setAdd w (worldText k s)) ∧ ∀ e, e ∈ setAdd w (worldText k s) ↔ _
    rw [worldText_eq_spec k s hr.2]
    exact ⟨⟨nodup_setAdd _ _ hw.1,
      fun e h => ((mem_setAdd _ _ _).1 h).elim (hw.2 e) (fun h => h ▸ isEntryLine_specEntry k s hr.1)⟩,
      fun e => (mem_setAdd _ _ _).trans Or.comm⟩
  | remove k s =>
    show MemOk ((setRemove w (worldText k s)).getD w) ∧ ∀ e, e ∈ (setRemove w (worldText k s)).getD w ↔ _
    rw [worldText_eq_spec k s hr.2]
    cases h : setRemove w (specEntry k s) with
    | none => exact ⟨hw, fun e => ⟨fun he => ⟨he, fun e' => (setRemove_eq_none _ _).1 h (e' ▸ he)⟩, And.left⟩⟩
    | some w' =>
      obtain ⟨_, hn, hm⟩ := setRemove_some w w' _ hw.1 h
      exact ⟨⟨hn, fun e he => hw.2 e ((hm e).1 he).1⟩, hm⟩

theorem applyReq_set (w : World) (r : Req) (hw : MemOk w) (hr : ReqOk r) :
    (fun e => e ∈ applyReq w r) = specApply (· ∈ w) r :=
  funext fun e => propext ((applyReq_spec w r hw hr).2 e)

theorem updateWorldsetF_eq (layout : World → List (List Line)) (path : Name) (w : World) (r : Req) (fails : Bool) :
    updateWorldsetF layout path w r fails = (applyReq w r,
      if modify w r = none then [] else
        if fails then discardOps path (layout (applyReq w r)) else flushOps path (layout (applyReq w r))) := by
  unfold updateWorldsetF applyReq
  cases modify w r <;> rfl

theorem updateWorldset_eq (layout : World → List (List Line)) (path : Name) (w : World) (r : Req) :
    updateWorldset layout path w r = updateWorldsetF layout path w r false := by
  unfold updateWorldset updateWorldsetF
  cases modify w r <;> rfl

theorem updateWorldsetF_fst (layout : World → List (List Line)) (path : Name) (w : World) (r : Req) (fails : Bool) :
    (updateWorldsetF layout path w r fails).1 = applyReq w r :=
  congrArg Prod.fst (updateWorldsetF_eq ..)

theorem run_append (a b : List FsOp) (fs : Fs) : run (a ++ b) fs = run b (run a fs) := by
  simp only [run, List.foldl_append]

theorem run_nil (fs : Fs) : run [] fs = fs := rfl
theorem run_cons (op : FsOp) (ops : List FsOp) (fs : Fs) : run (op :: ops) fs = run ops (step fs op) := rfl

theorem upd_eq (fs : Fs) (p : Name) (v : Option (List Line)) : upd fs p v p = v := if_pos rfl
theorem upd_ne (fs : Fs) (p q : Name) (v : Option (List Line)) (h : q ≠ p) : upd fs p v q = fs q := if_neg h

/-- the operation touches no name but `p`; a `rename` touches two, so `flushOps` qualifies only up to its last one -/
def OnlyOn (p : Name) : FsOp → Prop
  | .openTrunc q | .chmod q | .chown q | .unlink q => q = p
  | .append q _ => q = p
  | .rename _ _ => False

theorem step_other (p q : Name) (op : FsOp) (fs : Fs) (h : OnlyOn p op) (hq : q ≠ p) : step fs op q = fs q := by
  cases op with
  | rename => exact h.elim
  | chmod | chown => rfl
  | append r ls =>
    cases h
    show (match fs p with | some c => upd fs p (some (c ++ ls)) | none => fs) q = fs q
    cases fs p with
    | none => rfl
    | some c => exact upd_ne _ _ _ _ hq
  | openTrunc | unlink => cases h; exact upd_ne _ _ _ _ hq

theorem run_other (p q : Name) (ops : List FsOp) (fs : Fs) (h : ∀ op ∈ ops, OnlyOn p op) (hq : q ≠ p) :
    run ops fs q = fs q := by
  induction ops generalizing fs with
  | nil => rfl
  | cons op ops ih =>
    rw [run_cons, ih _ (fun o ho => h o (List.mem_cons_of_mem _ ho)), step_other p q op fs (h op List.mem_cons_self) hq]

theorem run_appends (p : Name) (chunks : List (List Line)) (fs : Fs) (c : List Line) (h : fs p = some c) :
    run (chunks.map (.append p)) fs p = some (c ++ chunks.flatten) := by
  induction chunks generalizing fs c with
  | nil => rw [List.flatten_nil, List.append_nil]; exact h
  | cons ch chunks ih =>
    rw [List.flatten_cons, ← List.append_assoc]
    rw [List.map_cons, run_cons]
    exact ih _ (c ++ ch) (by simp only [step, h]; exact upd_eq ..)

theorem tmpName_ne (p : Name) : tmpName p ≠ p := by
  intro h
  have := congrArg List.length h
  simp [tmpName] at this
  omega

/-- everything `flush`/`discard` does before the final rename/unlink happens on the temp file -/
def preOps (path : Name) (chunks : List (List Line)) : List FsOp :=
  [.openTrunc (tmpName path), .chmod (tmpName path), .chown (tmpName path)] ++ chunks.map (.append (tmpName path))

theorem preOps_onlyOn (path : Name) (chunks : List (List Line)) :
    ∀ op ∈ preOps path chunks, OnlyOn (tmpName path) op := by
  intro op h
  simp only [preOps, List.mem_append, List.mem_cons, List.not_mem_nil, or_false, List.mem_map] at h
  rcases h with (rfl | rfl | rfl) | ⟨c, _, rfl⟩ <;> rfl

theorem run_preOps_tmp (path : Name) (chunks : List (List Line)) (fs : Fs) :
    run (preOps path chunks) fs (tmpName path) = some chunks.flatten := by
  unfold preOps
  rw [run_append]
  refine run_appends (tmpName path) chunks _ [] ?_
  simp only [run_cons, run_nil, step]
  exact upd_eq ..

theorem flushOps_eq (path : Name) (chunks : List (List Line)) :
    flushOps path chunks = preOps path chunks ++ [.rename (tmpName path) path] := rfl

theorem discardOps_eq (path : Name) (chunks : List (List Line)) :
    discardOps path chunks = preOps path chunks ++ [.unlink (tmpName path)] := rfl

theorem discardOps_onlyOn (path : Name) (chunks : List (List Line)) :
    ∀ op ∈ discardOps path chunks, OnlyOn (tmpName path) op :=
  List.forall_mem_append.2 ⟨preOps_onlyOn path chunks, fun _ h => List.mem_singleton.1 h ▸ rfl⟩

theorem run_flushOps (path : Name) (chunks : List (List Line)) (fs : Fs) :
    run (flushOps path chunks) fs path = some chunks.flatten ∧ run (flushOps path chunks) fs (tmpName path) = none ∧
    ∀ q, q ≠ path → q ≠ tmpName path → run (flushOps path chunks) fs q = fs q := by
  have hstep : run (flushOps path chunks) fs
      = upd (upd (run (preOps path chunks) fs) path (some chunks.flatten)) (tmpName path) none := by
    rw [flushOps_eq, run_append, run_cons, run_nil]
    simp only [step, run_preOps_tmp]
  rw [hstep]
  exact ⟨(upd_ne _ _ _ _ (tmpName_ne path).symm).trans (upd_eq ..), upd_eq ..,
    fun q h1 h2 => by rw [upd_ne _ _ _ _ h2, upd_ne _ _ _ _ h1, run_other _ q _ fs (preOps_onlyOn path chunks) h2]⟩

theorem synced_parse (fs : Fs) (path : Name) (ls : List Line) (h : fs path = some ls) : Synced (parse ls) fs path :=
  ⟨nodup_parse ls, fun e he => ((mem_parse ls e).1 he).2, ls, h, fun _ => Iff.rfl⟩

theorem mem_parse_layout (layout : World → List (List Line)) (hl : LayoutOk layout) (w : World) (hw : MemOk w)
    (e : Line) :
    e ∈ parse (layout w).flatten ↔ e ∈ w := by
  rw [mem_parse, hl w e]
  exact ⟨And.left, fun h => ⟨h, hw.2 e h⟩⟩

theorem flush_resyncs (layout : World → List (List Line)) (hl : LayoutOk layout) (path : Name) (w : World) (fs : Fs)
    (hw : MemOk w) : Synced w (run (flushOps path (layout w)) fs) path :=
  ⟨hw.1, hw.2, _, (run_flushOps path (layout w) fs).1, mem_parse_layout layout hl w hw⟩

end Pkgcore.C30
