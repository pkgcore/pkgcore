import Pkgcore.Proofs.C13
/-!
# C13 — package visibility follows mask, keyword and license configuration

`visible` mirrors `domain.filter_repo` + `generate_filter` + the keywords and license filters of `_pkg_filters`
(pkgcore/ebuild/domain.py, misc.py) for one package (restriction matching is a parameter); `Spec.Visible` is the
property sentence.
-/
namespace Pkgcore.C13
open Pkgcore.C13.Spec

/-- **mask stacking is "last writer wins"**: after repository masks, every profile node's removals and additions and
`package.mask`, an atom masks iff the last step mentioning it added it (any number of steps and atoms). -/
theorem masks_last_writer (ops : List MaskOp) (a : Str) :
    a ∈ applyOps ops [] ↔ inEffect ops a false = true :=
  mem_applyOps ops [] a

/-- **not masked, net of unmasks** -/
theorem maskOk_eq_spec (m : Str → Bool) (maskOps unmaskOps : List MaskOp) :
    maskOk m maskOps unmaskOps = true ↔ MaskVisible m maskOps unmaskOps := by
  unfold maskOk MaskVisible
  rw [Bool.or_eq_true, Bool.not_eq_true', any_applyOps m unmaskOps]
  refine or_congr ?_ Iff.rfl
  rw [← any_applyOps m maskOps]
  cases (applyOps maskOps []).any m <;> simp

example :
    let ops : List MaskOp := [⟨[], ["cat/a".toList, "cat/b".toList]⟩, ⟨["cat/a".toList], ["cat/c".toList]⟩, ⟨[], ["=cat/a-2".toList]⟩]
    inEffect ops "cat/a".toList false = false ∧ inEffect ops "cat/b".toList false = true ∧
    inEffect ops "=cat/a-2".toList false = true ∧ applyOps ops [] = ["cat/b".toList, "cat/c".toList, "=cat/a-2".toList] := by
  decide +kernel

/-- **the driver's `hitB` decides `Hit`**: an atom that no step adds is never in effect, so searching the added atoms is
enough. -/
theorem hitB_iff (m : Str → Bool) (ops : List MaskOp) : hitB m ops = true ↔ Hit m ops := by
  unfold hitB Hit
  simp only [List.any_eq_true, Bool.and_eq_true]
  constructor
  · rintro ⟨a, _, h1, h2⟩; exact ⟨a, h1, h2⟩
  · rintro ⟨a, h1, h2⟩
    rcases inEffect_true ops a false h1 with h | h
    · exact Bool.noConfusion h
    · exact ⟨a, h, h1, h2⟩

/-- **the accepted keyword set**: on either branch (stable: incremental collapse with empty entry ⇒ `~ARCH`; unstable: plain
union) the set `_apply_keywords_filter` consults is `ARCH ∪ ACCEPT_KEYWORDS ∪` the keywords of all matching entries, for
any number of entries of any kind. -/
theorem allowed_eq_spec (c : KwConfig) (h : KwPlain c) (x : Str) :
    (x ∈ (if !((defaultKeys c.arch c.accept).contains ('~' :: c.arch))
          then allowedStable (defaultKeys c.arch c.accept)
                 (effective (!((defaultKeys c.arch c.accept).contains ('~' :: c.arch))) ('~' :: c.arch) c.entries)
          else allowedUnstable (defaultKeys c.arch c.accept)
                 (effective (!((defaultKeys c.arch c.accept).contains ('~' :: c.arch))) ('~' :: c.arch) c.entries)))
      ↔ Allowed c x :=
  mem_allowed c h x

/-- **some keyword is accepted** (`**` anything, `*` any stable keyword, `~*` any testing keyword) -/
theorem kwOk_eq_spec (c : KwConfig) (h : KwPlain c) (kws : List Str) :
    kwOk c kws = true ↔ KwVisible c kws := by
  unfold kwOk
  simp only []  -- zeta-reduces `kwOk`'s `let`s
  split
  · next hs =>
    -- no entries, so the accepted set is the default keys; no wildcard among them, so `keywordsAccepted` is its
    -- last test
    simp only [Bool.and_eq_true, Bool.not_eq_true', List.isEmpty_iff, wildcards, List.any_cons, List.any_nil,
      Bool.or_false, Bool.or_eq_false_iff] at hs
    obtain ⟨⟨hent, _⟩, h1, h2, h3⟩ := hs
    have hall : ∀ k, k ∈ defaultKeys c.arch c.accept ↔ Allowed c k := fun k => by unfold Allowed; rw [hent]; simp
    refine Iff.trans ?_ (keywordsAccepted_iff c _ hall kws)
    rw [keywordsAccepted, h1, h2, h3]
    rfl
  · exact keywordsAccepted_iff c _ (mem_allowed c h) kws

/-- **"stable" is about `~ARCH` only, and there an empty entry means `~ARCH`**: whatever else `ACCEPT_KEYWORDS` accepts
(foreign stable or testing keywords, `*`, `~*`), as long as `~ARCH` is not among the default keys a package that carries `~ARCH`
and is matched by an entry without keywords passes the keywords filter. -/
theorem empty_entry_means_testing_arch (c : KwConfig) (h : KwPlain c) (kws : List Str)
    (hst : ('~' :: c.arch) ∉ defaultKeys c.arch c.accept)
    (e : KwEntry) (he : e ∈ c.entries) (hhit : e.hit = true) (hemp : e.tokens = [])
    (hk : ('~' :: c.arch) ∈ kws) : kwOk c kws = true := by
  rw [kwOk_eq_spec c h]
  exact Or.inr (Or.inr (Or.inr ⟨_, hk, Or.inr ⟨e, he, hhit, Or.inr ⟨hemp, hst, rfl⟩⟩⟩))

/-- ... and only there: when `~ARCH` is already accepted the accepted set is the default keys plus the tokens written in the
matching entries; an entry without keywords contributes nothing. -/
theorem empty_entry_means_nothing_when_unstable (c : KwConfig) (hun : ('~' :: c.arch) ∈ defaultKeys c.arch c.accept) (k : Str) :
    Allowed c k ↔ (k ∈ defaultKeys c.arch c.accept ∨ ∃ e ∈ c.entries, e.hit = true ∧ k ∈ e.tokens) := by
  unfold Allowed Stable
  constructor
  · rintro (h1 | ⟨e, he, hh, (h2 | ⟨_, hns, _⟩)⟩)
    · exact Or.inl h1
    · exact Or.inr ⟨e, he, hh, h2⟩
    · exact absurd hun hns
  · rintro (h1 | ⟨e, he, hh, h2⟩)
    · exact Or.inl h1
    · exact Or.inr ⟨e, he, hh, Or.inl h2⟩

/-- hypotheses satisfiable, and the boundary itself: ACCEPT_KEYWORDS="amd64 ~x86" is a stable amd64 system (a bare entry lets a
`~amd64` package in, and nothing else), ACCEPT_KEYWORDS="amd64 ~amd64 ~x86" is not (the bare entry is void) -/
example :
    let e : KwEntry := ⟨.atom, true, true, []⟩
    let stableForeign : KwConfig := ⟨"amd64".toList, ["amd64".toList, "~x86".toList], [e], false⟩
    let unstable : KwConfig := ⟨"amd64".toList, ["amd64".toList, "~amd64".toList, "~x86".toList], [], false⟩
    ('~' :: stableForeign.arch) ∉ defaultKeys stableForeign.arch stableForeign.accept ∧
    kwOk stableForeign ["~amd64".toList] = true ∧ kwOk stableForeign ["~arm64".toList] = false ∧
    kwOk { stableForeign with entries := [] } ["~amd64".toList] = false ∧
    ('~' :: unstable.arch) ∈ defaultKeys unstable.arch unstable.accept ∧
    kwOk { unstable with entries := [e] } ["~arm64".toList] = false := by
  decide +kernel

/-- **license acceptance is pointwise**: for a license of the alternative under test, being in the set built by
`incremental_expansion_license` (with `@group`, `-@group`, `*`, `-*`) is decided by the last token that concerns it. -/
theorem license_accept_pointwise (groups : Str → List Str) (andPair : List Str) (l : Str) (hl : l ∈ andPair)
    (toks : List Str) :
    l ∈ licExpand groups andPair toks [] ↔ accepts groups toks l false = true :=
  mem_licExpand groups andPair l hl toks []

/-- **alternatives = the LICENSE expression**: some `dnf_solutions()` alternative consists of accepted licenses only iff
the and/or expression is satisfied by the accepted licenses (expressions of any depth). -/
theorem license_dnf_to_formula (acc : Str → Bool) (t : LTree) :
    (∃ alt ∈ t.dnf, ∀ l ∈ alt, acc l = true) ↔ eval acc t = true :=
  dnf_eval acc t

/-- **some LICENSE alternative is fully accepted** -/
theorem licOk_eq_spec (groups : Str → List Str) (c : LicConfig) (t : LTree) :
    licOk groups c t = true ↔ LicVisible groups c t := by
  unfold licOk LicVisible
  split
  · next hcfg =>
    rw [Bool.and_eq_true, List.isEmpty_iff, List.isEmpty_iff] at hcfg
    exact iff_of_true rfl (Or.inl hcfg)
  · next hcfg =>
    rw [Bool.and_eq_true, List.isEmpty_iff, List.isEmpty_iff] at hcfg
    rw [or_iff_right hcfg, ← dnf_eval, List.any_eq_true]
    refine exists_congr fun alt => and_congr_right fun _ => ?_
    rw [List.all_eq_true]
    exact forall₂_congr fun l hl => by rw [contains_licExpand groups alt l hl]; rfl

example :
    let groups : Str → List Str := fun g => if g = "FREE".toList then ["GPL-2".toList, "MIT".toList] else []
    let c : LicConfig := ⟨["-*".toList, "@FREE".toList], [(true, ["EULA".toList, "-MIT".toList]), (false, ["*".toList])]⟩
    licOk groups c (.any [.lic "MIT".toList, .all [.lic "EULA".toList, .lic "GPL-2".toList]]) = true ∧
    licOk groups c (.all [.lic "MIT".toList, .lic "GPL-2".toList]) = false ∧
    licOk groups ⟨[], []⟩ (.lic "ANY".toList) = true := by
  decide +kernel

/-- **Visibility = masks ∧ keywords ∧ licenses**, for every configuration without negated keyword tokens: the package
passes the filters built by `filter_repo` iff it is not masked (net of unmasks), one of its keywords is accepted, and its
LICENSE expression is satisfied by the accepted licenses. -/
theorem visible_eq_spec (groups : Str → List Str) (c : Config) (p : Pkg) (h : KwPlain c.kw) :
    visible groups c p = true ↔ Visible groups c p := by
  unfold visible Visible
  rw [Bool.and_eq_true, Bool.and_eq_true, maskOk_eq_spec, kwOk_eq_spec c.kw h, licOk_eq_spec]
  exact and_assoc

/-- non-vacuity: a stable system with a wildcard default, an empty entry and entries of several kinds is `KwPlain` -/
example : KwPlain ⟨"amd64".toList, ["amd64".toList, "~*".toList],
    [⟨.always, false, true, []⟩, ⟨.atom, true, true, ["~x86".toList]⟩, ⟨.cat, false, false, ["**".toList]⟩], false⟩ := by
  decide +kernel

end Pkgcore.C13
