import Pkgcore.Proofs.C06
/-!
# C06 — boolean restriction trees evaluate as propositional logic; normal forms agree

`mtch`, `dnf`, `cnf` mirror `boolean.py` (`Model/C06.lean`); `eval`, `evalDnf`, `evalCnf` are the propositional reading
(`Spec/C06.lean`).  All statements are for every valuation of the leaves, every tree (any depth, any width) and both
settings of `full_solution_expansion`.
-/
namespace Pkgcore.C06
open Pkgcore.C06.Spec

/-- **`match` is propositional evaluation**: all-of / any-of / exactly-one-of / at-most-one-of nodes with
`negate`, `Negate` wrappers and atoms match exactly when the corresponding formula is true. -/
theorem match_eq_eval (v : Val) (r : R) : mtch v r = eval v r := mtch_eq v r

example : mtch (fun i => i == 1) (.and true [.or false [.leaf 0, .leaf 1], .justOne false [.leaf 1, .leaf 2]]) = false := by
  decide

/-- the reading of each connective, in library terms (the spec is not the model in disguise):
conjunction, disjunction, "exactly one" (unless there are no operands at all), "at most one". -/
theorem eval_connectives (v : Val) (n : Bool) (cs : List R) :
    eval v (.and n cs) = (cs.all (eval v) != n) ∧
    eval v (.or n cs) = (cs.any (eval v) != n) ∧
    eval v (.atMostOne n cs) = (decide (cs.countP (eval v) ≤ 1) != n) ∧
    eval v (.atom cs) = cs.all (eval v) ∧
    eval v (.neg (.and n cs)) = (cs.all (eval v) == n) := by
  simp only [eval, evalAll_eq, evalAny_eq, evalCount_eq, true_and]
  cases cs.all (eval v) <;> cases n <;> rfl

/-- the exactly-one-of convention only concerns the node without operands -/
theorem justOne_eval_nonempty (v : Val) (n : Bool) (cs : List R) (h : cs ≠ []) :
    eval v (.justOne n cs) = ((cs.countP (eval v) == 1) != n) := by
  cases cs with
  | nil => exact absurd rfl h
  | cons c cs => simp [eval, evalCount_eq]

example : ([R.leaf 0, R.leaf 1] : List R) ≠ [] := by simp

/-- **every DNF pkgcore derives is equivalent to the tree** — outside the known finding
`C06-empty-any-of` (guard `okDnf`: no operand-less any-of in the expanded part of the tree).

Full statement (false of the model, see `dnf_equiv_counterexample`):
`∀ v full r, evalDnf v (dnf full r) = eval v r`. -/
theorem dnf_equiv_partial (v : Val) (full : Bool) (r : R) (h : okDnf full r = true) :
    evalDnf v (dnf full r) = eval v r ∧ evalDnf v (dnf full r) = mtch v r :=
  ⟨dnf_sound v full r h, by rw [mtch_eq]; exact dnf_sound v full r h⟩

example : okDnf true (.and false [.or true [.leaf 0, .and false [.leaf 1, .leaf 2]],
    .or false [.atom [.leaf 3, .leaf 4], .and true [.leaf 5]], .justOne true []]) = true := by decide

/-- the witness of the open finding: `OrRestriction()` matches nothing, its DNF `[[]]` reads as true -/
theorem dnf_equiv_counterexample :
    ∃ (v : Val) (full : Bool) (r : R), evalDnf v (dnf full r) ≠ eval v r ∧ mtch v r = false ∧ dnf full r = [[]] :=
  ⟨fun _ => true, false, .or false [], by decide, by decide, rfl⟩

/-- in particular (the defect fixed in the repo): the DNF of a *negated* any-of is exactly its De Morgan
clause, whatever the operands are (no guard: the operands stay opaque under `Negate`) -/
theorem dnf_negated_anyof (v : Val) (full : Bool) (cs : List R) :
    dnf full (.or true cs) = [cs.map R.neg] ∧ evalDnf v (dnf full (.or true cs)) = !cs.any (eval v) := by
  refine ⟨by simp [dnf], ?_⟩
  rw [dnf_sound v full _ (by simp [okDnf])]
  simp [eval, evalAny_eq]

/-- for trees in which every all-of / any-of node has an operand the equivalence is unconditional -/
theorem dnf_equiv_nonempty (v : Val) (full : Bool) (r : R) (h : nonEmptyNodes r = true) :
    evalDnf v (dnf full r) = eval v r :=
  dnf_sound v full r (ok_of_nonEmpty full r h).1

example : nonEmptyNodes (.or true [.neg (.and false [.leaf 0]), .atMostOne false [], .atom []]) = true := by decide

/-- one direction needs no guard at all: whatever the tree matches, some clause of its DNF matches (the DNF can only be
too permissive, and only inside the finding class).  Candidate pruning of repository queries (C08) relies on exactly
this direction. -/
theorem dnf_complete_unguarded (v : Val) (full : Bool) (r : R) (h : mtch v r = true) :
    ∃ cl ∈ dnf full r, ∀ m ∈ cl, mtch v m = true := by
  rw [mtch_eq] at h
  obtain ⟨cl, hcl, hall⟩ := dnf_complete v full r h
  exact ⟨cl, hcl, fun m hm => by rw [mtch_eq]; exact hall m hm⟩

example : mtch (fun i => i == 0) (.or false [.and false [.leaf 0, .or false []], .leaf 0]) = true := by decide

/-- `assert s2` in `AndRestriction.iter_dnf_solutions` cannot fire: every DNF has at least one clause -/
theorem dnf_total (full : Bool) (r : R) : dnf full r ≠ [] := dnf_ne_nil full r

/-- **every CNF pkgcore derives is equivalent to the tree** — outside the same finding (guard `okCnf`).

Full statement (false of the model, see `cnf_equiv_counterexample`):
`∀ v full r c, cnf full r = some c → evalCnf v c = eval v r`. -/
theorem cnf_equiv_partial (v : Val) (full : Bool) (r : R) (c : List Clause) (h : okCnf full r = true)
    (hc : cnf full r = some c) : evalCnf v c = eval v r ∧ evalCnf v c = mtch v r :=
  ⟨cnf_sound v full r c h hc, by rw [mtch_eq]; exact cnf_sound v full r c h hc⟩

example : okCnf true (.and false [.or false [.and false [.leaf 0, .leaf 1], .or true [.leaf 2, .leaf 3]],
      .atom [.leaf 4]]) = true ∧
    (cnf true (.and false [.or false [.and false [.leaf 0, .leaf 1], .or true [.leaf 2, .leaf 3]],
      .atom [.leaf 4]])).isSome = true := by decide

/-- `OrRestriction().cnf_solutions() == []` reads as true, the node matches nothing -/
theorem cnf_equiv_counterexample :
    ∃ (v : Val) (full : Bool) (r : R) (c : List Clause), cnf full r = some c ∧ evalCnf v c ≠ eval v r ∧ c = [] :=
  ⟨fun _ => true, false, .or false [], [], rfl, by decide, rfl⟩

/-- and so is the equivalence of the CNF, where there is one -/
theorem cnf_equiv_nonempty (v : Val) (full : Bool) (r : R) (c : List Clause) (h : nonEmptyNodes r = true)
    (hc : cnf full r = some c) : evalCnf v c = eval v r :=
  cnf_sound v full r c (ok_of_nonEmpty full r h).2 hc

/-- **the refusals enumerated**: `cnf_solutions` raises `NotImplementedError` exactly for the trees in which a
negated all-of / any-of node is reached from the root through un-negated all-of nodes (and expanded atoms);
every other tree has a CNF. -/
theorem cnf_refusal (full : Bool) (r : R) : cnf full r = none ↔ refusesCnf full r = true := cnf_none_iff full r

example : refusesCnf false (.and false [.leaf 0, .and false [.or true [.leaf 1]]]) = true ∧
    refusesCnf false (.or false [.and true [.leaf 0], .or true [.leaf 1]]) = false := by decide

end Pkgcore.C06
