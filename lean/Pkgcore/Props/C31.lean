import Pkgcore.Proofs.C31
/-!
# C31 — the environment handed to the build daemon arrives exactly

Python side = `_quote_value`, `_generate_env_str`, `_byte_len`, `send_env`, `_run_depend_like_phase` as fixed;
bash side = the evaluator and the daemon's receive steps of `Pkgcore/Model/C31.lean`; values reach bash as UTF-8
bytes.
-/
namespace Pkgcore.C31
open Pkgcore.C31.Spec

/-- **quote_roundtrip** — for every text `v` without NUL (quotes, backslashes, `$`, backquotes, newlines,
control and non-ASCII characters included) the bytes of `_quote_value(v)`, followed by anything that ends a
word, are read by bash as one word whose value is exactly the bytes of `v`. -/
theorem quote_roundtrip (v : Str) (h0 : NoNul v) (rest : Str) (hr : WordEnd rest) :
    word (utf8 (quoteValue v) ++ rest) = some (utf8 v, rest) :=
  word_quoteValue v h0 rest hr

example : NoNul "it's a \\n `x` $y \"q\"\n\tß€😀\x01\x7f".toList ∧ WordEnd " B=1".toList :=
  ⟨by unfold NoNul; rw [String.toList_ofList]; decide +kernel, Or.inr ⟨' ', "B=1".toList, rfl, rfl⟩⟩

/-- the same for an array element (`"v"` for alphanumerics, the scalar forms otherwise) -/
theorem quote_elem_roundtrip (v : Str) (h0 : NoNul v) (rest : Str) (hr : WordEnd rest) :
    word (utf8 (quoteElem v) ++ rest) = some (utf8 v, rest) :=
  word_quoteElem v h0 rest hr

/-- **env_text_evaluates** — for every mapping in the property's domain `_generate_env_str` succeeds and bash
evaluates its bytes to exactly the intended assignments: the non-exported names first (plain assignments),
then the others under `export`, each with the bytes of its value (arrays element by element). -/
theorem env_text_evaluates (ro : List Str) (env : List (Str × Val)) (hok : EnvOk env) :
    ∃ text nonexp, nonexportedOf env = .ok nonexp ∧ genEnvStr ro env = .ok text ∧
      evalScript (utf8 text) = some (executed ro env nonexp) := by
  obtain ⟨nonexp, hn, _⟩ := nonexportedOf_ok hok.marker_str
  obtain ⟨text, h1, h2⟩ := genEnvStr_bytes ro env nonexp hn hok.names
  refine ⟨text, nonexp, hn, h1, ?_⟩
  rw [h2, evalScript_lines, flatten_scriptLines]
  · rfl
  · intro L hL
    obtain ⟨hne, hPE⟩ := mem_scriptLines hL
    refine ⟨hne, fun kv hkv => ?_⟩
    have hin : kv ∈ env := by
      rcases hPE with e | e <;> (rw [e] at hkv; exact (mem_items.1 (List.mem_filter.1 hkv).1).1)
    exact ⟨hok.names kv hin, hok.values kv hin⟩

def sampleEnv : List (Str × Val) :=
  [("VT_b".toList, .scalar "it's a \\n backslash-n".toList), ("A1".toList, .scalar "abc".toList),
   ("_arr".toList, .array ["x".toList, "c\"d $HOME `id`".toList, [], "é'\\".toList]),
   (marker, .scalar "A1 other".toList)]

/-- `ValidName` as a test that evaluates -/
theorem validName_iff {k : Str} : ValidName k ↔ (k.head?.any isNameStart && k.all isNameChar) = true := by
  cases k with
  | nil => simp [ValidName]
  | cons c cs => simp [ValidName]

theorem sampleEnv_ok : EnvOk sampleEnv where
  names := by simp only [validName_iff]; decide +kernel
  distinct := by
    unfold sampleEnv marker
    repeat rw [String.toList_ofList]
    decide +kernel
  values := by
    simp only [sampleEnv, List.forall_mem_cons, List.not_mem_nil, false_implies, implies_true, ValOk, NoNul]
    repeat rw [String.toList_ofList]
    decide +kernel
  marker_str vs := by
    rw [show sampleEnv.lookup marker = some (.scalar "A1 other".toList) by decide +kernel]
    simp

/-- **env_arrives_exactly** — evaluating the generated text in a daemon whose shell does not already export
the transferred names leaves every wanted variable with exactly its value (as bytes), exported unless marked
non-exported, and changes nothing else (the marker itself and readonly names are not set). -/
theorem env_arrives_exactly (ro : List Str) (env : List (Str × Val)) (hok : EnvOk env)
    (st0 : Store) (hfresh : Fresh ro env st0) :
    ∃ text asg, genEnvStr ro env = .ok text ∧ evalScript (utf8 text) = some asg ∧
      Arrives ro env st0 (st0.run asg) := by
  obtain ⟨text, nonexp, hn, h1, h2⟩ := env_text_evaluates ro env hok
  exact ⟨text, _, h1, h2, arrives_executed ro env hok nonexp hn st0 hfresh⟩

example : EnvOk sampleEnv ∧ Fresh ["UID".toList] sampleEnv (fun _ => none) :=
  ⟨sampleEnv_ok, fun _ _ h => by simp at h⟩

/-- **env_arrives_from_inside_a_function** — the daemon evaluates the text inside one of its functions
(`__ebd_process_ebuild_phases`, `__ebd_process_metadata`); bash assigns to the nearest dynamic scope that has the
name.  Provided no transferred name is a local of the receiving frame (`frame`: the daemon keeps the names it uses
there — `line`, `cont`, `phases`, `is_depends`, `__data`, `__ret`, … — in its blacklist `PKGCORE_BLACKLIST_VARS`, i.e.
outside the property's domain), the transfer arrives exactly as in `env_arrives_exactly`. -/
theorem env_arrives_from_inside_a_function (frame ro : List Str) (env : List (Str × Val)) (hok : EnvOk env)
    (hframe : ∀ kv ∈ env, kv.1 ∉ frame) (st0 : Store) (hfresh : Fresh ro env st0) :
    ∃ text asg, genEnvStr ro env = .ok text ∧ evalScript (utf8 text) = some asg ∧
      Arrives ro env st0 (st0.runIn frame asg) := by
  obtain ⟨text, nonexp, hn, h1, h2⟩ := env_text_evaluates ro env hok
  refine ⟨text, _, h1, h2, ?_⟩
  rw [runIn_eq_run]
  · exact arrives_executed ro env hok nonexp hn st0 hfresh
  · intro a ha
    obtain ⟨kv, hkv, rfl⟩ := mem_executed.1 ha
    exact hframe kv (mem_items.1 hkv).1

example : ∀ kv ∈ sampleEnv, kv.1 ∉ ["line".toList, "cont".toList, "__data".toList] := by decide +kernel

/-- the hypothesis is needed: a transferred variable whose name is a local of the receiving frame (here an ordinary
name, `data`) ends up in that local and is unset in the daemon's shell afterwards, while its neighbours arrive -/
theorem receiving_frame_counterexample :
    let st := Store.runIn ["size".toList, "data".toList] (fun _ => none)
      [⟨"data".toList, .scalar "v".toList, true⟩, ⟨"VT_a".toList, .scalar "w".toList, true⟩]
    st "data".toList = none ∧ st "VT_a".toList = some ⟨.scalar "w".toList, true⟩ := by
  simp [Store.runIn, Store.run, Store.assign]

/-- **framing_length_correct** — for *every* text (any characters) and whatever follows in the pipe, the count
announced by `send_env` is exactly what `read -N` consumes: the daemon obtains the bytes of the text and the
pipe is left at the first byte after it. -/
theorem framing_length_correct (fs : Str → Option Str) (data rest : Str) :
    recvEnv fs (sendEnvInline data ++ rest) = some (utf8 data, rest) := by
  rw [sendEnvInline, recvEnv_bytes, byteLen, readSize_exact]

/-- the same for `gen_metadata N` / `gen_ebuild_env N` (`_run_depend_like_phase`) -/
theorem framing_depend_correct (cmd : Str) (hc : cmd = "gen_metadata".toList ∨ cmd = "gen_ebuild_env".toList)
    (data rest : Str) :
    recvDepend (sendDepend cmd data ++ rest) = some (cmd, utf8 data, rest) := by
  rw [sendDepend, recvDepend_frame cmd hc, byteLen, readSize_exact]
  rfl

/-- file mode: the daemon sources exactly the file Python named, and the pipe is left right after the line -/
theorem file_transfer_correct (fs : Str → Option Str) (path rest : Str) (hp : PathOk (utf8 path)) :
    recvEnv fs (sendEnvFile path ++ rest) = (fs (utf8 path)).map fun t => (t, rest) := by
  rw [sendEnvFile, recvEnv_file fs path rest hp]

example : PathOk (utf8 "/var/tmp/portage/cät/pkg-1/temp/ebd-env-transfer".toList) := by
  unfold PathOk; rw [String.toList_ofList]; decide +kernel

/-- **transfer_exact_and_synchronised (inline)** — `send_env(env)` without tmpdir: the daemon ends up with
exactly the wanted variables *and* the command pipe is left exactly at what Python writes next (`rest`), so
the next request is read in full and from its first byte. -/
theorem transfer_inline_exact (ro : List Str) (env : List (Str × Val)) (hok : EnvOk env)
    (st0 : Store) (hfresh : Fresh ro env st0) (fs : Str → Option Str) (rest : Str) :
    ∃ text st', genEnvStr ro env = .ok text ∧
      daemonReceive fs st0 (sendEnvInline text ++ rest) = some (st', rest) ∧ Arrives ro env st0 st' := by
  obtain ⟨text, asg, h1, h2, h3⟩ := env_arrives_exactly ro env hok st0 hfresh
  refine ⟨text, _, h1, ?_, h3⟩
  simp only [daemonReceive, framing_length_correct, h2]

/-- **… (file)** — `send_env(env, tmpdir=…)`: the same, the text going through the transfer file -/
theorem transfer_file_exact (ro : List Str) (env : List (Str × Val)) (hok : EnvOk env)
    (st0 : Store) (hfresh : Fresh ro env st0) (path rest : Str) (hp : PathOk (utf8 path)) :
    ∃ text st', genEnvStr ro env = .ok text ∧
      (∀ fs : Str → Option Str, fs (utf8 path) = some (utf8 text) →
        daemonReceive fs st0 (sendEnvFile path ++ rest) = some (st', rest)) ∧ Arrives ro env st0 st' := by
  obtain ⟨text, asg, h1, h2, h3⟩ := env_arrives_exactly ro env hok st0 hfresh
  refine ⟨text, _, h1, ?_, h3⟩
  intro fs hfs
  simp only [daemonReceive, file_transfer_correct fs path rest hp, hfs, Option.map_some, h2]

/-- **… (depend-like phases)** — `gen_metadata` / `gen_ebuild_env` -/
theorem transfer_depend_exact (ro : List Str) (env : List (Str × Val)) (hok : EnvOk env)
    (st0 : Store) (hfresh : Fresh ro env st0) (cmd : Str)
    (hc : cmd = "gen_metadata".toList ∨ cmd = "gen_ebuild_env".toList) (rest : Str) :
    ∃ text st', genEnvStr ro env = .ok text ∧
      daemonReceiveDepend st0 (sendDepend cmd text ++ rest) = some (cmd, st', rest) ∧ Arrives ro env st0 st' := by
  obtain ⟨text, asg, h1, h2, h3⟩ := env_arrives_exactly ro env hok st0 hfresh
  refine ⟨text, _, h1, ?_, h3⟩
  simp only [daemonReceiveDepend, framing_depend_correct cmd hc, h2]

/-! ## one mapping object handed over many times (`ebd.py` passes `self.env` to `run_phase` for every phase) -/

/-- **handover_leaves_callers_mapping** — `_generate_env_str` works on its own copy (`env_dict = dict(env_dict)`): after
the call every object that existed before it — in particular the caller's mapping at `a`, marker entry included — has
exactly the entries it had, and the text is the one `genEnvStr` gives for those entries. -/
theorem handover_leaves_callers_mapping (ro : List Str) (h : Heap) (a : Nat) :
    (genEnvStrCall true ro h a).1 = genEnvStr ro (h.get a) ∧
    ∀ b, b < h.length → (genEnvStrCall true ro h a).2.get b = h.get b := by
  rw [genEnvStrCall_copy]
  exact ⟨rfl, fun b hb => heap_get_append hb _⟩

/-- **every_handover_of_a_build_arrives** — however many times the same mapping object is handed over, *every* one of
the texts sent (the first, and the k-th after k-1 earlier hand-overs) evaluates in a daemon that does not already export
the names to exactly the variables the mapping asks for, exported unless marked: the result of hand-over k does not
depend on the hand-overs before it. -/
theorem every_handover_of_a_build_arrives (ro : List Str) (h : Heap) (a : Nat) (ha : a < h.length)
    (hok : EnvOk (h.get a)) (n : Nat) (t : Except Err Str) (ht : t ∈ handovers true ro n h a)
    (st0 : Store) (hfresh : Fresh ro (h.get a) st0) :
    ∃ text asg, t = .ok text ∧ evalScript (utf8 text) = some asg ∧ Arrives ro (h.get a) st0 (st0.run asg) := by
  rw [handovers_copy ro n h a ha] at ht
  obtain ⟨text, asg, h1, h2, h3⟩ := env_arrives_exactly ro (h.get a) hok st0 hfresh
  exact ⟨text, asg, (List.eq_of_mem_replicate ht).trans h1, h2, h3⟩

example : (0 : Nat) < [sampleEnv].length ∧ EnvOk (Heap.get [sampleEnv] 0) ∧
    (handovers true ["UID".toList] 3 [sampleEnv] 0).length = 3 :=
  ⟨by decide, sampleEnv_ok, by simp [handovers]⟩

/-- the copy is needed: without `env_dict = dict(env_dict)` the pop removes the marker from the caller's own object; the
first hand-over of `{VT_a: "abc", PKGCORE_NONEXPORTED_VARS: "VT_a"}` is right, the second sends `export VT_a=abc`, which
bash evaluates to an *exported* `VT_a` although the mapping the caller built marks it non-exported -/
theorem handover_nocopy_counterexample :
    let env : Env := [("VT_a".toList, .scalar "abc".toList), (marker, .scalar "VT_a".toList)]
    (handovers false [] 2 [env] 0).map Except.toOption = [some "VT_a=abc".toList, some "export VT_a=abc".toList] ∧
    (handovers true [] 2 [env] 0).map Except.toOption = [some "VT_a=abc".toList, some "VT_a=abc".toList] ∧
    evalScript (utf8 "export VT_a=abc".toList) = some [⟨"VT_a".toList, .scalar "abc".toList, true⟩] ∧
    wanted [] env "VT_a".toList = some ⟨.scalar "abc".toList, false⟩ := by decide +kernel

/-! ## what was wrong before the `fix:` commits (witnesses, on the same bash model) -/

/-- pre-fix `$'…'` form: `it's \n` (backslash, n) is read back with a newline -/
theorem legacy_quote_counterexample :
    word (utf8 (quoteValueLegacy "it's \\n".toList)) = some ("it's \n".toList, []) ∧
    "it's \n".toList ≠ utf8 "it's \\n".toList := by decide +kernel

/-- pre-fix array element `"c"d"`: not even a complete word; `"$x"` would be expanded (outside the fragment) -/
theorem legacy_elem_counterexample :
    word (utf8 (quoteElemLegacy "c\"d".toList) ++ [')']) = none ∧
    word (utf8 (quoteElemLegacy "$x".toList) ++ [')']) = none := by decide +kernel

/-- pre-fix framing (`len(str)`): for `é` the daemon reads one byte of two; the second byte stays in the
pipe in front of the next command -/
theorem legacy_framing_counterexample :
    recvEnv (fun _ => none) (sendEnvInlineLegacy "é".toList ++ "alive\n".toList)
      = some ([Char.ofNat 0xC3], Char.ofNat 0xA9 :: "alive\n".toList) := by
  rw [sendEnvInlineLegacy, recvEnv_bytes]
  decide +kernel

end Pkgcore.C31
