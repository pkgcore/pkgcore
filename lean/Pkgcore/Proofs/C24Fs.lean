import Pkgcore.Spec.C24
import Pkgcore.Proofs.Lib
/-! # The abstract file system of C24, C27 and C28: frames, temp file then rename, `fill`

`read_del`, `read_put`; operations `within` a path change nothing elsewhere (`run_within`, at every prefix of a
routine); what a completed temp-file write guarantees (`Atomic`, `temp_rename`); and `fill`, the shape the temp-file
writes of the three properties share, with `fill_spec`, `fill_rename`, `fill_unlink`. -/
namespace Pkgcore.C24

theorem read_del (fs : Fs) (p q : Str) : (fs.del p).read q = if q = p then none else fs.read q :=
  Lib.lookup_filter_ne fs p q

theorem read_put (fs : Fs) (p q c : Str) : (fs.put p c).read q = if q = p then some c else fs.read q := by
  by_cases h : q = p
  · subst h; simp [Fs.put, Fs.read]
  · have hb : (q == p) = false := by simpa using h
    have := read_del fs p q
    simp only [Fs.read] at this
    simp [Fs.put, Fs.read, List.lookup, hb, this, h]

/-- sufficient for the operation to change no content except possibly that of `p`; no real `rename` passes -/
def within (p : Str) : FsOp → Bool
  | .creat a | .write a _ | .unlink a => a == p
  | .rename a b => a == p && b == p
  | _ => true

theorem step_within {p q : Str} {op : FsOp} (h : within p op = true) (hq : q ≠ p) (fs : Fs) :
    (step fs op).read q = fs.read q := by
  cases op <;> simp only [within, Bool.and_eq_true, beq_iff_eq] at h <;> simp only [step]
  case creat => subst h; rw [read_put, if_neg hq]
  case write => subst h; split <;> simp [read_put, hq]
  case rename => rw [h.1, h.2]; split <;> simp [read_put, read_del, hq]
  case unlink => subst h; rw [read_del, if_neg hq]

theorem run_within (ops : List FsOp) (p : Str) (h : ops.all (within p) = true) (fs : Fs) (q : Str) (hq : q ≠ p)
    (k : Nat) : (run (ops.take k) fs).read q = fs.read q := by
  induction ops generalizing fs k with
  | nil => rw [List.take_nil]; rfl
  | cons op r ih =>
    rw [List.all_cons, Bool.and_eq_true] at h
    cases k with
    | zero => rfl
    | succ k => rw [List.take_succ_cons, run, List.foldl_cons, ← run, ih h.2, step_within h.1 hq]

theorem run_append (a b : List FsOp) (fs : Fs) : run (a ++ b) fs = run b (run a fs) := by
  simp [run, List.foldl_append]

theorem run_single (op : FsOp) (fs : Fs) : run [op] fs = step fs op := rfl

theorem run_writes (p : Str) (chunks : List Str) (fs : Fs) (c : Str) (h : fs.read p = some c) :
    (run (chunks.map (.write p)) fs).read p = some (c ++ chunks.flatten) := by
  induction chunks generalizing fs c with
  | nil => simpa [run] using h
  | cons d rest ih =>
    simp only [List.map_cons, run, List.foldl_cons] at ih ⊢
    have : (step fs (.write p d)).read p = some (c ++ d) := by simp [step, h, read_put]
    rw [ih _ _ this]
    simp

theorem tmp_ne_target (dir base : Str) : tmpName dir base ≠ targetName dir base := by
  unfold tmpName targetName
  intro h
  -- `.update.` ++ base would be base, which is shorter
  have := List.append_cancel_left h
  simp only [List.cons.injEq, true_and] at this
  have hl := congrArg List.length this
  simp [tag] at hl
  omega

/-- What a completed temp-file write guarantees; a crash point is a prefix `take k` of the operation list. -/
structure Atomic (ops : List FsOp) (fs : Fs) (tmp target new : Str) : Prop where
  oldOrNew : ∀ k, (run (ops.take k) fs).read target = fs.read target ∨ (run (ops.take k) fs).read target = some new
  frame : ∀ k q, q ≠ tmp → q ≠ target → (run (ops.take k) fs).read q = fs.read q
  final : (run ops fs).read target = some new
  gone : (run ops fs).read tmp = none

theorem temp_rename (prep : List FsOp) (tmp target new : Str) (fs : Fs) (hne : tmp ≠ target)
    (hprep : prep.all (within tmp) = true) (htmp : (run prep fs).read tmp = some new) :
    Atomic (prep ++ [FsOp.rename tmp target]) fs tmp target new := by
  -- the end state is the prepared state with `tmp` moved to `target`; a prefix is one of `prep` or the whole list
  have hend : run (prep ++ [FsOp.rename tmp target]) fs = ((run prep fs).del tmp).put target new := by
    rw [run_append, run_single]
    simp only [step, htmp]
  have hk := Lib.take_concat_cases prep (FsOp.rename tmp target)
  refine ⟨fun k => ?_, fun k q h1 h2 => ?_, ?_, ?_⟩
  · rcases hk k with ⟨_, e⟩ | ⟨_, e⟩ <;> rw [e]
    · exact Or.inl (run_within prep tmp hprep fs _ hne.symm k)
    · exact Or.inr (by rw [hend, read_put, if_pos rfl])
  · rcases hk k with ⟨_, e⟩ | ⟨_, e⟩ <;> rw [e]
    · exact run_within prep tmp hprep fs q h1 k
    · rw [hend, read_put, if_neg h2, read_del, if_neg h1]
      simpa using run_within prep tmp hprep fs q h1 prep.length
  · rw [hend, read_put, if_pos rfl]
  · rw [hend, read_put, if_neg hne, read_del, if_pos rfl]

/-- metadata only: `step` ignores it -/
def inert : FsOp → Bool
  | .close _ | .chmod .. | .chown .. | .utime .. | .mkdir _ => true
  | _ => false

theorem all_within_of_inert (p : Str) (l : List FsOp) (h : l.all inert = true) : l.all (within p) = true :=
  List.all_eq_true.mpr fun op hop => by have := List.all_eq_true.mp h op hop; cases op <;> first | rfl | cases this

theorem run_inert (ops : List FsOp) (h : ops.all inert = true) (fs : Fs) : run ops fs = fs := by
  induction ops with
  | nil => rfl
  | cons op r ih =>
    rw [List.all_cons, Bool.and_eq_true] at h
    rw [run, List.foldl_cons, show step fs op = fs by cases op <;> first | rfl | cases h.1]
    exact ih h.2

/-- filling a temp file: open it, write the chunks, with metadata operations `pre`, `mid`, `post` (among them the
`close`) around.  A write routine is such a list followed by a `rename` or an `unlink` (its `…Ops_eq`). -/
def fill (pre mid post : List FsOp) (tmp : Str) (chunks : List Str) : List FsOp :=
  pre ++ .creat tmp :: mid ++ chunks.map (.write tmp) ++ post

theorem fill_spec (pre mid post : List FsOp) (tmp : Str) (chunks : List Str) (h₁ : pre.all inert = true)
    (h₂ : mid.all inert = true) (h₃ : post.all inert = true) :
    (fill pre mid post tmp chunks).all (within tmp) = true ∧
    ∀ fs, (run (fill pre mid post tmp chunks) fs).read tmp = some chunks.flatten := by
  refine ⟨by simp [fill, all_within_of_inert, h₁, h₂, h₃, within], fun fs => ?_⟩
  rw [fill, run_append, run_append, run_append, run_inert pre h₁, run_inert post h₃]
  refine run_writes tmp chunks _ [] ?_
  rw [run, List.foldl_cons, ← run, run_inert mid h₂, step, read_put, if_pos rfl]

/-- A completed write.  The routine `ops` comes in through the equation `e`, its `…Ops_eq`. -/
theorem fill_rename {ops pre mid post : List FsOp} {tmp target : Str} {chunks : List Str}
    (e : ops = fill pre mid post tmp chunks ++ [.rename tmp target]) (hne : tmp ≠ target)
    (h₁ : pre.all inert = true) (h₂ : mid.all inert = true) (h₃ : post.all inert = true) (fs : Fs) :
    Atomic ops fs tmp target chunks.flatten :=
  have h := fill_spec pre mid post tmp chunks h₁ h₂ h₃
  e ▸ temp_rename _ _ _ _ fs hne h.1 (h.2 fs)

/-- a write that failed (`ops` and `e` as in `fill_rename`) -/
theorem fill_unlink {ops pre mid post : List FsOp} {tmp : Str} {chunks : List Str}
    (e : ops = fill pre mid post tmp chunks ++ [.unlink tmp])
    (h₁ : pre.all inert = true) (h₂ : mid.all inert = true) (h₃ : post.all inert = true) (fs : Fs) :
    (∀ k q, q ≠ tmp → (run (ops.take k) fs).read q = fs.read q) ∧ (run ops fs).read tmp = none := by
  have h := fill_spec pre mid post tmp chunks h₁ h₂ h₃
  subst e
  refine ⟨fun k q hq => run_within _ tmp ?_ fs q hq k, ?_⟩
  · rw [List.all_append, h.1]; simp [within]
  · rw [run_append, run_single, step, read_del, if_pos rfl]

end Pkgcore.C24
