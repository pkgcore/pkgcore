import Pkgcore.Spec.C25
import Pkgcore.Proofs.Lib
/-! # C25: the tar round trip

The reader, the list the reader is expected to return (`specRest`) and the writer (`addRest`) one member at a time, the
invariant `TablesAgree` between their three tables, `readLoop_addRest`, and which names come back with one inode
(`specRest_inoAt_eq_iff`). -/
namespace Pkgcore.C25
open Pkgcore.C24 Pkgcore.C25.Spec

/-- the location survives `"./" + loc.lstrip("/")` and the way back, as a member's `name`
(`abspath(join("/", name.strip("/")))`) and as a hard link's `linkname` (`abspath(join("/", linkname))`), and it is not
`/`, which the reader skips as the `.` directory; proved for every normalised absolute location (`pathOK_of_normal`) -/
def PathOK (loc : Str) : Prop := absLoc (relName loc) = loc ∧ absLink (relName loc) = loc ∧ loc ≠ ['/']

theorem relName_not_dot (loc : Str) (h : PathOK loc) : stripSlash (relName loc) ≠ ['.'] := by
  intro e
  have h1 := h.1
  unfold absLoc at h1
  rw [e] at h1
  exact h.2.2 (h1.symm.trans (by decide))

/-- device modes carry exactly the type bits above the permission bits -/
def DevModeOK (a : Attrs) (chr : Bool) : Prop := a.mode = (a.mode % 4096) ||| (if chr then 8192 else 24576)

def DevOK (o : Obj) : Prop := ∀ l a c mj mn, o = .dev l a c mj mn → DevModeOK a c

theorem obj_file_or_other (o : Obj) : (∃ x, o = .file x) ∨ o.isReg = false := by
  cases o <;> simp [Obj.isReg]

theorem readMember_toMember (dev : Nat) (st : RState) (o : Obj) (hf : o.isReg = false) (hp : PathOK o.loc)
    (hd : DevOK o) :
    readMember dev st (toMember o) = some (st, some o) := by
  cases o with
  | file f => cases hf
  | dir l a => replace hp : PathOK l := hp; simp [readMember, toMember, relName_not_dot l hp, hp.1]
  | sym l t a => replace hp : PathOK l := hp; simp [readMember, toMember, hp.1]
  | fifo l a => replace hp : PathOK l := hp; simp [readMember, toMember, hp.1]
  | dev l a c mj mn =>
    replace hp : PathOK l := hp
    have hm := hd l a c mj mn rfl
    unfold DevModeOK at hm
    cases c
    · simp only [Bool.false_eq_true, if_false] at hm
      simp only [readMember, toMember, Bool.false_eq_true, if_false, hp.1]
      rw [← hm]
    · simp only [if_true] at hm
      simp only [readMember, toMember, if_true, hp.1]
      rw [← hm]

theorem readLoop_cons_other (dev : Nat) (o : Obj) (ms : List Member) (st : RState) (hf : o.isReg = false)
    (hp : PathOK o.loc) (hd : DevOK o) :
    readLoop dev (toMember o :: ms) st = (readLoop dev ms st).map (o :: ·) := by
  simp only [readLoop, readMember_toMember dev st o hf hp hd]

theorem readLoop_cons_reg (dev : Nat) (x : File) (ms : List Member) (st : RState) (hp : PathOK x.loc) :
    readLoop dev ({ toMember (.file x) with data := some x.data } :: ms) st
      = (readLoop dev ms ⟨st.next + 1, st.nsrc + 1, seenPut st.seen x.loc (st.next, x.data)⟩).map
          (.file ⟨x.loc, x.a, some dev, some st.next, x.data, st.nsrc⟩ :: ·) := by
  simp only [readLoop, readMember, toMember, hp.1, Option.getD_some]

theorem readLoop_cons_lnk (dev : Nat) (x e : File) (ms : List Member) (st : RState) (i d : Nat)
    (hp : PathOK x.loc) (he : PathOK e.loc) (hs : st.seen.lookup e.loc = some (i, d)) :
    readLoop dev ({ toMember (.file x) with typ := .lnk, linkname := relName e.loc } :: ms) st
      = (readLoop dev ms ⟨st.next, st.nsrc + 1, seenPut st.seen x.loc (i, d)⟩).map
          (.file ⟨x.loc, x.a, some dev, some i, d, st.nsrc⟩ :: ·) := by
  simp only [readLoop, readMember, toMember, hp.1, he.2.1, hs]

def keyOf (x : File) : Key := (x.dev, x.inode)
/-- the key is proper; a file without one is never hard-linked (`canLink_iff`) -/
def keySome (x : File) : Bool := x.dev.isSome && x.inode.isSome

theorem keySome_of_key (x y : File) (h : keyOf x = keyOf y) : keySome x = keySome y := by
  unfold keyOf at h
  simp only [Prod.mk.injEq] at h
  unfold keySome
  rw [h.1, h.2]

theorem canLink_iff (x e : File) : canLink x e = true ↔ keySome x = true ∧ keyOf x = keyOf e ∧ x.a = e.a := by
  simp only [canLink, keySome, keyOf, Bool.and_comm x.inode.isSome, Bool.and_eq_true, beq_iff_eq, Prod.mk.injEq,
    and_assoc]

theorem linked_iff (x y : File) : linked x y ↔ keyOf x = keyOf y ∧ keySome x = true := by
  unfold linked keyOf keySome
  rw [Prod.mk.injEq, Bool.and_eq_true, ← and_assoc, and_comm]

/-- the table `specRest` keeps of the representatives: key ↦ (inode given, data) -/
def repPut (d : List (Key × Nat × Nat)) (k : Key) (v : Nat × Nat) : List (Key × Nat × Nat) :=
  if d.any (·.1 == k) then d.map (fun p => if p.1 == k then (k, v) else p) else d ++ [(k, v)]

/-- the writer's inode table, the reader's cache and the table of `specRest` are dicts keyed by their first component:
the same body, `Lib.putBy Prod.fst`, three times -/
theorem lookup_keyPut (d : List (Key × File)) (k k' : Key) (x : File) :
    (keyPut d k x).lookup k' = if k' = k then some x else d.lookup k' :=
  (Lib.lookup_putBy d k k' x).trans (by simp only [beq_iff_eq])

theorem lookup_seenPut (d : List (Str × Nat × Nat)) (k k' : Str) (v : Nat × Nat) :
    (seenPut d k v).lookup k' = if k' = k then some v else d.lookup k' :=
  (Lib.lookup_putBy d k k' v).trans (by simp only [beq_iff_eq])

theorem lookup_repPut (d : List (Key × Nat × Nat)) (k k' : Key) (v : Nat × Nat) :
    (repPut d k v).lookup k' = if k' = k then some v else d.lookup k' :=
  (Lib.lookup_putBy d k k' v).trans (by simp only [beq_iff_eq])

/-- what reading the written members must produce: every entry as it was; a file with a proper key whose (dev, inode)
class already has a stored representative gets that representative's inode and data, any other file a fresh inode
and its own data -/
def specRest (dev : Nat) : List Obj → List (Key × Nat × Nat) → Nat → Nat → List Obj
  | [], _, _, _ => []
  | .file x :: rest, reps, next, nsrc =>
    match reps.lookup (keyOf x), keySome x with
    | some (i, d), true => .file ⟨x.loc, x.a, some dev, some i, d, nsrc⟩ :: specRest dev rest reps next (nsrc + 1)
    | _, _ => .file ⟨x.loc, x.a, some dev, some next, x.data, nsrc⟩
        :: specRest dev rest (repPut reps (keyOf x) (next, x.data)) (next + 1) (nsrc + 1)
  | o :: rest, reps, next, nsrc => o :: specRest dev rest reps next nsrc

theorem specRest_cons_other (dev : Nat) (o : Obj) (rest : List Obj) (reps : List (Key × Nat × Nat)) (next nsrc : Nat)
    (h : o.isReg = false) : specRest dev (o :: rest) reps next nsrc = o :: specRest dev rest reps next nsrc := by
  cases o <;> first | rfl | cases h

theorem specRest_cons_link (dev : Nat) (x : File) (rest : List Obj) (reps : List (Key × Nat × Nat))
    (next nsrc i d : Nat) (hl : reps.lookup (keyOf x) = some (i, d)) (hks : keySome x = true) :
    specRest dev (.file x :: rest) reps next nsrc
      = .file ⟨x.loc, x.a, some dev, some i, d, nsrc⟩ :: specRest dev rest reps next (nsrc + 1) := by
  simp only [specRest, hl, hks]

theorem specRest_cons_fresh (dev : Nat) (x : File) (rest : List Obj) (reps : List (Key × Nat × Nat)) (next nsrc : Nat)
    (h : reps.lookup (keyOf x) = none ∨ keySome x = false) :
    specRest dev (.file x :: rest) reps next nsrc
      = .file ⟨x.loc, x.a, some dev, some next, x.data, nsrc⟩
        :: specRest dev rest (repPut reps (keyOf x) (next, x.data)) (next + 1) (nsrc + 1) := by
  rcases h with h | h
  · simp only [specRest, h]
  · simp only [specRest, h]; rcases reps.lookup (keyOf x) with _ | ⟨i, d⟩ <;> rfl

theorem link_or_fresh (reps : List (Key × Nat × Nat)) (x : File) :
    (∃ i d, reps.lookup (keyOf x) = some (i, d) ∧ keySome x = true) ∨
      (reps.lookup (keyOf x) = none ∨ keySome x = false) := by
  rcases reps.lookup (keyOf x) with _ | ⟨i, d⟩
  · exact .inr (.inl rfl)
  · cases keySome x
    · exact .inr (.inr rfl)
    · exact .inl ⟨i, d, rfl, rfl⟩

theorem addRest_cons_other (o : Obj) (rest : List Obj) (inodes : List (Key × File)) (h : o.isReg = false) :
    addRest (o :: rest) inodes = toMember o :: addRest rest inodes := by
  cases o <;> first | rfl | cases h

/-- `add_contents_to_tarfile` is the loop over the set reordered, directories first: they go through unchanged -/
theorem addRest_append_other (ds rest : List Obj) (inodes : List (Key × File)) (h : ∀ o ∈ ds, o.isReg = false) :
    addRest (ds ++ rest) inodes = ds.map toMember ++ addRest rest inodes := by
  induction ds with
  | nil => rfl
  | cons o ds ih =>
    rw [List.cons_append, addRest_cons_other _ _ _ (h o (.head _)), ih fun q hq => h q (.tail _ hq)]; rfl

theorem addRest_cons_file (x : File) (rest : List Obj) (inodes : List (Key × File)) :
    (∃ e, inodes.lookup (keyOf x) = some e ∧ canLink x e = true ∧ addRest (.file x :: rest) inodes
        = { toMember (.file x) with typ := .lnk, linkname := relName e.loc } :: addRest rest inodes) ∨
      ((∀ e, inodes.lookup (keyOf x) = some e → canLink x e = false) ∧ addRest (.file x :: rest) inodes
        = { toMember (.file x) with data := some x.data } :: addRest rest (keyPut inodes (keyOf x) x)) := by
  simp only [addRest, keyOf]
  cases hl : inodes.lookup (x.dev, x.inode) with
  | none => exact .inr ⟨fun _ h => (nomatch h), rfl⟩
  | some e =>
    simp only
    cases hc : canLink x e with
    | true => exact .inl ⟨e, rfl, hc, rfl⟩
    | false => exact .inr ⟨fun _ h => by cases h; exact hc, rfl⟩

/-- the link between the writer's table, the table of `specRest` and the reader's cache, while a set `S0` is
written and read back: what the writer stored are files of `S0` under their own keys, and `specRest` and the
reader hold for them the same inode and the file's data -/
structure TablesAgree (S0 : List Obj) (inodes : List (Key × File)) (reps : List (Key × Nat × Nat))
    (seen : List (Str × Nat × Nat)) : Prop where
  key : ∀ k e, inodes.lookup k = some e → keyOf e = k ∧ .file e ∈ S0
  rep : ∀ k e, inodes.lookup k = some e →
    ∃ i, reps.lookup k = some (i, e.data) ∧ seen.lookup e.loc = some (i, e.data)
  miss : ∀ k, inodes.lookup k = none → reps.lookup k = none

theorem tablesAgree_nil (S0 : List Obj) : TablesAgree S0 [] [] [] :=
  ⟨fun _ _ h => (nomatch h), fun _ _ h => (nomatch h), fun _ _ => rfl⟩

theorem tablesAgree_cache {S0 inodes reps seen} (h : TablesAgree S0 inodes reps seen) (p : Str) (v : Nat × Nat)
    (hp : seen.lookup p = none) :
    TablesAgree S0 inodes reps (seenPut seen p v) := by
  refine ⟨h.key, fun k e hl => ?_, h.miss⟩
  obtain ⟨i, h1, h2⟩ := h.rep k e hl
  have hne : e.loc ≠ p := fun he => by rw [he, hp] at h2; cases h2
  exact ⟨i, h1, by rw [lookup_seenPut, if_neg hne]; exact h2⟩

theorem tablesAgree_store {S0 inodes reps seen} (h : TablesAgree S0 inodes reps seen) (x : File) (i : Nat)
    (hx : .file x ∈ S0) (hp : seen.lookup x.loc = none) :
    TablesAgree S0 (keyPut inodes (keyOf x) x) (repPut reps (keyOf x) (i, x.data))
      (seenPut seen x.loc (i, x.data)) := by
  have h' := tablesAgree_cache h x.loc (i, x.data) hp
  refine ⟨fun k e hl => ?_, fun k e hl => ?_, fun k hl => ?_⟩
  · rw [lookup_keyPut] at hl
    split at hl
    · rename_i hk; cases hl; exact ⟨hk.symm, hx⟩
    · exact h.key k e hl
  · rw [lookup_keyPut] at hl
    split at hl
    · rename_i hk; cases hl
      exact ⟨i, by rw [lookup_repPut, if_pos hk], by rw [lookup_seenPut, if_pos rfl]⟩
    · rename_i hk
      obtain ⟨j, h1, h2⟩ := h'.rep k e hl
      exact ⟨j, by rw [lookup_repPut, if_neg hk]; exact h1, h2⟩
  · rw [lookup_keyPut] at hl
    split at hl
    · cases hl
    · rename_i hk; rw [lookup_repPut, if_neg hk]; exact h.miss k hl

/-- `S0` is the whole set (its files of one (dev, inode) class agree on owner, mode and mtime, as real hard links do),
`S` the part still to be written.  Each step consumes one equation of the writer, the reader and `specRest` for the
same case: another kind of entry, a file written as a hard link, a file stored with its data. -/
theorem readLoop_addRest (dev : Nat) (S0 : List Obj) (hpath : ∀ o ∈ S0, PathOK o.loc) (hdev : ∀ o ∈ S0, DevOK o)
    (hcons : ∀ x y, .file x ∈ S0 → .file y ∈ S0 → keyOf x = keyOf y → keySome x = true → x.a = y.a)
    (S : List Obj) (inodes : List (Key × File)) (reps : List (Key × Nat × Nat)) (st : RState)
    (hsub : ∀ o ∈ S, o ∈ S0)
    (hinv : TablesAgree S0 inodes reps st.seen)
    (hlocs : (S.map Obj.loc).Nodup)
    (hfresh : ∀ o ∈ S, st.seen.lookup o.loc = none) :
    readLoop dev (addRest S inodes) st = some (specRest dev S reps st.next st.nsrc) := by
  induction S generalizing inodes reps st with
  | nil => rfl
  | cons o rest ih =>
    rw [List.map_cons, List.nodup_cons] at hlocs
    have ho0 := hsub o (.head _)
    have hpo := hpath o ho0
    have hsub' : ∀ q ∈ rest, q ∈ S0 := fun q hq => hsub q (.tail _ hq)
    have hfresh' : ∀ v, ∀ q ∈ rest, (seenPut st.seen o.loc v).lookup q.loc = none := fun v q hq => by
      rw [lookup_seenPut, if_neg (fun e : q.loc = o.loc => hlocs.1 (e ▸ List.mem_map_of_mem hq))]
      exact hfresh q (.tail _ hq)
    rcases obj_file_or_other o with ⟨x, rfl⟩ | ho
    · have hxfresh : st.seen.lookup x.loc = none := hfresh _ (.head _)
      rcases addRest_cons_file x rest inodes with ⟨e, hl, hc, hw⟩ | ⟨hnl, hw⟩
      · obtain ⟨-, he0⟩ := hinv.key _ e hl
        obtain ⟨i, hr, hs⟩ := hinv.rep _ e hl
        rw [hw, readLoop_cons_lnk dev x e _ st i e.data hpo (hpath (.file e) he0) hs,
          specRest_cons_link dev x rest reps _ _ i e.data hr ((canLink_iff x e).mp hc).1,
          ih _ _ ⟨st.next, st.nsrc + 1, seenPut st.seen x.loc (i, e.data)⟩ hsub'
            (tablesAgree_cache hinv _ _ hxfresh) hlocs.2 (hfresh' _)]
        rfl
      · -- stored: the class has no stored file, or the key is improper — under a proper key the stored file could be
        -- linked to, as the files of one class agree on the attributes
        have hsp : reps.lookup (keyOf x) = none ∨ keySome x = false := by
          cases hl : inodes.lookup (keyOf x) with
          | none => exact .inl (hinv.miss _ hl)
          | some e =>
            obtain ⟨hke, he0⟩ := hinv.key _ e hl
            refine .inr (Bool.eq_false_iff.mpr fun hks => ?_)
            have := (canLink_iff x e).mpr ⟨hks, hke.symm, hcons x e ho0 he0 hke.symm hks⟩
            rw [hnl e hl] at this
            cases this
        rw [hw, readLoop_cons_reg dev x _ st hpo, specRest_cons_fresh dev x rest reps _ _ hsp,
          ih _ _ ⟨st.next + 1, st.nsrc + 1, seenPut st.seen x.loc (st.next, x.data)⟩ hsub'
            (tablesAgree_store hinv x st.next ho0 hxfresh) hlocs.2 (hfresh' _)]
        rfl
    · rw [addRest_cons_other o rest inodes ho, readLoop_cons_other dev o _ st ho hpo (hdev o ho0),
        specRest_cons_other dev o rest reps _ _ ho,
        ih _ _ st hsub' hinv hlocs.2 (fun q hq => hfresh q (.tail _ hq))]
      rfl

theorem specRest_obs (dev : Nat) (S : List Obj) (reps : List (Key × Nat × Nat)) (next nsrc : Nat)
    (hrep : ∀ x, .file x ∈ S → ∀ i d, reps.lookup (keyOf x) = some (i, d) → keySome x = true → d = x.data)
    (hdata : ∀ x y, .file x ∈ S → .file y ∈ S → keyOf x = keyOf y → keySome x = true → x.data = y.data) :
    (specRest dev S reps next nsrc).map obs = S.map obs := by
  induction S generalizing reps next nsrc with
  | nil => rfl
  | cons o rest ih =>
    have hdata' : ∀ x y, .file x ∈ rest → .file y ∈ rest → keyOf x = keyOf y → keySome x = true →
        x.data = y.data :=
      fun x y hx hy => hdata x y (.tail _ hx) (.tail _ hy)
    rcases obj_file_or_other o with ⟨x, rfl⟩ | ho
    · rcases link_or_fresh reps x with ⟨i, d, hl, hks⟩ | hf
      · rw [specRest_cons_link dev x rest reps _ _ i d hl hks, List.map_cons,
          ih _ _ _ (fun y hy => hrep y (.tail _ hy)) hdata', hrep x (.head _) i d hl hks]
        rfl
      · rw [specRest_cons_fresh dev x rest reps _ _ hf, List.map_cons, ih _ _ _ _ hdata']
        · rfl
        · intro y hy i d hl hks
          rw [lookup_repPut] at hl
          split at hl
          · rename_i hk; cases hl
            exact hdata x y (.head _) (.tail _ hy) hk.symm (by rw [keySome_of_key x y hk.symm]; exact hks)
          · exact hrep y (.tail _ hy) i d hl hks
    · rw [specRest_cons_other dev o rest reps _ _ ho, List.map_cons, ih _ _ _ (fun y hy => hrep y (.tail _ hy)) hdata']
      rfl

theorem specRest_locs (dev : Nat) (S : List Obj) (reps : List (Key × Nat × Nat)) (next nsrc : Nat) :
    (specRest dev S reps next nsrc).map Obj.loc = S.map Obj.loc := by
  induction S generalizing reps next nsrc with
  | nil => rfl
  | cons o rest ih =>
    rcases obj_file_or_other o with ⟨x, rfl⟩ | ho
    · rcases link_or_fresh reps x with ⟨i, d, hl, hks⟩ | hf
      · rw [specRest_cons_link dev x rest reps _ _ i d hl hks, List.map_cons, ih]; rfl
      · rw [specRest_cons_fresh dev x rest reps _ _ hf, List.map_cons, ih]; rfl
    · rw [specRest_cons_other dev o rest reps _ _ ho, List.map_cons, ih]; rfl

/-- the invariant of the table and counter of `specRest` under which equal inodes mean equal keys -/
structure RepsOK (reps : List (Key × Nat × Nat)) (next : Nat) : Prop where
  lt : ∀ k i d, reps.lookup k = some (i, d) → i < next
  inj : ∀ k k' i d d', reps.lookup k = some (i, d) → reps.lookup k' = some (i, d') → k = k'

theorem repsOK_nil (next : Nat) : RepsOK [] next := ⟨fun _ _ _ h => (nomatch h), fun _ _ _ _ _ h => (nomatch h)⟩

theorem repsOK_put {reps : List (Key × Nat × Nat)} {next : Nat} (h : RepsOK reps next) (k : Key) (d : Nat) :
    RepsOK (repPut reps k (next, d)) (next + 1) := by
  refine ⟨?_, ?_⟩
  · intro k' i d' hl
    rw [lookup_repPut] at hl
    split at hl
    · cases hl; exact Nat.lt_succ_self _
    · exact Nat.lt_succ_of_lt (h.lt k' i d' hl)
  · intro k1 k2 i d1 d2 h1 h2
    rw [lookup_repPut] at h1 h2
    split at h1 <;> split at h2
    · rename_i e1 e2; rw [e1, e2]
    · cases h1; exact absurd (h.lt _ _ _ h2) (Nat.lt_irrefl _)
    · cases h2; exact absurd (h.lt _ _ _ h1) (Nat.lt_irrefl _)
    · exact h.inj _ _ _ _ _ h1 h2

theorem repsOK_step_file (dev : Nat) (x : File) (rest : List Obj) (reps : List (Key × Nat × Nat)) (next nsrc : Nat)
    (hok : RepsOK reps next) :
    ∃ i d reps' next', specRest dev (.file x :: rest) reps next nsrc
        = .file ⟨x.loc, x.a, some dev, some i, d, nsrc⟩ :: specRest dev rest reps' next' (nsrc + 1) ∧
      RepsOK reps' next' ∧ i < next' ∧ ∃ d', reps'.lookup (keyOf x) = some (i, d') := by
  rcases link_or_fresh reps x with ⟨i, d, hl, hks⟩ | hf
  · exact ⟨i, d, reps, next, specRest_cons_link dev x rest reps _ _ i d hl hks, hok, hok.lt _ _ _ hl, d, hl⟩
  · exact ⟨next, x.data, _, _, specRest_cons_fresh dev x rest reps _ _ hf, repsOK_put hok _ _, Nat.lt_succ_self _,
      x.data, by rw [lookup_repPut, if_pos rfl]⟩

theorem repsOK_step (dev : Nat) (o : Obj) (rest : List Obj) (reps : List (Key × Nat × Nat)) (next nsrc : Nat)
    (hok : RepsOK reps next) :
    ∃ o' reps' next' nsrc', specRest dev (o :: rest) reps next nsrc = o' :: specRest dev rest reps' next' nsrc' ∧
      o'.loc = o.loc ∧ RepsOK reps' next' := by
  rcases obj_file_or_other o with ⟨x, rfl⟩ | ho
  · obtain ⟨i, d, reps', next', h, hok', -⟩ := repsOK_step_file dev x rest reps next nsrc hok
    exact ⟨_, _, _, _, h, rfl, hok'⟩
  · exact ⟨_, _, _, _, specRest_cons_other dev o rest reps _ _ ho, rfl, hok⟩

def inoAt (R : List Obj) (loc : Str) : Option Nat := (R.find? (·.loc == loc)).bind inodeOf

theorem inoAt_cons_ne (o : Obj) (R : List Obj) (loc : Str) (h : o.loc ≠ loc) : inoAt (o :: R) loc = inoAt R loc := by
  have : (o.loc == loc) = false := by simpa using h
  simp [inoAt, List.find?, this]

theorem inoAt_cons_eq (o : Obj) (R : List Obj) : inoAt (o :: R) o.loc = inodeOf o := by
  simp [inoAt, List.find?]

/-- where the inode of a file of the list comes from: the table, through the file's own key, or the counter -/
theorem specRest_inoAt (dev : Nat) (S : List Obj) (reps : List (Key × Nat × Nat)) (next nsrc : Nat)
    (hlocs : (S.map Obj.loc).Nodup) (y : File) (hy : .file y ∈ S) :
    ∃ i, inoAt (specRest dev S reps next nsrc) y.loc = some i ∧
      ((keySome y = true ∧ ∃ d, reps.lookup (keyOf y) = some (i, d)) ∨
       (next ≤ i ∧ (reps.lookup (keyOf y) = none ∨ keySome y = false))) := by
  induction S generalizing reps next nsrc with
  | nil => cases hy
  | cons o rest ih =>
    rw [List.map_cons, List.nodup_cons] at hlocs
    rcases List.mem_cons.mp hy with rfl | hyr
    · rcases link_or_fresh reps y with ⟨i, d, hl, hks⟩ | hf
      · rw [specRest_cons_link dev y rest reps _ _ i d hl hks]
        exact ⟨i, inoAt_cons_eq _ _, .inl ⟨hks, d, hl⟩⟩
      · rw [specRest_cons_fresh dev y rest reps _ _ hf]
        exact ⟨next, inoAt_cons_eq _ _, .inr ⟨Nat.le_refl _, hf⟩⟩
    · have hne : o.loc ≠ y.loc := fun e => hlocs.1 (e ▸ List.mem_map_of_mem (f := Obj.loc) hyr)
      rcases obj_file_or_other o with ⟨z, rfl⟩ | ho
      · rcases link_or_fresh reps z with ⟨i, d, hl, hks⟩ | hf
        · -- `by exact`: the `rw` finds the head, a structure literal; `hne` fits once its `.loc` unfolds
          rw [specRest_cons_link dev z rest reps _ _ i d hl hks, inoAt_cons_ne _ _ _ (by exact hne)]
          exact ih reps next _ hlocs.2 hyr
        · rw [specRest_cons_fresh dev z rest reps _ _ hf, inoAt_cons_ne _ _ _ (by exact hne)]
          obtain ⟨i, hi, hsrc⟩ := ih (repPut reps (keyOf z) (next, z.data)) (next + 1) (nsrc + 1) hlocs.2 hyr
          refine ⟨i, hi, ?_⟩
          rcases hsrc with ⟨hks, d, hl⟩ | ⟨hge, hno⟩
          · rw [lookup_repPut] at hl
            split at hl
            · rename_i hk; cases hl
              exact .inr ⟨Nat.le_refl _,
                hf.imp (fun h => hk ▸ h) (fun h => by rw [keySome_of_key y z hk]; exact h)⟩
            · exact .inl ⟨hks, d, hl⟩
          · refine .inr ⟨Nat.le_of_succ_le hge, hno.imp_left fun h => ?_⟩
            rw [lookup_repPut] at h
            split at h
            · cases h
            · exact h
      · rw [specRest_cons_other dev o rest reps _ _ ho, inoAt_cons_ne _ _ _ hne]
        exact ih reps next nsrc hlocs.2 hyr

theorem specRest_inoAt_head (dev : Nat) (z : File) (rest : List Obj) (reps : List (Key × Nat × Nat)) (next nsrc : Nat)
    (hok : RepsOK reps next) (hlocs : ((Obj.file z :: rest).map Obj.loc).Nodup) (w : File) (hw : .file w ∈ rest) :
    inoAt (specRest dev (.file z :: rest) reps next nsrc) z.loc
        = inoAt (specRest dev (.file z :: rest) reps next nsrc) w.loc
      ↔ keyOf z = keyOf w ∧ keySome z = true := by
  rw [List.map_cons, List.nodup_cons] at hlocs
  have hne : z.loc ≠ w.loc := fun e => hlocs.1 (show z.loc ∈ _ from e ▸ List.mem_map_of_mem (f := Obj.loc) hw)
  obtain ⟨i, d, reps', next', h, hok', hlt, d', hl⟩ := repsOK_step_file dev z rest reps next nsrc hok
  obtain ⟨j, hj, hsrc⟩ := specRest_inoAt dev rest reps' next' (nsrc + 1) hlocs.2 w hw
  rw [h, inoAt_cons_ne _ _ w.loc (by exact hne), hj]
  -- `erw`: the head is a structure literal, whose `.loc` has to unfold
  erw [inoAt_cons_eq]
  show some i = some j ↔ _
  rcases hsrc with ⟨hkw, dw, hlw⟩ | ⟨hge, hno⟩
  · -- both inodes are in the table: equal inodes are under one key, and one key holds one inode
    constructor
    · intro e; cases e
      have hk := hok'.inj _ _ _ _ _ hl hlw
      exact ⟨hk, by rw [keySome_of_key z w hk]; exact hkw⟩
    · rintro ⟨hk, -⟩; rw [hk, hlw] at hl; cases hl; rfl
  · -- the later file got a fresh inode, and its key is not in the table or not a proper key
    constructor
    · intro e; cases e; exact absurd hlt (Nat.not_lt.mpr hge)
    · rintro ⟨hk, hks⟩
      rcases hno with hn | hn
      · rw [hk, hn] at hl; cases hl
      · rw [← keySome_of_key z w hk, hks] at hn; cases hn

theorem specRest_inoAt_eq_iff (dev : Nat) (S : List Obj) (reps : List (Key × Nat × Nat)) (next nsrc : Nat)
    (hok : RepsOK reps next) (hlocs : (S.map Obj.loc).Nodup) (x y : File) (hx : .file x ∈ S) (hy : .file y ∈ S)
    (hne : x.loc ≠ y.loc) :
    inoAt (specRest dev S reps next nsrc) x.loc = inoAt (specRest dev S reps next nsrc) y.loc
      ↔ keyOf x = keyOf y ∧ keySome x = true := by
  induction S generalizing reps next nsrc with
  | nil => cases hx
  | cons o rest ih =>
    rcases List.mem_cons.mp hx with hx' | hx' <;> rcases List.mem_cons.mp hy with hy' | hy'
    · rw [← hx'] at hy'; cases hy'; exact absurd rfl hne
    · subst hx'; exact specRest_inoAt_head dev x rest reps next nsrc hok hlocs y hy'
    · subst hy'
      rw [eq_comm, specRest_inoAt_head dev y rest reps next nsrc hok hlocs x hx']
      exact ⟨fun ⟨hk, hs⟩ => ⟨hk.symm, by rw [keySome_of_key x y hk.symm]; exact hs⟩,
        fun ⟨hk, hs⟩ => ⟨hk.symm, by rw [keySome_of_key y x hk.symm]; exact hs⟩⟩
    · rw [List.map_cons, List.nodup_cons] at hlocs
      obtain ⟨o', reps', next', nsrc', h, hl, hok'⟩ := repsOK_step dev o rest reps next nsrc hok
      have hskip : ∀ z : File, Obj.file z ∈ rest → o'.loc ≠ z.loc := fun z hz e =>
        hlocs.1 (hl ▸ e ▸ List.mem_map_of_mem (f := Obj.loc) hz)
      rw [h, inoAt_cons_ne _ _ _ (hskip x hx'), inoAt_cons_ne _ _ _ (hskip y hy')]
      exact ih _ _ _ hok' hlocs.2 hx' hy'

end Pkgcore.C25
