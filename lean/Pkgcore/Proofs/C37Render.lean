import Pkgcore.Spec.C37
import Pkgcore.Proofs.Lib
/-! The chart reader: a rendered chart occupies a block of slots (`InRange`), the reader's `step` at a slot depends only
on the parameters of that slot (`Agree`, `step_congr`), so a chart is read back block by block (`read_chart`).  Then
what `q.params` has beside the charts (`NoSlots`), hence its `f` keys and values; and `_merge_simple` as a fold of
`mergeStep` over `dictGet` / `dictSet`, characterised by `Mention`; last, for `&` on charts, `Chart.WFs_iff` and
`eraseList`, `evalAll` as `List.map`, `List.all`. -/
namespace Pkgcore.C37
open Pkgcore.C37.Spec

/-! First the vocabulary of the property statements of `Props/C37`, down to `KeysNodup`. -/

mutual
/-- no condition uses the reserved field names `OP` / `CP` -/
def Chart.WF : Chart → Prop
  | .crit c => c.field ≠ "OP" ∧ c.field ≠ "CP"
  | .group _ ts => Chart.WFs ts
def Chart.WFs : List Chart → Prop
  | [] => True
  | t :: ts => Chart.WF t ∧ Chart.WFs ts
end

/-- the keys of the `f<slot>` parameters (one per condition and per group marker), in order of appearance -/
def fKeys (ps : List Param) : List Key := (ps.filter (fun p => isF p.1)).map (·.1)

/-- the values of the `f<slot>` parameters: field names and the markers `OP` / `CP`, in order of appearance -/
def fVals (ps : List Param) : List String := (ps.filter (fun p => isF p.1)).map (·.2)

/-- the plain key `k` is constrained to (among others) the value `v` -/
def Mention (simple : List (String × List String)) (k v : String) : Prop := ∃ vs, (k, vs) ∈ simple ∧ v ∈ vs

/-- no plain key occurs twice (what the named constructors build and `&` preserves) -/
def KeysNodup (m : List (String × List String)) : Prop := (m.map Prod.fst).Nodup

def InRange (ps : List Param) (s s' : Nat) : Prop :=
  ∀ p ∈ ps, ∃ k, slotOf p.1 = some k ∧ s ≤ k ∧ k < s'

theorem InRange.append {a b : List Param} {s s' : Nat} (ha : InRange a s s') (hb : InRange b s s') :
    InRange (a ++ b) s s' := by
  intro p hp
  rcases List.mem_append.1 hp with h | h
  · exact ha p h
  · exact hb p h

theorem InRange.mono {a : List Param} {s s' t t' : Nat} (h : InRange a s s') (h1 : t ≤ s) (h2 : s' ≤ t') :
    InRange a t t' := by
  intro p hp
  obtain ⟨k, hk, h3, h4⟩ := h p hp
  exact ⟨k, hk, Nat.le_trans h1 h3, Nat.lt_of_lt_of_le h4 h2⟩

theorem InRange.of_slot {ps : List Param} {k s s' : Nat} (h : ∀ p ∈ ps, slotOf p.1 = some k) (h1 : s ≤ k)
    (h2 : k < s') : InRange ps s s' :=
  fun p hp => ⟨k, h p hp, h1, h2⟩

theorem slotOf_renderCrit (c : Criterion) (s : Nat) : ∀ p ∈ renderCrit c s, slotOf p.1 = some s := by
  intro p hp
  simp only [renderCrit, List.mem_append, List.mem_cons, List.mem_map, List.not_mem_nil, or_false] at hp
  rcases hp with ((rfl | rfl) | ⟨x, _, rfl⟩) | hp
  · rfl
  · rfl
  · rfl
  · split at hp
    · rw [List.mem_singleton.1 hp]; rfl
    · cases hp

mutual
theorem renderChart_lt (t : Chart) (s : Nat) : s < (renderChart t s).2 := by
  cases t with
  | crit c => exact Nat.lt_succ_self s
  | group j ts => exact Nat.lt_succ_of_le (Nat.le_trans (Nat.le_succ s) (renderCharts_le ts (s + 1)))
theorem renderCharts_le (ts : List Chart) (s : Nat) : s ≤ (renderCharts ts s).2 := by
  cases ts with
  | nil => exact Nat.le_refl s
  | cons t ts => exact Nat.le_trans (Nat.le_of_lt (renderChart_lt t s)) (renderCharts_le ts (renderChart t s).2)
end

mutual
theorem renderChart_inRange (t : Chart) (s : Nat) : InRange (renderChart t s).1 s (renderChart t s).2 := by
  cases t with
  | crit c => exact .of_slot (slotOf_renderCrit c s) (Nat.le_refl s) (Nat.lt_succ_self s)
  | group j ts =>
    have hle := renderCharts_le ts (s + 1)
    simp only [renderChart]
    exact ((InRange.of_slot (k := s) (by simp [slotOf]) (Nat.le_refl s) (by omega)).append
        ((renderCharts_inRange ts (s + 1)).mono (Nat.le_succ s) (Nat.le_succ _))).append
      (.of_slot (k := (renderCharts ts (s + 1)).2) (by simp [slotOf]) (by omega) (Nat.lt_succ_self _))
theorem renderCharts_inRange (ts : List Chart) (s : Nat) : InRange (renderCharts ts s).1 s (renderCharts ts s).2 := by
  cases ts with
  | nil => intro p hp; cases hp
  | cons t ts =>
    simp only [renderCharts]
    exact ((renderChart_inRange t s).mono (Nat.le_refl s) (renderCharts_le ts _)).append
      ((renderCharts_inRange ts _).mono (Nat.le_of_lt (renderChart_lt t s)) (Nat.le_refl _))
end

theorem valuesOf_append (a b : List Param) (k : Key) : valuesOf (a ++ b) k = valuesOf a k ++ valuesOf b k := by
  simp only [valuesOf, List.filter_append, List.map_append]

theorem valuesOf_eq_nil {ps : List Param} {key : Key} (h : ∀ p ∈ ps, p.1 ≠ key) : valuesOf ps key = [] := by
  simp only [valuesOf, List.map_eq_nil_iff, List.filter_eq_nil_iff, decide_eq_true_eq]
  exact h

theorem InRange.ne_key {ps : List Param} {s s' : Nat} (h : InRange ps s s') {key : Key} {k : Nat}
    (hk : slotOf key = some k) (hout : k < s ∨ s' ≤ k) : ∀ p ∈ ps, p.1 ≠ key := by
  intro p hp e
  obtain ⟨k', hk', h1, h2⟩ := h p hp
  rw [e, hk] at hk'
  cases hk'
  omega

theorem valuesOf_noslot {ps : List Param} {s s' : Nat} (h : InRange ps s s') (key : Key)
    (hk : slotOf key = none) : valuesOf ps key = [] :=
  valuesOf_eq_nil fun p hp e => by
    obtain ⟨k', hk', _⟩ := h p hp
    rw [e, hk] at hk'
    cases hk'

theorem valuesOf_renderCrit (c : Criterion) (s : Nat) :
    valuesOf (renderCrit c s) (.f s) = [c.field] ∧ valuesOf (renderCrit c s) (.o s) = [c.op] ∧
    valuesOf (renderCrit c s) (.v s) = c.values ∧ valuesOf (renderCrit c s) (.j s) = [] ∧
    valuesOf (renderCrit c s) (.n s) = if c.negate then ["1"] else [] := by
  cases hn : c.negate <;> simp [renderCrit, valuesOf, List.filter_map, Function.comp_def, hn]

/-- `P` and `R` carry the same chart parameters in the slots `[s, s')` -/
def Agree (P R : List Param) (s s' : Nat) : Prop :=
  ∀ key k, slotOf key = some k → s ≤ k → k < s' → valuesOf P key = valuesOf R key

theorem Agree.split {P a b : List Param} {s s' s'' : Nat} (h : Agree P (a ++ b) s s'') (ha : InRange a s s')
    (hb : InRange b s' s'') (h1 : s ≤ s') (h2 : s' ≤ s'') : Agree P a s s' ∧ Agree P b s' s'' := by
  constructor <;> intro key k hk h3 h4 <;> rw [h key k hk (by omega) (by omega), valuesOf_append]
  · rw [valuesOf_eq_nil (hb.ne_key hk (by omega)), List.append_nil]
  · rw [valuesOf_eq_nil (ha.ne_key hk (by omega)), List.nil_append]

theorem step_congr {P R : List Param} {k : Nat} (h : Agree P R k (k + 1)) (st : List Frame) :
    step P st k = step R st k := by
  have h' : ∀ key, slotOf key = some k → valuesOf P key = valuesOf R key :=
    fun key hk => h key k hk (Nat.le_refl k) (Nat.lt_succ_self k)
  unfold step
  rw [h' (.f k) rfl, h' (.o k) rfl, h' (.v k) rfl, h' (.j k) rfl, h' (.n k) rfl]

theorem step_crit (c : Criterion) (s : Nat) (fr : Frame) (st : List Frame)
    (hwf : c.field ≠ "OP" ∧ c.field ≠ "CP") :
    step (renderCrit c s) (fr :: st) s = some (fr.push (erase (.crit c)) :: st) := by
  obtain ⟨hf, ho, hv, hj, hn⟩ := valuesOf_renderCrit c s
  unfold step
  rw [hf, ho, hj, hn, hv]
  cases hneg : c.negate <;> simp [hwf.1, hwf.2, erase, hneg]

theorem step_open (j : String) (s : Nat) (st : List Frame) :
    step [(Key.f s, "OP"), (Key.j s, j)] st s = some (⟨j, []⟩ :: st) := by
  simp [step, valuesOf]

theorem step_close (s : Nat) (top parent : Frame) (st : List Frame) :
    step [(Key.f s, "CP")] (top :: parent :: st) s = some (parent.push (.group top.join top.children) :: st) := by
  simp [step, valuesOf]

theorem range'_succ_right (s n : Nat) : List.range' s (n + 1) = List.range' s n ++ [s + n] := by
  rw [List.range'_concat, Nat.one_mul]

theorem range'_split {s m n : Nat} (h1 : s ≤ m) (h2 : m ≤ n) :
    List.range' s (n - s) = List.range' s (m - s) ++ List.range' m (n - m) := by
  rw [← Nat.sub_add_sub_cancel h2 h1, Nat.add_comm (n - m), ← List.range'_append_1, Nat.add_sub_of_le h1]

theorem range'_group (s s'' : Nat) (h : s + 1 ≤ s'') :
    List.range' s (s'' + 1 - s) = [s] ++ (List.range' (s + 1) (s'' - (s + 1)) ++ [s'']) := by
  rw [range'_split (Nat.le_add_right s 1) (Nat.add_le_add_right (Nat.le_of_succ_le h) 1),
    range'_split h (Nat.le_add_right s'' 1),
    Nat.add_sub_cancel_left, Nat.add_sub_cancel_left, List.range'_one, List.range'_one]

theorem foldlM_append_some {α : Type u} {β : Type v} (f : β → α → Option β) {l₁ l₂ : List α} {a b c : β}
    (h₁ : l₁.foldlM f a = some b) (h₂ : l₂.foldlM f b = some c) : (l₁ ++ l₂).foldlM f a = some c := by
  rw [List.foldlM_append, h₁]; exact h₂

theorem foldlM_singleton {m : Type u → Type v} [Monad m] [LawfulMonad m] {α : Type w} {β : Type u}
    (f : β → α → m β) (a : β) (x : α) : [x].foldlM f a = f a x := by
  simp only [List.foldlM_cons, List.foldlM_nil, bind_pure]

mutual
/-- reading the slots of one rendered chart appends what it denotes to the innermost open group -/
theorem read_chart (t : Chart) (s : Nat) (P : List Param) (fr : Frame) (st : List Frame)
    (hwf : t.WF) (hag : Agree P (renderChart t s).1 s (renderChart t s).2) :
    (List.range' s ((renderChart t s).2 - s)).foldlM (step P) (fr :: st) = some (fr.push (erase t) :: st) := by
  cases t with
  | crit c =>
    rw [show (renderChart (.crit c) s).2 - s = 1 from Nat.add_sub_cancel_left s 1, List.range'_one, foldlM_singleton,
      step_congr hag]
    exact step_crit c s fr st hwf
  | group j ts =>
    have hle := renderCharts_le ts (s + 1)
    have hopen : InRange [(Key.f s, "OP"), (Key.j s, j)] s (s + 1) :=
      .of_slot (by simp [slotOf]) (Nat.le_refl s) (Nat.lt_succ_self s)
    have hkids := renderCharts_inRange ts (s + 1)
    have hclose : InRange [(Key.f (renderCharts ts (s + 1)).2, "CP")] (renderCharts ts (s + 1)).2
        ((renderCharts ts (s + 1)).2 + 1) := .of_slot (by simp [slotOf]) (Nat.le_refl _) (Nat.lt_succ_self _)
    simp only [renderChart] at hag ⊢
    obtain ⟨hfront, hc⟩ := hag.split
      ((hopen.mono (Nat.le_refl s) hle).append (hkids.mono (Nat.le_succ s) (Nat.le_refl _))) hclose (by omega)
      (Nat.le_succ _)
    obtain ⟨ho, hi⟩ := hfront.split hopen hkids (Nat.le_succ s) hle
    rw [range'_group s _ hle]
    refine foldlM_append_some _ ?_ (foldlM_append_some _ (read_charts ts (s + 1) P ⟨j, []⟩ (fr :: st) hwf hi) ?_)
    · rw [foldlM_singleton, step_congr ho]
      exact step_open j s (fr :: st)
    · rw [foldlM_singleton, step_congr hc]
      exact step_close _ _ fr st
theorem read_charts (ts : List Chart) (s : Nat) (P : List Param) (fr : Frame) (st : List Frame)
    (hwf : Chart.WFs ts) (hag : Agree P (renderCharts ts s).1 s (renderCharts ts s).2) :
    (List.range' s ((renderCharts ts s).2 - s)).foldlM (step P) (fr :: st)
      = some ({ fr with children := fr.children ++ erase.eraseList ts } :: st) := by
  cases ts with
  | nil => simp [renderCharts, erase.eraseList]
  | cons t ts =>
    have h1 := Nat.le_of_lt (renderChart_lt t s)
    have h2 := renderCharts_le ts (renderChart t s).2
    simp only [renderCharts] at hag ⊢
    obtain ⟨ht, hts⟩ := hag.split (renderChart_inRange t s) (renderCharts_inRange ts _) h1 h2
    rw [range'_split h1 h2]
    refine foldlM_append_some _ (read_chart t s P fr st hwf.1 ht) ?_
    rw [read_charts ts _ P (fr.push (erase t)) st hwf.2 hts]
    simp only [Frame.push, erase.eraseList, List.append_assoc, List.singleton_append]
end

theorem fKeys_append (a b : List Param) : fKeys (a ++ b) = fKeys a ++ fKeys b := by
  simp only [fKeys, List.filter_append, List.map_append]

theorem fVals_append (a b : List Param) : fVals (a ++ b) = fVals a ++ fVals b := by
  simp only [fVals, List.filter_append, List.map_append]

theorem filter_isF_renderCrit (c : Criterion) (s : Nat) :
    (renderCrit c s).filter (fun p => isF p.1) = [(Key.f s, c.field)] := by
  cases hn : c.negate <;> simp [renderCrit, isF, List.filter_map, Function.comp_def, hn]

mutual
theorem fKeys_chart (t : Chart) (s : Nat) :
    fKeys (renderChart t s).1 = (List.range' s ((renderChart t s).2 - s)).map Key.f := by
  cases t with
  | crit c =>
    rw [show (renderChart (.crit c) s).2 - s = 1 from Nat.add_sub_cancel_left s 1, List.range'_one]
    exact congrArg (List.map (·.1)) (filter_isF_renderCrit c s)
  | group j ts =>
    simp only [renderChart, fKeys_append, fKeys_charts ts (s + 1), range'_group s _ (renderCharts_le ts (s + 1))]
    simp [fKeys, isF]
theorem fKeys_charts (ts : List Chart) (s : Nat) :
    fKeys (renderCharts ts s).1 = (List.range' s ((renderCharts ts s).2 - s)).map Key.f := by
  cases ts with
  | nil => simp [renderCharts, fKeys]
  | cons t ts =>
    simp only [renderCharts, fKeys_append, fKeys_chart t s, fKeys_charts ts _, ← List.map_append,
      ← range'_split (Nat.le_of_lt (renderChart_lt t s)) (renderCharts_le ts (renderChart t s).2)]
end

mutual
theorem balanced_chart (t : Chart) (s : Nat) (rest : List String) (d : Nat) (hwf : t.WF) :
    balanced (fVals (renderChart t s).1 ++ rest) d = balanced rest d := by
  cases t with
  | crit c =>
    rw [show fVals (renderChart (.crit c) s).1 = [c.field] from
      congrArg (List.map Prod.snd) (filter_isF_renderCrit c s)]
    simp only [List.cons_append, List.nil_append, balanced, hwf.1, hwf.2, if_false]
  | group j ts =>
    have e : fVals (renderChart (.group j ts) s).1 ++ rest
        = "OP" :: (fVals (renderCharts ts (s + 1)).1 ++ ("CP" :: rest)) := by
      simp [renderChart, fVals, isF]
    rw [e]
    simp only [balanced, if_true, balanced_charts ts (s + 1) ("CP" :: rest) (d + 1) hwf]
    -- the `CP` is met at depth `d + 1 > 0` and takes it back to `d`
    simp
theorem balanced_charts (ts : List Chart) (s : Nat) (rest : List String) (d : Nat) (hwf : Chart.WFs ts) :
    balanced (fVals (renderCharts ts s).1 ++ rest) d = balanced rest d := by
  cases ts with
  | nil => rfl
  | cons t ts =>
    simp only [renderCharts, fVals_append, List.append_assoc]
    rw [balanced_chart t s _ d hwf.1, balanced_charts ts _ rest d hwf.2]
end

def NoSlots (ps : List Param) : Prop := ∀ p ∈ ps, slotOf p.1 = none

theorem noSlots_simple (simple : List (String × List String)) : NoSlots (simpleParams simple) := by
  intro p hp
  simp only [simpleParams, List.mem_flatMap, List.mem_map] at hp
  obtain ⟨kv, _, x, _, rfl⟩ := hp
  rfl

theorem key_pagingParams (q : BugQuery) :
    ∀ p ∈ pagingParams q, p.1 = Key.limit ∨ p.1 = Key.offset ∨ p.1 = Key.order := by
  intro p hp
  simp only [pagingParams, List.mem_append] at hp
  rcases hp with (hp | hp) | hp
  · cases hl : q.limit <;> simp_all
  · cases ho : q.offset with
    | none => simp_all
    | some o =>
      rw [ho] at hp
      by_cases h0 : o = 0 <;> simp_all
  · cases ho : q.order <;> simp_all

theorem noSlots_paging (q : BugQuery) : NoSlots (pagingParams q) := by
  intro p hp
  rcases key_pagingParams q p hp with h | h | h <;> rw [h] <;> rfl

theorem NoSlots.ne_key {ps : List Param} (h : NoSlots ps) {key : Key} {k : Nat} (hk : slotOf key = some k) :
    ∀ p ∈ ps, p.1 ≠ key := by
  intro p hp e
  have := h p hp
  rw [e, hk] at this
  cases this

theorem NoSlots.filter_isF {ps : List Param} (h : NoSlots ps) : ps.filter (fun p => isF p.1) = [] := by
  refine List.filter_eq_nil_iff.2 fun p hp => ?_
  have := h p hp
  cases hk : p.1 <;> simp_all [slotOf, isF]

theorem filter_isF_params (q : BugQuery) :
    q.params.filter (fun p => isF p.1) = (renderCharts q.charts 1).1.filter (fun p => isF p.1) := by
  simp only [BugQuery.params, List.filter_append, (noSlots_simple _).filter_isF, (noSlots_paging _).filter_isF,
    List.nil_append, List.append_nil]

theorem fKeys_params (q : BugQuery) :
    fKeys q.params = (List.range' 1 ((renderCharts q.charts 1).2 - 1)).map Key.f := by
  rw [fKeys, filter_isF_params]
  exact fKeys_charts q.charts 1

theorem slotOf_params (q : BugQuery) :
    ∀ p ∈ q.params, ∀ k, slotOf p.1 = some k → 1 ≤ k ∧ k ≤ (renderCharts q.charts 1).2 - 1 := by
  intro p hp k hk
  simp only [BugQuery.params, List.mem_append] at hp
  rcases hp with (hp | hp) | hp
  · rw [noSlots_simple _ p hp] at hk; cases hk
  · obtain ⟨k', hk', h1, h2⟩ := renderCharts_inRange q.charts 1 p hp
    rw [hk] at hk'; cases hk'
    omega
  · rw [noSlots_paging _ p hp] at hk; cases hk

theorem agree_params (q : BugQuery) {s s' : Nat} : Agree q.params (renderCharts q.charts 1).1 s s' := by
  intro key k hk _ _
  rw [BugQuery.params, valuesOf_append, valuesOf_append, valuesOf_eq_nil ((noSlots_simple _).ne_key hk),
    valuesOf_eq_nil ((noSlots_paging _).ne_key hk), List.nil_append, List.append_nil]

theorem mem_simpleParams (simple : List (String × List String)) (p : Param) :
    p ∈ simpleParams simple ↔ ∃ k v, p = (Key.simple k, v) ∧ Mention simple k v := by
  simp only [simpleParams, List.mem_flatMap, List.mem_map, Mention]
  constructor
  · rintro ⟨⟨k, vs⟩, hkv, x, hx, rfl⟩
    exact ⟨k, x, rfl, vs, hkv, hx⟩
  · rintro ⟨k, v, rfl, vs, hkv, hv⟩
    exact ⟨(k, vs), hkv, v, hv, rfl⟩

theorem mem_params_simple (q : BugQuery) (k v : String) :
    (Key.simple k, v) ∈ q.params ↔ Mention q.simple k v := by
  simp only [BugQuery.params, List.mem_append]
  constructor
  · rintro ((h | h) | h)
    · obtain ⟨k', v', e, hm⟩ := (mem_simpleParams _ _).1 h
      cases e; exact hm
    · obtain ⟨_, hk, _⟩ := renderCharts_inRange q.charts 1 _ h
      cases hk
    · rcases key_pagingParams q _ h with e | e | e <;> cases e
  · intro h
    exact Or.inl (Or.inl ((mem_simpleParams _ _).2 ⟨k, v, rfl, h⟩))

theorem simpleHolds_params (S : String → String → Bool) (q : BugQuery) :
    simpleHolds S q.params = true ↔
      ∀ k v, Mention q.simple k v → ∃ v', Mention q.simple k v' ∧ S k v' = true := by
  simp only [simpleHolds, List.all_eq_true]
  constructor
  · intro h k v hm
    have := h (Key.simple k, v) ((mem_params_simple q k v).2 hm)
    simp only [List.any_eq_true, Bool.and_eq_true, beq_iff_eq] at this
    obtain ⟨⟨k', v'⟩, hp', hk', hs⟩ := this
    simp only at hk' hs
    subst hk'
    exact ⟨v', (mem_params_simple q k v').1 hp', hs⟩
  · rintro h ⟨key, v⟩ hp
    cases key with
    | simple k =>
      simp only [List.any_eq_true, Bool.and_eq_true, beq_iff_eq]
      obtain ⟨v', hm, hs⟩ := h k v ((mem_params_simple q k v).1 hp)
      exact ⟨(Key.simple k, v'), (mem_params_simple q k v').2 hm, rfl, hs⟩
    | _ => simp only

theorem mem_mentioned (simple : List (String × List String)) (k v : String) :
    v ∈ mentioned simple k ↔ Mention simple k v := by
  simp only [mentioned, List.mem_flatMap, List.mem_filter, decide_eq_true_eq, Mention]
  constructor
  · rintro ⟨⟨k', vs⟩, ⟨hm, rfl⟩, hv⟩
    exact ⟨vs, hm, hv⟩
  · rintro ⟨vs, hm, hv⟩
    exact ⟨(k, vs), ⟨hm, rfl⟩, hv⟩

/-- in the form of `hcons` of Lib's section `DictSet`, whose `set` takes the entry as one pair `e` -/
theorem dictSet_cons (p : String × List String) (m : List (String × List String)) (e : String × List String) :
    dictSet (p :: m) e.1 e.2 = if p.1 = e.1 then e :: m else p :: dictSet m e.1 e.2 := by
  rw [dictSet]
  split
  · next h => rw [h]
  · rfl

theorem KeysNodup.dictSet {m : List (String × List String)} (h : KeysNodup m) (k : String) (x : List String) :
    KeysNodup (dictSet m k x) :=
  Lib.nodup_set (fun m e => C37.dictSet m e.1 e.2) (fun _ => rfl) dictSet_cons h (k, x)

theorem dictGet_dictSet (m : List (String × List String)) (k : String) (x : List String) (k' : String) :
    dictGet (dictSet m k x) k' = if k' = k then x else dictGet m k' := by
  induction m with
  | nil => simp only [dictSet, dictGet, eq_comm]
  | cons kv rest ih =>
    obtain ⟨k0, x0⟩ := kv
    by_cases h : k0 = k
    · subst h
      by_cases h' : k' = k0
      · subst h'; simp [dictSet, dictGet]
      · simp [dictSet, dictGet, h', Ne.symm h']
    · by_cases h' : k' = k0
      · subst h'; simp [dictSet, dictGet, h]
      · simp [dictSet, dictGet, h, ih, Ne.symm h']

theorem mention_cons (kv : String × List String) (rest : List (String × List String)) (k v : String) :
    Mention (kv :: rest) k v ↔ (kv.1 = k ∧ v ∈ kv.2) ∨ Mention rest k v := by
  obtain ⟨k0, x0⟩ := kv
  simp only [Mention, List.mem_cons, Prod.mk.injEq]
  constructor
  · rintro ⟨vs, (⟨rfl, rfl⟩ | hr), hv⟩
    · exact Or.inl ⟨rfl, hv⟩
    · exact Or.inr ⟨vs, hr, hv⟩
  · rintro (⟨rfl, hv⟩ | ⟨vs, hr, hv⟩)
    · exact ⟨x0, Or.inl ⟨rfl, rfl⟩, hv⟩
    · exact ⟨vs, Or.inr hr, hv⟩

theorem Mention.key_mem {m : List (String × List String)} {k v : String} (h : Mention m k v) : k ∈ m.map Prod.fst :=
  h.elim fun vs hvs => List.mem_map.2 ⟨(k, vs), hvs.1, rfl⟩

theorem mem_dictGet {m : List (String × List String)} (hnd : KeysNodup m) (k v : String) :
    v ∈ dictGet m k ↔ Mention m k v := by
  induction m with
  | nil => exact ⟨fun h => (List.not_mem_nil h).elim, fun h => (List.not_mem_nil h.key_mem).elim⟩
  | cons kv rest ih =>
    obtain ⟨k0, x0⟩ := kv
    obtain ⟨hk0, hnd'⟩ := List.nodup_cons.1 hnd
    rw [mention_cons, dictGet]
    split
    next h => exact ⟨fun hv => Or.inl ⟨h, hv⟩, fun hv => hv.elim (·.2) fun hm => absurd (h ▸ hm.key_mem) hk0⟩
    next h => rw [ih hnd']; exact ⟨Or.inr, fun hv => hv.elim (fun e => absurd e.1 h) id⟩

theorem dictOf_eq {l : List (String × List String)} (h : KeysNodup l) : dictOf l = l :=
  Lib.foldl_fresh Prod.fst (fun _ _ => Lib.set_fresh (fun m e => dictSet m e.1 e.2) (fun _ => rfl) dictSet_cons) l [] h

/-- one turn of the loop of `_merge_simple` -/
def mergeStep (m : List (String × List String)) (kv : String × List String) : List (String × List String) :=
  dictSet m kv.1 (dictGet m kv.1 ++ kv.2.filter (fun x => !(dictGet m kv.1).contains x))

theorem foldl_mergeStep (right m : List (String × List String)) (hnd : KeysNodup m) :
    KeysNodup (right.foldl mergeStep m) ∧
      ∀ k v, v ∈ dictGet (right.foldl mergeStep m) k ↔ v ∈ dictGet m k ∨ Mention right k v := by
  induction right generalizing m with
  | nil => exact ⟨hnd, fun k v => ⟨Or.inl, fun h => h.elim id fun h' => (List.not_mem_nil h'.key_mem).elim⟩⟩
  | cons kv rest ih =>
    obtain ⟨h1, h2⟩ := ih (mergeStep m kv) (hnd.dictSet kv.1 _)
    refine ⟨h1, fun k v => ?_⟩
    rw [List.foldl_cons, h2, mergeStep, dictGet_dictSet, mention_cons]
    split
    next e => rw [Lib.mem_append_filter_not_contains, e, or_assoc]; simp
    next e => simp [Ne.symm e]

theorem mergeSimple_spec (left right : List (String × List String)) (hl : KeysNodup left) :
    KeysNodup (mergeSimple left right) ∧
      ∀ k v, Mention (mergeSimple left right) k v ↔ Mention left k v ∨ Mention right k v := by
  have e : mergeSimple left right = right.foldl mergeStep left := by rw [mergeSimple, dictOf_eq hl]; rfl
  obtain ⟨h1, h2⟩ := foldl_mergeStep right left hl
  rw [e]
  exact ⟨h1, fun k v => by rw [← mem_dictGet h1, h2, mem_dictGet hl]⟩

theorem Chart.WFs_iff (ts : List Chart) : Chart.WFs ts ↔ ∀ t ∈ ts, t.WF := by
  induction ts with
  | nil => exact ⟨fun _ _ => nofun, fun _ => trivial⟩
  | cons t ts ih => rw [Chart.WFs, ih, List.forall_mem_cons]

theorem eraseList_eq_map (ts : List Chart) : erase.eraseList ts = ts.map erase := by
  induction ts with
  | nil => rfl
  | cons t ts ih => rw [erase.eraseList, ih, List.map_cons]

theorem evalAll_eq_all (I : String → String → List String → Bool) (ts : List Tree) :
    evalAll I ts = ts.all (evalTree I) := by
  induction ts with
  | nil => rfl
  | cons t ts ih => rw [evalAll, ih, List.all_cons]

end Pkgcore.C37
