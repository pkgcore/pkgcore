import Pkgcore.Proofs.C30
/-!
# C30 — world-file updates record exactly the requested entries

The model mirrors `WorldFile._modify`, `FileList._parse`/`flush` (through `AtomicWriteFile`) and
`pmerge.update_worldset`; sets are duplicate-free lists compared by membership.
-/
namespace Pkgcore.C30
open Pkgcore.C30.Spec

/-- **adding records exactly the name, or name:slot for a non-zero slot** — for every valid slot string
(multi-character, dotted, …), on every existing set -/
theorem world_add_exact (w : World) (key : Line) (slot : Option Line) (hn : w.Nodup) (hs : SlotOptOk slot) :
    ∃ w', modify w (.add key slot) = some w' ∧ w'.Nodup ∧ ∀ e, e ∈ w' ↔ e = specEntry key slot ∨ e ∈ w := by
  refine ⟨_, rfl, ?_, fun e => ?_⟩
  · exact nodup_setAdd _ _ hn
  · rw [mem_setAdd, worldText_eq_spec key slot hs]; exact Or.comm

example : SlotOptOk (some "3.11".toList) := by
  refine ⟨by decide, ?_, ?_⟩
  · intro c hc; revert c; decide
  · intro c hc; simp at hc; subst hc; decide

example : modify ["dev-util/bsdiff".toList] (.add "a/b".toList (some "3.11".toList))
    = some ["dev-util/bsdiff".toList, "a/b:3.11".toList] := by decide +kernel

/-- **removing removes exactly that entry**; when it is not recorded the operation reports `KeyError`
and the set is untouched -/
theorem world_remove_exact (w : World) (key : Line) (slot : Option Line) (hn : w.Nodup) (hs : SlotOptOk slot) :
    (specEntry key slot ∈ w → ∃ w', modify w (.remove key slot) = some w' ∧ w'.Nodup ∧
        ∀ e, e ∈ w' ↔ e ∈ w ∧ e ≠ specEntry key slot) ∧
    (specEntry key slot ∉ w → modify w (.remove key slot) = none) := by
  simp only [modify, worldText_eq_spec key slot hs]
  refine ⟨fun h => ?_, fun h => (setRemove_eq_none _ _).2 h⟩
  have : setRemove w (specEntry key slot) = some (w.erase (specEntry key slot)) := by simp [setRemove, h]
  obtain ⟨_, h2, h3⟩ := setRemove_some w _ _ hn this
  exact ⟨_, this, h2, h3⟩

example : modify ["a/b:10".toList, "a/b".toList] (.remove "a/b".toList (some "10".toList)) = some ["a/b".toList] := by
  decide +kernel

/-- **all other entries stay intact**, for additions and removals alike -/
theorem others_intact (w w' : World) (r : Req) (hn : w.Nodup) (he : ∀ e ∈ w, isEntryLine e = true) (hr : ReqOk r)
    (h : modify w r = some w') (e : Line)
    (hne : e ≠ (match r with | .add k s => specEntry k s | .remove k s => specEntry k s)) :
    e ∈ w' ↔ e ∈ w := by
  rw [← applyReq_of_some h, (applyReq_spec w r ⟨hn, he⟩ hr).2 e]
  cases r with
  | add k s => exact or_iff_right hne
  | remove k s => exact and_iff_left hne

/-- … and "other" is meaningful: the entry determines the package name and the slot (slot `0` = no slot),
so an entry for another name or another slot is never touched -/
theorem entry_identifies_name_and_slot (k k' : Line) (s s' : Option Line) (hk : KeyOk k) (hk' : KeyOk k')
    (h : specEntry k s = specEntry k' s') : k = k' ∧ normSlot s = normSlot s' := by
  rw [specEntry_eq_normSlot, specEntry_eq_normSlot] at h
  cases h1 : normSlot s <;> cases h2 : normSlot s' <;> rw [h1, h2] at h <;> simp only at h
  · exact ⟨h, rfl⟩
  · exact absurd (h ▸ (by simp : ':' ∈ k' ++ ':' :: _)) hk.2
  · exact absurd (h ▸ (by simp : ':' ∈ k ++ ':' :: _)) hk'.2
  · have := append_sep_inj ':' _ _ _ _ hk.2 hk'.2 h
    exact ⟨this.1, by rw [this.2]⟩

example : KeyOk "dev-lang/python".toList := ⟨by decide +kernel, by decide +kernel⟩

/-- **`flush` replaces the file atomically**: at every crash point (every prefix of its file operations,
however the data is chunked) the world file is the old one or — only after the final rename — the
complete new one; no other file but the temp file is touched; a complete flush leaves the new content and
no temp file, from *any* starting state (so a stale temp file of an interrupted flush does not matter). -/
theorem flush_atomic (path : Name) (chunks : List (List Line)) (fs : Fs) (k : Nat) :
    let fs' := run ((flushOps path chunks).take k) fs
    (fs' path = fs path ∨ (fs' path = some chunks.flatten ∧ (flushOps path chunks).length ≤ k)) ∧
    (∀ q, q ≠ path → q ≠ tmpName path → fs' q = fs q) ∧
    ((flushOps path chunks).length ≤ k → fs' path = some chunks.flatten ∧ fs' (tmpName path) = none) := by
  intro fs'
  have hfull := run_flushOps path chunks fs
  have hlen : (flushOps path chunks).length = (preOps path chunks).length + 1 := List.length_append
  -- `flushOps_eq`: the operations are `preOps` and then the rename
  rcases Lib.take_concat_cases (preOps path chunks) (.rename (tmpName path) path) k with ⟨hk, ht⟩ | ⟨hk, ht⟩
  · -- before the rename only the temp file has been touched
    have hoff : ∀ q, q ≠ tmpName path → fs' q = fs q := fun q hq => by
      rw [show fs' = run ((preOps path chunks).take k) fs from congrArg (run · fs) ht]
      exact run_other _ q _ fs (fun op h => preOps_onlyOn path chunks op (List.mem_of_mem_take h)) hq
    exact ⟨Or.inl (hoff _ (tmpName_ne path).symm), fun q _ h2 => hoff q h2,
      fun h => absurd (Nat.le_trans (Nat.le_of_eq hlen.symm) (Nat.le_trans h hk)) (Nat.not_succ_le_self _)⟩
  · have hall : fs' = run (flushOps path chunks) fs := congrArg (run · fs) ht
    rw [hall]
    exact ⟨Or.inr ⟨hfull.1, Nat.le_trans (Nat.le_of_eq hlen) hk⟩, hfull.2.2, fun _ => ⟨hfull.1, hfull.2.1⟩⟩

example : (flushOps "world".toList [["a/b".toList], ["c/d".toList]]).length = 6 := by decide +kernel

/-- a failing flush (`f.discard()`) leaves the old file at every point and removes the temp file -/
theorem flush_discard_keeps_old (path : Name) (chunks : List (List Line)) (fs : Fs) (k : Nat) :
    run ((discardOps path chunks).take k) fs path = fs path ∧
    run (discardOps path chunks) fs (tmpName path) = none := by
  refine ⟨run_other _ path _ fs (fun op h => discardOps_onlyOn path chunks op (List.mem_of_mem_take h))
    (tmpName_ne path).symm, ?_⟩
  rw [discardOps_eq, run_append, run_cons, run_nil]
  simp only [step]
  exact upd_eq ..

/-- **`update_worldset` persists exactly the requested change**: starting from an instance in sync with its
file, the new in-memory set is the old one with the entry added/removed (a removal of an unrecorded entry:
nothing changes, no file operation at all), and a fresh parse of the file after the operations yields the
same set — at every crash point the fresh parse yields the old or the new set. -/
theorem update_worldset_persists (layout : World → List (List Line)) (hl : LayoutOk layout) (path : Name)
    (w : World) (fs : Fs) (r : Req) (hsync : Synced w fs path) (hr : ReqOk r) :
    let res := updateWorldset layout path w r
    (∀ e, e ∈ res.1 ↔ specApply (· ∈ w) r e) ∧ Synced res.1 (run res.2 fs) path ∧
    (modify w r = none → res.2 = []) ∧
    ∀ k, ∃ w'', readWorld (run (res.2.take k) fs) path = some w'' ∧
      ((∀ e, e ∈ w'' ↔ e ∈ w) ∨ (∀ e, e ∈ w'' ↔ e ∈ res.1)) := by
  intro res
  obtain ⟨ls, hls, hp⟩ := hsync.2.2
  obtain ⟨hm, hspec⟩ := applyReq_spec w r hsync.memOk hr
  have hold : readWorld fs path = some (parse ls) := by rw [readWorld, hls]; rfl
  -- `res` is `(applyReq w r, if modify w r = none then [] else flushOps path (layout (applyReq w r)))` up to `if false`
  have hres : res = _ := (updateWorldset_eq layout path w r).trans (updateWorldsetF_eq layout path w r false)
  rw [hres]
  by_cases hmod : modify w r = none
  · simp only [if_pos hmod]
    rw [applyReq_of_none hmod] at hspec ⊢
    exact ⟨hspec, hsync, fun _ => trivial, fun k => ⟨_, by rw [List.take_nil]; exact hold, Or.inl hp⟩⟩
  · simp only [if_neg hmod, Bool.false_eq_true, if_false]
    refine ⟨hspec, flush_resyncs layout hl path _ fs hm, fun h => absurd h hmod, fun k => ?_⟩
    rcases (flush_atomic path (layout (applyReq w r)) fs k).1 with h | ⟨h, _⟩
    · exact ⟨_, by rw [readWorld, h]; exact hold, Or.inl hp⟩
    · exact ⟨_, by rw [readWorld, h]; rfl, Or.inr (mem_parse_layout layout hl _ hm)⟩

/-- **any add/remove sequence with flushes** ends with exactly the entries the requests describe, in
memory and on disk -/
theorem update_sequence_exact (layout : World → List (List Line)) (hl : LayoutOk layout) (path : Name)
    (reqs : List Req) (w : World) (fs : Fs) (hsync : Synced w fs path) (hr : ∀ r ∈ reqs, ReqOk r) :
    let res := updateAll layout path w fs reqs
    Synced res.1 res.2 path ∧ ∀ e, e ∈ res.1 ↔ specApplyAll (· ∈ w) reqs e := by
  induction reqs generalizing w fs with
  | nil => exact ⟨hsync, fun _ => Iff.rfl⟩
  | cons r rs ih =>
    have h1 := update_worldset_persists layout hl path w fs r hsync (hr r List.mem_cons_self)
    have h2 := ih (updateWorldset layout path w r).1 (run (updateWorldset layout path w r).2 fs) h1.2.1
      (fun r' h => hr r' (List.mem_cons_of_mem _ h))
    simp only [updateAll, specApplyAll]
    refine ⟨h2.1, fun e => ?_⟩
    rw [h2.2 e, updateWorldset_eq, updateWorldsetF_fst, applyReq_set w r hsync.memOk (hr r List.mem_cons_self)]

example : (updateAll (fun w => [w]) "world".toList ["x/y".toList] (fun p => if p = "world".toList then some ["x/y".toList] else none)
    [.add "a/b".toList (some "10".toList), .remove "x/y".toList none, .remove "q/r".toList none]).1 = ["a/b:10".toList] := by
  decide +kernel

/-- the loop before the `fix:` commit handled the slot string character by character: adding `a/b:10`
recorded `a/b:1` and `a/b` instead of `a/b:10` -/
theorem unfixed_modify_counterexample :
    modifyUnfixedAdd [] "a/b".toList (some "10".toList) = ["a/b:1".toList, "a/b".toList] ∧
    modify [] (.add "a/b".toList (some "10".toList)) = some ["a/b:10".toList] := by decide +kernel

/-- **transient flush failures never cost an entry** (one long-lived `WorldFile`, any sequence of `update_worldset`
calls, any subset of their flushes failing): the in-memory set is always exactly what *all* requests so far
describe — a failed flush changes neither the file nor what the set remembers —, and as soon as one more
update succeeds, a fresh parse of the file is exactly that set: every entry nobody removed is still there,
including the ones whose re-add met the failure. -/
theorem failed_flush_never_loses_entries (layout : World → List (List Line)) (hl : LayoutOk layout) (path : Name)
    (reqs : List (Req × Bool)) (w : World) (fs : Fs) (hw : MemOk w) (hr : ∀ p ∈ reqs, ReqOk p.1) :
    let res := updateAllF layout path w fs reqs
    MemOk res.1 ∧ (∀ e, e ∈ res.1 ↔ specApplyAll (· ∈ w) (reqs.map (·.1)) e) ∧
    ∀ (r : Req), ReqOk r → modify res.1 r ≠ none →
      let fin := updateWorldsetF layout path res.1 r false
      Synced fin.1 (run fin.2 res.2) path ∧
      ∀ e, e ∈ fin.1 ↔ specApplyAll (· ∈ w) (reqs.map (·.1) ++ [r]) e := by
  induction reqs generalizing w fs with
  | nil =>
    refine ⟨hw, fun _ => Iff.rfl, fun r hrk hne => ?_⟩
    obtain ⟨hm, hs⟩ := applyReq_spec w r hw hrk
    have hne : modify w r ≠ none := hne  -- `(updateAllF … []).1` is `w`
    simp only [updateAllF, updateWorldsetF_eq, if_neg hne, Bool.false_eq_true, if_false]
    exact ⟨flush_resyncs layout hl path _ fs hm, hs⟩
  | cons p rs ih =>
    obtain ⟨r0, f0⟩ := p
    have hr0 : ReqOk r0 := hr (r0, f0) List.mem_cons_self
    have h := ih (applyReq w r0) (run (updateWorldsetF layout path w r0 f0).2 fs) (applyReq_spec w r0 hw hr0).1
      (fun q hq => hr q (List.mem_cons_of_mem _ hq))
    rw [applyReq_set w r0 hw hr0] at h
    simp only [updateAllF, List.map_cons, List.cons_append, specApplyAll]
    rw [updateWorldsetF_fst]
    exact h

/-- … and the failing flush itself leaves the file exactly as it was -/
theorem failed_flush_keeps_file (layout : World → List (List Line)) (path : Name) (w : World) (r : Req) (fs : Fs) :
    run (updateWorldsetF layout path w r true).2 fs path = fs path := by
  rw [updateWorldsetF_eq]
  show run (if modify w r = none then [] else _) fs path = fs path
  split
  · rfl
  · exact run_other _ path _ fs (discardOps_onlyOn path _) (tmpName_ne path).symm

example : (updateAllF (fun w => [w]) "world".toList ["x/y".toList, "a/b".toList]
      (fun p => if p = "world".toList then some ["x/y".toList, "a/b".toList] else none)
      [(.add "x/y".toList none, true), (.add "c/d".toList (some "1.2".toList), false)]).2 "world".toList
    = some ["x/y".toList, "a/b".toList, "c/d:1.2".toList] := by decide +kernel

end Pkgcore.C30
