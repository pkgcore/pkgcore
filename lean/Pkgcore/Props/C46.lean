import Pkgcore.Proofs.C46
/-!
# C46 — distfile cleaning never deletes a distfile that must be kept

`removed` mirrors the list of paths `pclean dist` hands to `os.remove`
(`_dist_validate_args` + file filters), `left` the distdir afterwards.
-/
namespace Pkgcore.C46
open Spec

/-- **only selected files that pass the filters are removed** — for every distdir, repository, installed set and
option combination -/
theorem removed_subset_targets (i : Input) (f : String) (h : f ∈ removed i) :
    selectedByTargets i f ∧ passesFilters i f := by
  obtain ⟨h1, h2, _, h4⟩ := (mem_removed i f).1 h
  exact ⟨⟨h1, fun hr => (mem_targetFiles hr).1 h2⟩, passesFilters_of_passes i f h4⟩

/-- **targets that match no package remove nothing**: a mistyped name, a version nobody provides, or a target that an
exclusion cancels again never falls back to "clean everything" -/
theorem no_targeted_package_removes_nothing (i : Input) (hr : i.opts.hasRestrict = true)
    (hnone : ∀ p ∈ i.repo, p.targeted = false) : removed i = [] := by
  refine List.eq_nil_iff_forall_not_mem.2 fun f hf => ?_
  obtain ⟨p, hp, ht⟩ := ((mem_targetFiles hr).1 ((mem_removed i f).1 hf).2.1).2
  rw [hnone p hp] at ht
  cases ht

/-- **a needed file is never removed**: with `--installed` no distfile of an installed package, with `--exists` no
distfile of any package in the repositories (with or without targets), with `--fetch-restricted` no distfile of a
fetch-restricted package, and no distfile of a package matched by an exclusion pattern -/
theorem never_removes_needed (i : Input) (f : String) (h : needed i f) : f ∉ removed i := by
  intro hr
  exact ((mem_removed i f).1 hr).2.2.1 (needed_saved i f h)

/-- exactly the removed files are gone -/
theorem left_exactly (i : Input) (f : String) : f ∈ left i ↔ f ∈ names i ∧ f ∉ removed i := by
  unfold left
  simp only [List.mem_filter, List.contains_eq_mem, Bool.not_eq_true', decide_eq_false_iff_not]

/-- … hence a needed file is still in the distdir afterwards -/
theorem needed_files_left (i : Input) (f : String) (hf : f ∈ names i) (h : needed i f) : f ∈ left i :=
  (left_exactly i f).2 ⟨hf, never_removes_needed i f h⟩

/-- the cleaning is not vacuous: every selected file that passes the filters and is not saved *is* removed -/
theorem removed_exactly (i : Input) (f : String) :
    f ∈ removed i ↔ f ∈ names i ∧ f ∈ targetFiles i ∧ f ∉ saving i ∧ passes i f = true :=
  mem_removed i f

def exInput : Input :=
  ⟨[⟨"foo-1.tar.gz", 10, 5⟩, ⟨"foo-bar-1.tar.gz", 10, 5⟩, ⟨"foo-0.9.tar.gz", 10, 5⟩, ⟨"big.iso", 10, 5000⟩],
   ["foo-1.tar.gz", "foo-bar-1.tar.gz", "foo-0.9.tar.gz"], [],
   [⟨["foo-1.tar.gz"], false, true, false, false⟩, ⟨["foo-bar-1.tar.gz"], false, false, false, false⟩],
   ⟨false, true, false, true, false, none, some 100⟩⟩

/-- `pclean dist cat/foo --exists --size 100B`: the stale `foo-0.9.tar.gz` is not needed, the distfile of the existing
ebuild `cat/foo-bar` — which the guessed pattern selects — is (this is the defect fixed in /repo) -/
example : needed exInput "foo-bar-1.tar.gz" ∧ "foo-0.9.tar.gz" ∈ names exInput ∧ ¬ needed exInput "foo-0.9.tar.gz" := by
  refine ⟨Or.inr (Or.inl ⟨rfl, ⟨["foo-bar-1.tar.gz"], false, false, false, false⟩, by simp [exInput], by simp⟩),
    by simp [exInput, names], ?_⟩
  rintro (⟨h, _⟩ | ⟨_, p, hp, hf⟩ | ⟨h, _⟩ | ⟨h, _⟩)
  · simp [exInput] at h
  · simp [exInput] at hp
    rcases hp with rfl | rfl <;> simp at hf
  · simp [exInput] at h
  · simp [exInput] at h

/-! ## Repositories containing packages whose metadata cannot be read (unparsable SRC_URI)

`run` / `leftAfter` are the whole command: argument validation, which raises `MetadataException` as soon as one of
its loops evaluates `.distfiles` of such a package (`aborts`), followed by `_remove`. -/

/-- **a needed file survives the command, whatever the repository contains**: also when some packages have unreadable
metadata, no distfile needed by an installed / existing / fetch-restricted / excluded package is gone afterwards —
the run either stops before removing anything or protects every package, it never carries on with part of them. -/
theorem needed_files_survive (i : Input) (f : String) (hf : f ∈ names i) (h : needed i f) : f ∈ leftAfter i := by
  rw [leftAfter_eq]
  split
  · exact hf
  · exact needed_files_left i f hf h

/-- whatever is removed was selected by the targets and passes the filters — also in such repositories -/
theorem run_removes_only_selected (i : Input) (r : List String) (hr : run i = some r) (f : String) (hf : f ∈ r) :
    selectedByTargets i f ∧ passesFilters i f := by
  obtain ⟨_, rfl⟩ := run_eq_some.1 hr
  exact removed_subset_targets i f hf

/-- **a package with unreadable metadata that the run has to look at stops the run before anything is removed** -/
theorem unreadable_metadata_removes_nothing (i : Input) (p : RepoPkg) (hp : p ∈ i.repo) (hb : p.broken = true)
    (ht : touched i p = true) : run i = none ∧ leftAfter i = names i := by
  have ha : aborts i = true := by
    unfold aborts
    rw [List.any_eq_true]
    exact ⟨p, hp, by simp [hb, ht]⟩
  rw [leftAfter_eq, run, ha]
  exact ⟨rfl, rfl⟩

/-- **… and when the run goes through, the distfiles of such packages were never read**: the outcome is that of the same
scenario with those lists blanked (so the needed sets of the packages that *can* be read are complete, not cut short
at the first unreadable one). -/
theorem unreadable_distfiles_never_read (i : Input) (r : List String) (hr : run i = some r) :
    run (visible i) = some r ∨ aborts (visible i) = true := by
  obtain ⟨ha, rfl⟩ := run_eq_some.1 hr
  cases hv : aborts (visible i) with
  | true => exact .inr rfl
  | false => exact .inl (run_eq_some.2 ⟨hv, removed_visible i ha⟩)

def exBroken : Input :=
  ⟨[⟨"other-1.tar.gz", 10, 5⟩, ⟨"keepme-1.tar.gz", 10, 5⟩, ⟨"stale-0.1.tar.gz", 10, 5⟩], [], [],
   [⟨["other-1.tar.gz"], false, false, false, false⟩, ⟨["abroken-1.tar.gz"], false, false, false, true⟩,
    ⟨["keepme-1.tar.gz"], false, false, false, false⟩],
   ⟨false, true, false, false, false, none, none⟩⟩

/-- `pclean dist --exists` on a repository with one unparsable ebuild: the run stops, all three files are left;
without `--exists` nobody looks at the package and the run goes through -/
example : run exBroken = none ∧ leftAfter exBroken = ["other-1.tar.gz", "keepme-1.tar.gz", "stale-0.1.tar.gz"] := by
  decide +kernel
example : (run { exBroken with opts := ⟨false, false, false, false, false, none, none⟩ }).isSome = true := by
  decide +kernel

end Pkgcore.C46
