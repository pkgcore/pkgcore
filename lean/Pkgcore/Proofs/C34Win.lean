import Pkgcore.Spec.C34
/-!
What the scanner writes, and what its scope loop keeps about it; no walker and no fuel in it.

*Groundwork.*  What `flushWindow` and `finishScope` do to a state, and the algebra of `emitted`, `removeFrom` and
`filteredRegions`.

*What the scope loop keeps.*  `Written` says what the windows so far are; `InvN` and `InvS` carry its fields for a state
without and with a pending window.  `Scope` is the common shape of the loop's assertions — the statements reported are
`StmtOk`, and in the top-level scope (`Top`) a window invariant holds — with `Head`, `Mid` and `Fin` its three
instances; `Head.flush`, `Mid.plain`, `Mid.stmt` and `Head.finish` are the steps of the body.
-/
namespace Pkgcore.C34
open Pkgcore.C34.Spec

theorem flushWindow_pos (emit : Bool) (s : ScopeState) : (flushWindow emit s).pos = s.pos := by
  unfold flushWindow; split <;> rfl

theorem finishScope_pos (emit : Bool) (b : Buf) (e : Char) (s : ScopeState) : (finishScope emit b e s).pos = s.pos := by
  unfold finishScope; split <;> rfl

theorem flushWindow_stmts (emit : Bool) (s : ScopeState) : (flushWindow emit s).stmts = s.stmts := by
  unfold flushWindow; split <;> rfl

theorem finishScope_stmts (emit : Bool) (b : Buf) (e : Char) (s : ScopeState) :
    (finishScope emit b e s).stmts = s.stmts := by
  unfold finishScope; split <;> rfl

/-- with the sentinel in place, `finishScope`'s correction for a walker that ran past it is a `min` with `len - 1` -/
theorem finishScope_emit (b : Buf) (e : Char) (s : ScopeState) (hsent : b[b.length - 1]? = some e) :
    finishScope true b e s =
      ⟨s.pos, s.windows ++ [(s.windowStart, min (s.windowEnd.getD s.pos) (b.length - 1))], s.stmts⟩ := by
  have hlen : b.length ≠ 0 := by have := (List.getElem?_eq_some_iff.1 hsent).1; omega
  unfold finishScope
  simp only [if_true, hlen, ne_eq, not_false_eq_true, hsent, and_self, and_true]
  congr 3
  refine congrArg _ ?_
  split <;> omega

/-- the text that writing the windows `ws` gives (`mainRun`'s output) -/
def emitted (b : Buf) (ws : List (Nat × Nat)) : List Char := (ws.map fun w => slice b w.1 w.2).flatten

theorem emitted_append (b : Buf) (ws : List (Nat × Nat)) (w : Nat × Nat) :
    emitted b (ws ++ [w]) = emitted b ws ++ slice b w.1 w.2 := by
  simp [emitted]

theorem take_eq_take_append_slice (b : Buf) (i j : Nat) (h : i ≤ j) : b.take j = b.take i ++ slice b i j := by
  unfold slice
  have : b.take i = (b.take j).take i := by rw [List.take_take, Nat.min_eq_left h]
  rw [this, List.take_append_drop]

theorem inRegions_false_of_before (R : List (Nat × Nat)) (j : Nat) (h : ∀ r ∈ R, r.2 ≤ j) :
    inRegions R j = false := by
  unfold inRegions
  rw [List.any_eq_false]
  intro r hr
  have := h r hr
  simp; omega

/-- `removeFrom` numbers the characters and filters on the number: its lemmas are those of `zipIdx` and `filter` -/
theorem removeFrom_eq (R : List (Nat × Nat)) (l : List Char) (i : Nat) :
    removeFrom R i l = ((l.zipIdx i).filter fun cj => !inRegions R cj.2).map Prod.fst := by
  induction l generalizing i with
  | nil => rfl
  | cons c cs ih => cases h : inRegions R i <;> simp [removeFrom, List.zipIdx_cons, h, ih]

theorem removeFrom_append (R : List (Nat × Nat)) (l1 l2 : List Char) (i : Nat) :
    removeFrom R i (l1 ++ l2) = removeFrom R i l1 ++ removeFrom R (i + l1.length) l2 := by
  simp [removeFrom_eq, List.zipIdx_append]

theorem removeFrom_congr (R R' : List (Nat × Nat)) (l : List Char) (i : Nat)
    (h : ∀ j, i ≤ j → j < i + l.length → inRegions R j = inRegions R' j) : removeFrom R i l = removeFrom R' i l := by
  rw [removeFrom_eq, removeFrom_eq]
  exact congrArg _ (List.filter_congr fun cj hc => by rw [h _ (List.mem_zipIdx hc).1 (List.mem_zipIdx hc).2.1])

theorem removeFrom_whole (R : List (Nat × Nat)) (l : List Char) (v : Bool) (i : Nat)
    (h : ∀ j, i ≤ j → j < i + l.length → inRegions R j = v) : removeFrom R i l = if v then [] else l := by
  have hb : ∀ cj ∈ l.zipIdx i, inRegions R cj.2 = v := fun cj hc =>
    h _ (List.mem_zipIdx hc).1 (List.mem_zipIdx hc).2.1
  rw [removeFrom_eq]
  cases v
  · rw [List.filter_eq_self.2 fun cj hc => by rw [hb cj hc]; rfl, List.zipIdx_map_fst]; rfl
  · rw [List.filter_eq_nil_iff.2 fun cj hc => by simp [hb cj hc]]; rfl

theorem removeFrom_subset (R : List (Nat × Nat)) (l : List Char) (i : Nat) (c : Char) (h : c ∈ removeFrom R i l) :
    c ∈ l := by
  rw [removeFrom_eq] at h
  obtain ⟨cj, hc, rfl⟩ := List.mem_map.1 h
  exact List.fst_mem_of_mem_zipIdx (List.mem_filter.1 hc).1

/-- the scanned prefix grows from `i` to `j`, a stretch that `R'` keeps (`v = false`) or drops (`v = true`) whole -/
theorem removeFrom_take (R R' : List (Nat × Nat)) (b : Buf) (i j : Nat) (v : Bool) (hij : i ≤ j)
    (hlo : ∀ k, k < i → inRegions R' k = inRegions R k) (hhi : ∀ k, i ≤ k → k < j → inRegions R' k = v) :
    removeFrom R' 0 (b.take j) = removeFrom R 0 (b.take i) ++ if v then [] else slice b i j := by
  rw [take_eq_take_append_slice b i j hij, removeFrom_append]
  have hl : (b.take i).length ≤ i := List.length_take_le _ _
  -- past the end of `b` the stretch is empty
  have hs : (slice b i j).length ≤ j - i ∧ ((b.take i).length < i → (slice b i j).length = 0) := by
    unfold slice; simp only [List.length_drop, List.length_take]; omega
  congr 1
  · exact removeFrom_congr _ _ _ _ fun k _ hk => hlo k (by omega)
  · exact removeFrom_whole _ _ v _ fun k hk1 hk2 => hhi k (by omega) (by omega)

theorem filteredRegions_append (stmts : List Stmt) (st : Stmt) :
    filteredRegions (stmts ++ [st]) =
      if st.filtered then filteredRegions stmts ++ [(st.start, st.stop)] else filteredRegions stmts := by
  unfold filteredRegions
  by_cases h : st.filtered = true <;> simp [List.filter_append, h]

/-- the windows `ws` written so far are pieces of `b` before `q`, in order, and make up the first `q` characters minus
the regions `R` -/
structure Written (b : Buf) (ws R : List (Nat × Nat)) (q : Nat) : Prop where
  text : emitted b ws = removeFrom R 0 (b.take q)
  wins : ∀ w ∈ ws, w.1 ≤ w.2 ∧ w.2 ≤ q
  pw : ws.Pairwise (fun w1 w2 => w1.2 ≤ w2.1)

/-- no window pending: everything up to `windowStart` has been written, minus the filtered regions -/
structure InvN (b : Buf) (s : ScopeState) : Prop where
  wend : s.windowEnd = none
  before : ∀ r ∈ filteredRegions s.stmts, r.2 ≤ s.windowStart
  text : emitted b s.windows = removeFrom (filteredRegions s.stmts) 0 (b.take s.windowStart)
  wsle : s.windowStart ≤ b.length - 1
  wspos : s.windowStart ≤ s.pos
  wins : ∀ w ∈ s.windows, w.1 ≤ w.2 ∧ w.2 ≤ s.windowStart
  pw : s.windows.Pairwise (fun w1 w2 => w1.2 ≤ w2.1)

/-- a filtered statement `[w, pos)` has just been scanned, `R'` are the regions filtered before it; the window
`[windowStart, w)` is pending -/
structure InvS (b : Buf) (s : ScopeState) (w : Nat) (R' : List (Nat × Nat)) : Prop where
  wend : s.windowEnd = some w
  regs : filteredRegions s.stmts = R' ++ [(w, s.pos)]
  before : ∀ r ∈ R', r.2 ≤ s.windowStart
  text : emitted b s.windows = removeFrom R' 0 (b.take s.windowStart)
  wsw : s.windowStart ≤ w
  wpos : w ≤ s.pos
  wlt : w < b.length - 1
  wins : ∀ x ∈ s.windows, x.1 ≤ x.2 ∧ x.2 ≤ s.windowStart
  pw : s.windows.Pairwise (fun w1 w2 => w1.2 ≤ w2.1)

theorem Written.snoc {b : Buf} {ws R : List (Nat × Nat)} {a c : Nat} (h : Written b ws R a) (hR : ∀ r ∈ R, r.2 ≤ a)
    (hac : a ≤ c) : Written b (ws ++ [(a, c)]) R c := by
  refine ⟨?_, ?_, ?_⟩
  · rw [emitted_append, h.text, removeFrom_take R R b a c false hac (fun _ _ => rfl) fun k hk _ =>
      inRegions_false_of_before R k fun r hr => Nat.le_trans (hR r hr) hk]
    rfl
  · intro x hx
    rcases List.mem_append.1 hx with hx | hx
    · have := h.wins x hx; omega
    · rw [List.mem_singleton.1 hx]; exact ⟨hac, Nat.le_refl _⟩
  · refine List.pairwise_append.2 ⟨h.pw, List.pairwise_singleton _ _, fun x hx y hy => ?_⟩
    rw [List.mem_singleton.1 hy]; exact (h.wins x hx).2

/-- scanning on to `q` inside a new filtered region `[w, p)` writes nothing -/
theorem Written.region {b : Buf} {ws R : List (Nat × Nat)} {w p q : Nat} (h : Written b ws R w) (hwq : w ≤ q)
    (hqp : q ≤ p) : Written b ws (R ++ [(w, p)]) q := by
  refine ⟨?_, fun x hx => by have := h.wins x hx; omega, h.pw⟩
  rw [h.text, removeFrom_take R (R ++ [(w, p)]) b w q true hwq
    (fun k hk => by simp [inRegions, Nat.not_le.2 hk])
    (fun k h1 h2 => by simp [inRegions, h1, Nat.lt_of_lt_of_le h2 hqp])]
  simp

theorem InvS.written {b : Buf} {s : ScopeState} {w : Nat} {R' : List (Nat × Nat)} (hs : InvS b s w R') {q : Nat}
    (hwq : w ≤ q) (hq : q ≤ s.pos) : Written b (s.windows ++ [(s.windowStart, w)]) (filteredRegions s.stmts) q := by
  rw [hs.regs]
  exact ((Written.mk hs.text hs.wins hs.pw).snoc hs.before hs.wsw).region hwq hq

theorem InvN.plain {b : Buf} {s : ScopeState} {p : Nat} {stmts : List Stmt} (hn : InvN b s) (hp : s.pos ≤ p)
    (hst : filteredRegions stmts = filteredRegions s.stmts) :
    InvN b { s with pos := p, stmts := stmts } :=
  ⟨hn.wend, by simpa [hst] using hn.before, by simpa [hst] using hn.text, hn.wsle,
    by have := hn.wspos; dsimp only; omega, hn.wins, hn.pw⟩

/-- of a reported statement; its name has no newline because the matchers built from patterns are specified on such
names only -/
def StmtOk (vm fm : Option (List Char → Bool)) (st : Stmt) : Prop :=
  st.filtered = applyMatch (if st.isFunc then fm else vm) st.name ∧ st.start ≤ st.stop ∧ '\n' ∉ st.name

/-- the scope is the top-level one: it writes, and its end character is the sentinel, which stands nowhere else (and is
not the `=` of an assignment) -/
structure Top (emit : Bool) (b : Buf) (e : Char) : Prop where
  writes : emit = true
  sent : b[b.length - 1]? = some e
  ne : e ≠ '='
  only : ∀ i, i < b.length - 1 → b[i]? ≠ some e

section
variable (emit : Bool) (b : Buf) (vm fm : Option (List Char → Bool)) (e : Char)

/-- what the scope loop keeps; `P` is the window invariant of the state, asked for in the top-level scope only -/
def Scope (stmts : List Stmt) (P : Prop) : Prop := (∀ st ∈ stmts, StmtOk vm fm st) ∧ (Top emit b e → P)

/-- at the top of the loop body -/
abbrev Head (s : ScopeState) : Prop := Scope emit b vm fm e s.stmts (InvN b s ∨ ∃ w R', InvS b s w R')

/-- after the flush, at a character that does not end the scope -/
abbrev Mid (s : ScopeState) : Prop := Scope emit b vm fm e s.stmts (InvN b s ∧ s.pos < b.length - 1)

/-- of the result: what was written is the text before the sentinel minus the filtered regions -/
abbrev Fin (r : ScopeResult) : Prop :=
  Scope emit b vm fm e r.stmts (Written b r.windows (filteredRegions r.stmts) (b.length - 1))
end

section
variable {emit : Bool} {b : Buf} {vm fm : Option (List Char → Bool)} {e : Char} {stmts : List Stmt} {P P' : Prop}
  {s : ScopeState}

theorem Scope.imp (h : Scope emit b vm fm e stmts P) (hP : Top emit b e → P → P') : Scope emit b vm fm e stmts P' :=
  ⟨h.1, fun T => hP T (h.2 T)⟩

theorem Scope.snoc {st : Stmt} (h : Scope emit b vm fm e stmts P) (hst : StmtOk vm fm st) (hP : Top emit b e → P → P') :
    Scope emit b vm fm e (stmts ++ [st]) P' :=
  ⟨fun x hx => (List.mem_append.1 hx).elim (h.1 x) fun hx => List.mem_singleton.1 hx ▸ hst, fun T => hP T (h.2 T)⟩

theorem Top.before_end {i : Nat} {ch : Char} (T : Top emit b e) (h : b[i]? = some ch) (hne : ch ≠ e) :
    i < b.length - 1 := by
  have := (List.getElem?_eq_some_iff.1 h).1
  refine Nat.lt_of_le_of_ne (by omega) fun heq => hne ?_
  rw [heq, T.sent] at h
  exact (Option.some.inj h).symm

/-- a scope started at 0 only: one started further right does not write the text before its first window -/
theorem head_init : Head emit b vm fm e ⟨0, 0, none, [], []⟩ :=
  ⟨by simp, fun _ => .inl ⟨rfl, by simp [filteredRegions], by simp [emitted, filteredRegions, removeFrom], by simp,
    by simp, by simp, by simp⟩⟩

theorem Head.finish (h : Head emit b vm fm e s) (hend : b[s.pos]? = none ∨ b[s.pos]? = some e) :
    Fin emit b vm fm e (finishScope emit b e s) := by
  unfold Fin
  rw [finishScope_stmts]
  refine h.imp fun T hinv => ?_
  -- the scope ends at the sentinel, all of the text has been scanned
  have hpos : b.length - 1 ≤ s.pos := by
    rcases hend with h | h
    · have := List.getElem?_eq_none_iff.1 h; omega
    · exact Nat.le_of_not_lt fun hl => T.only s.pos hl h
  have := T.writes
  subst this
  rw [finishScope_emit b e s T.sent]
  rcases hinv with hn | ⟨w, R', hs⟩
  · rw [hn.wend, Option.getD_none, Nat.min_eq_right hpos]
    exact (Written.mk hn.text hn.wins hn.pw).snoc hn.before hn.wsle
  · have := hs.wlt
    rw [hs.wend, Option.getD_some, Nat.min_eq_left (by omega)]
    exact hs.written (by omega) hpos

theorem Head.flush {ch : Char} (h : Head emit b vm fm e s) (hc : b[s.pos]? = some ch) (hne : ch ≠ e) :
    Mid emit b vm fm e (flushWindow emit s) := by
  unfold Mid
  rw [flushWindow_stmts, flushWindow_pos]
  refine h.imp fun T hinv => ?_
  have hpos := T.before_end hc hne
  have := T.writes
  subst this
  rcases hinv with hn | ⟨w, R', hs⟩
  · have : flushWindow true s = s := by unfold flushWindow; rw [hn.wend]
    rw [this]; exact ⟨hn, hpos⟩
  · have hf : flushWindow true s =
        { s with windows := s.windows ++ [(s.windowStart, w)], windowStart := s.pos, windowEnd := none } := by
      unfold flushWindow; rw [hs.wend]; simp
    have W := hs.written hs.wpos (Nat.le_refl _)
    rw [hf]
    refine ⟨⟨rfl, ?_, W.text, by dsimp only; omega, Nat.le_refl _, W.wins, W.pw⟩, hpos⟩
    intro r hr
    rw [hs.regs] at hr
    rcases List.mem_append.1 hr with hr | hr
    · have := hs.before r hr
      have := hs.wsw
      have := hs.wpos
      dsimp only
      omega
    · rw [List.mem_singleton.1 hr]; exact Nat.le_refl _

theorem Mid.plain {p : Nat} (h : Mid emit b vm fm e s) (hp : s.pos ≤ p) : Head emit b vm fm e { s with pos := p } :=
  h.imp fun _ hn => .inl (hn.1.plain hp rfl)

theorem Mid.stmt {p : Nat} (h : Mid emit b vm fm e s) (isFunc : Bool) (name : List Char) (hp : s.pos ≤ p)
    (hname : '\n' ∉ name) :
    Head emit b vm fm e { s with
      pos := p, windowEnd := if applyMatch (if isFunc then fm else vm) name then some s.pos else s.windowEnd,
      stmts := s.stmts ++ [⟨isFunc, s.pos, p, name, applyMatch (if isFunc then fm else vm) name⟩] } := by
  refine h.snoc ⟨rfl, hp, hname⟩ fun _ ⟨hn, hlt⟩ => ?_
  cases hf : applyMatch (if isFunc then fm else vm) name with
  | false => exact .inl (hn.plain hp (by simp [filteredRegions_append]))
  | true =>
    refine .inr ⟨s.pos, filteredRegions s.stmts, rfl, ?_, hn.before, hn.text, hn.wspos, hp, hlt, hn.wins, hn.pw⟩
    simp only [filteredRegions_append, if_true]
end

end Pkgcore.C34
