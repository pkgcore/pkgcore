import Pkgcore.Proofs.C27
/-!
# C27 — metadata cache entries round-trip and are replaced atomically

The property theorems, then a sample entry and a crashed store as test vectors.  `renderEntry`/`parseEntry` mirror
`cache[cpv] = values` (`base.__setitem__`, `deconstruct_eclasses`, the text `_setitem` writes) and `cache[cpv]`
(`_getitem`, `_parse_data`, `reconstruct_eclasses`) for both layouts; `storeOps` is the operation list of
`flat_hash._setitem`, `keys` the directory walk of `flat_hash.keys` (`Model/C27.lean`).
-/
namespace Pkgcore.C27
open Pkgcore.C24 Pkgcore.C27.Spec

/-- **round trip**: for both layouts and every metadata dict of the domain (any number of keys,
known or not, single-line values with any blanks, any eclass list), reading the stored text returns the
same known keys and values, the inherited-eclass data in order and the validation mtime/checksum. -/
theorem cache_roundtrip (k : Kind) (e : Entry) (hd : Dom k e) :
    ∃ r, parseEntry k (renderEntry k e) = .ok r ∧ SameEntry r (expected k e) :=
  parseEntry_render k e hd

/-- **a store is crash safe**: at every crash point of `cache[cpv] = values` the entry path holds
its previous content or the complete new text (so a reader gets the previous entry — or the previous
absence — or the new entry), and no other entry changes. -/
theorem store_crash_safe (kind : Kind) (e : Entry) (hd : Dom kind e) (fs : Fs) (pid cpv : Str) (gid : Int)
    (mkdirs chunks : List Str) (hpid : '/' ∉ pid) (hc : chunks.flatten = renderEntry kind e) (k : Nat) :
    let fs' := run ((storeOps pid cpv gid mkdirs chunks).take k) fs
    (fs'.read cpv = fs.read cpv ∨ fs'.read cpv = some (renderEntry kind e)) ∧
    (getItem kind fs' cpv = getItem kind fs cpv ∨
      ∃ r, getItem kind fs' cpv = .ok r ∧ SameEntry r (expected kind e)) ∧
    (∀ q, q ≠ tmpOf pid cpv → q ≠ cpv → fs'.read q = fs.read q) := by
  intro fs'
  have hmain := storeOps_atomic fs pid cpv gid mkdirs chunks hpid
  rw [hc] at hmain
  refine ⟨hmain.oldOrNew k, ?_, hmain.frame k⟩
  obtain ⟨r, hr, hs⟩ := cache_roundtrip kind e hd
  exact (hmain.oldOrNew k).imp getItem_congr fun h => ⟨r, (getItem_of_read h).trans hr, hs⟩

/-- **listing never reports a partial entry**: at every crash point every name `keys()` yields is
either a previously listed entry with unchanged content or the stored `cpv` with its complete new
text; in particular the temporary file is never listed. -/
theorem keys_never_partial (kind : Kind) (e : Entry) (fs : Fs) (pid cpv : Str) (gid : Int)
    (mkdirs chunks : List Str) (hpid : '/' ∉ pid) (hc : chunks.flatten = renderEntry kind e) (k : Nat) :
    let fs' := run ((storeOps pid cpv gid mkdirs chunks).take k) fs
    ∀ p ∈ keys fs', (p ∈ keys fs ∧ fs'.read p = fs.read p) ∨ (p = cpv ∧ fs'.read p = some (renderEntry kind e)) := by
  intro fs' p hp
  have hmain := storeOps_atomic fs pid cpv gid mkdirs chunks hpid
  rw [hc] at hmain
  obtain ⟨hsome, hok⟩ := (mem_keys fs' p).mp hp
  have back : fs'.read p = fs.read p → p ∈ keys fs := fun h => (mem_keys fs p).mpr ⟨h ▸ hsome, hok⟩
  by_cases h1 : p = tmpOf pid cpv
  · subst h1
    rw [tmpOf_not_listed pid cpv hpid] at hok
    cases hok
  · by_cases h2 : p = cpv
    · subst h2
      rcases hmain.oldOrNew k with h | h
      · exact Or.inl ⟨back h, h⟩
      · exact Or.inr ⟨rfl, h⟩
    · have h := hmain.frame k p h1 h2
      exact Or.inl ⟨back h, h⟩

/-- a completed store: the entry is there, reads back, is listed, and the temporary file is gone -/
theorem store_completes (kind : Kind) (e : Entry) (hd : Dom kind e) (fs : Fs) (pid cpv : Str) (gid : Int)
    (mkdirs chunks : List Str) (hpid : '/' ∉ pid) (hc : chunks.flatten = renderEntry kind e)
    (hname : ListedName cpv) :
    let fs' := run (storeOps pid cpv gid mkdirs chunks) fs
    (∃ r, getItem kind fs' cpv = .ok r ∧ SameEntry r (expected kind e)) ∧
    cpv ∈ keys fs' ∧ fs'.read (tmpOf pid cpv) = none := by
  intro fs'
  have hfin := storeOps_atomic fs pid cpv gid mkdirs chunks hpid
  rw [hc] at hfin
  obtain ⟨r, hr, hs⟩ := cache_roundtrip kind e hd
  exact ⟨⟨r, (getItem_of_read hfin.final).trans hr, hs⟩,
    (mem_keys fs' cpv).mpr ⟨by rw [show fs'.read cpv = _ from hfin.final]; rfl, hname⟩, hfin.gone⟩

/-- **a store that fails keeps the previous entry**: whichever os-level call of the store reports an error
(or the rendering raises) and whether or not the temp file gets cleaned up, at every point of what `_setitem`
then does every path other than the temp file is unchanged — so `cache[cpv]` still returns the previous
complete entry (or is still absent) and `keys()` lists exactly what it listed before. -/
theorem store_failure_keeps_old (kind : Kind) (fs : Fs) (pid cpv : Str) (gid : Int) (mkdirs chunks : List Str)
    (hpid : '/' ∉ pid) (k : Nat) (cleanup : Bool) (n : Nat) :
    let fs' := run ((failedStoreOps pid cpv gid mkdirs chunks k cleanup).take n) fs
    (∀ q, q ≠ tmpOf pid cpv → fs'.read q = fs.read q) ∧
    getItem kind fs' cpv = getItem kind fs cpv ∧
    (∀ p, p ∈ keys fs' ↔ p ∈ keys fs) := by
  intro fs'
  have hun : ∀ q, q ≠ tmpOf pid cpv → fs'.read q = fs.read q := fun q hq =>
    run_within _ _ (failedStoreOps_within pid cpv gid mkdirs chunks k cleanup) fs q hq n
  refine ⟨hun, ?_, ?_⟩
  · exact getItem_congr (hun cpv (tmpOf_ne pid cpv hpid).symm)
  · intro p
    rw [mem_keys, mem_keys]
    by_cases hp : p = tmpOf pid cpv
    · subst hp
      rw [tmpOf_not_listed pid cpv hpid]
      simp
    · rw [hun p hp]

/-- for the `decide`s in the examples below: core has no `DecidableEq (Except ε α)` -/
instance exceptDecEq {ε α : Type} [DecidableEq ε] [DecidableEq α] : DecidableEq (Except ε α) := fun a b =>
  match a, b with
  | .ok x, .ok y => if h : x = y then isTrue (by rw [h]) else isFalse (fun e => h (by cases e; rfl))
  | .error x, .error y => if h : x = y then isTrue (by rw [h]) else isFalse (fun e => h (by cases e; rfl))
  | .ok _, .error _ => isFalse (fun e => by cases e)
  | .error _, .ok _ => isFalse (fun e => by cases e)

def exampleEntry : Entry :=
  ⟨[("DESCRIPTION".toList, "foo bar ".toList), ("SLOT".toList, " 0".toList), ("EAPI".toList, []),
    ("UNKNOWN".toList, "x".toList), ("DEPEND".toList, "a=b".toList)], 1700000000,
   some [⟨"eutils".toList, "/repo/eclass".toList, 5⟩, ⟨"flag-o".toList, "/o/e class".toList, 7⟩]⟩

example : Dom .flat exampleEntry ∧ Dom .md5 exampleEntry := by
  have hk : ∀ k, Dom k exampleEntry := fun k => by
    refine ⟨by decide +kernel, ?_, ?_, fun _ => by decide +kernel, fun es hes => ?_⟩
    · cases k <;> (unfold singleLine; decide +kernel)
    · unfold singleLine; decide +kernel
    · cases hes
      cases k <;> (unfold singleLine; decide +kernel)
  exact ⟨hk _, hk _⟩

example : parseEntry .md5 (renderEntry .md5 ⟨[("SLOT".toList, " 0 ".toList), ("X".toList, "y".toList)], 171, some [⟨"eu".toList, "/e".toList, 5⟩]⟩)
    = .ok ⟨[("SLOT".toList, " 0 ".toList)], 171, some [⟨"eu".toList, [], 5⟩]⟩ := by decide +kernel

def crashedFs : Fs :=
  run ((storeOps "77".toList "cat/pkg-1".toList 250 [] ["SLOT=0\n".toList, "_mtime_=2\n".toList]).take 2)
    [("cat/pkg-1".toList, "_mtime_=1\n".toList)]

/-- crash after the first chunk reached the temp file: the old entry is read, the temp file is not listed -/
example : keys crashedFs = ["cat/pkg-1".toList] ∧ getItem .flat crashedFs "cat/pkg-1".toList = .ok ⟨[], 1, none⟩ ∧
    crashedFs.read "cat/.update.77.pkg-1".toList = some "SLOT=0\n".toList := by decide +kernel

end Pkgcore.C27
