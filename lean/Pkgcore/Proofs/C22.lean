import Pkgcore.Proofs.C22Path
/-! The contents set over the paths of `Proofs/C22Path`: as a map, the ancestor climb of `add_missing_directories`, one
call on the heap of objects. -/
namespace Pkgcore.C22
open Pkgcore.C22.Spec

/-! Maps: the dict as a list and the map `abs c` it denotes; every in-place method is a loop of `d[k] = v` / `del d[k]`
steps, which `abs_foldl` carries to maps and `WF_foldl` to the invariant. -/

def abs (c : CSet) : Map := fun p => lookup c p

/-- representation invariant of a contents set: one entry per key, every location normalised
(`fsBase.__init__` normalises; every insertion is keyed by `obj.location`) -/
def WF (c : CSet) : Prop := (c.map (·.loc)).Nodup ∧ ∀ e ∈ c, Normal e.loc

/-- entries handed in as arguments are real `fsBase` objects: their location is normalised -/
def ArgsWF (l : List Arg) : Prop := ∀ e, Arg.ent e ∈ l → Normal e.loc

theorem mkEntry_normal (raw : Path) (k t : Nat) : Normal (mkEntry raw k t).loc := normpath_idem raw

theorem lookup_nil (p : Path) : lookup [] p = none := rfl

theorem lookup_cons (x : Entry) (xs : CSet) (p : Path) :
    lookup (x :: xs) p = if x.loc = p then some x else lookup xs p := by
  simp only [lookup, List.find?_cons]
  by_cases h : x.loc = p <;> simp [h]

theorem lookup_some {c : CSet} {p : Path} {e : Entry} (h : lookup c p = some e) : e ∈ c ∧ e.loc = p :=
  ⟨List.mem_of_find?_eq_some h, by simpa using List.find?_some h⟩

theorem lookup_eq_none {c : CSet} {p : Path} : lookup c p = none ↔ ∀ e ∈ c, e.loc ≠ p := by
  simp [lookup, List.find?_eq_none]

theorem hasKey_false_iff {c : CSet} {p : Path} : hasKey c p = false ↔ ∀ e ∈ c, e.loc ≠ p := by
  rw [← lookup_eq_none]
  unfold hasKey
  cases lookup c p <;> simp

theorem hasKey_iff {c : CSet} {p : Path} : hasKey c p = true ↔ ∃ e ∈ c, e.loc = p := by
  rw [← Bool.not_eq_false, hasKey_false_iff]
  simp

theorem lookup_filter (f : Path → Bool) (c : CSet) (p : Path) :
    lookup (c.filter (fun x => f x.loc)) p = if f p then lookup c p else none :=
  Lib.find?_filter_of_imp (fun x hx => by rw [of_decide_eq_true hx]) c

theorem lookup_dictDel (c : CSet) (k p : Path) :
    lookup (dictDel c k) p = if p = k then none else lookup c p := by
  rw [dictDel, lookup_filter (fun q => decide (q ≠ k)) c p]
  by_cases h : p = k <;> simp [h]

theorem abs_dictSet (c : CSet) (e : Entry) : abs (dictSet c e) = (abs c).insert e :=
  funext (Lib.find?_set dictSet (fun _ => rfl) (fun _ _ _ => rfl) c e)

theorem abs_dictDel (c : CSet) (k : Path) : abs (dictDel c k) = (abs c).erase k :=
  funext fun p => lookup_dictDel c k p

theorem abs_foldl {α : Type} {f : CSet → α → CSet} {g : Map → α → Map} (h : ∀ c a, abs (f c a) = g (abs c) a)
    (l : List α) (c : CSet) : abs (l.foldl f c) = l.foldl g (abs c) :=
  (List.foldl_hom abs fun c a => (h c a).symm).symm

theorem abs_update (c : CSet) (l : List Entry) : abs (update c l) = Map.insertAll (abs c) l :=
  abs_foldl abs_dictSet l c

theorem abs_ofList (l : List Entry) : abs (ofList l) = Map.ofList l := abs_update [] l

theorem insertAll_cons (m : Map) (e : Entry) (l : List Entry) :
    Map.insertAll m (e :: l) = Map.insertAll (m.insert e) l := rfl

theorem insertAll_apply (m : Map) (l : List Entry) (p : Path) :
    Map.insertAll m l p = (Map.ofList l p).or (m p) := by
  induction l generalizing m with
  | nil => rfl
  | cons e es ih =>
    rw [Map.ofList, insertAll_cons, insertAll_cons, ih, ih (Map.empty.insert e), Option.or_assoc]
    congr 1
    unfold Map.insert
    split <;> rfl

theorem ofList_map (f : Path → Entry) (l : List Path) (hf : ∀ y ∈ l, (f y).loc = y) (p : Path) :
    Map.ofList (l.map f) p = if p ∈ l then some (f p) else none := by
  induction l with
  | nil => rfl
  | cons y ys ih =>
    rw [List.map_cons, Map.ofList, insertAll_cons, insertAll_apply, ih fun z hz => hf z (List.mem_cons_of_mem _ hz),
      Map.insert, hf y List.mem_cons_self]
    by_cases hp : p ∈ ys
    · rw [if_pos hp, if_pos (List.mem_cons_of_mem _ hp)]; rfl
    · rw [if_neg hp]
      by_cases hy : p = y
      · rw [if_pos hy, if_pos (hy ▸ List.mem_cons_self), hy]; rfl
      · rw [if_neg hy, if_neg (by simp [hp, hy])]; rfl

theorem update_fresh (c : CSet) (l : List Entry) (h : ((c ++ l).map (·.loc)).Nodup) : update c l = c ++ l :=
  Lib.foldl_fresh (·.loc) (fun _ _ => Lib.set_fresh dictSet (fun _ => rfl) fun _ _ _ => rfl) l c h

theorem ofList_self (c : CSet) (h : (c.map (·.loc)).Nodup) : ofList c = c := by
  rw [ofList, update_fresh [] c h, List.nil_append]

theorem foldl_erase_apply {α : Type} (k : α → Path) (l : List α) (m : Map) (p : Path) :
    l.foldl (fun m a => m.erase (k a)) m p = if ∃ a ∈ l, k a = p then none else m p := by
  induction l generalizing m with
  | nil => simp
  | cons a as ih =>
    rw [List.foldl_cons, ih]
    by_cases h : ∃ b ∈ as, k b = p
    · rw [if_pos h, if_pos (h.imp fun b hb => ⟨List.mem_cons_of_mem _ hb.1, hb.2⟩)]
    · rw [if_neg h, Map.erase]
      by_cases hp : p = k a
      · rw [if_pos hp, if_pos ⟨a, List.mem_cons_self, hp.symm⟩]
      · rw [if_neg hp, if_neg]
        rintro ⟨b, hb, hbp⟩
        rcases List.mem_cons.1 hb with rfl | hb
        · exact hp hbp.symm
        · exact h ⟨b, hb, hbp⟩

/-- `l = [x for x in c if f(x.location)]; for x in l: del d[x.location]` -/
theorem abs_foldl_dictDel_filter_apply (f : Path → Bool) (c d : CSet) (p : Path) :
    abs ((c.filter fun x => f x.loc).foldl (fun (d : CSet) (x : Entry) => dictDel d x.loc) d) p =
      if hasKey c p = true ∧ f p = true then none else abs d p := by
  rw [abs_foldl (g := fun m x => m.erase x.loc) fun c x => abs_dictDel c x.loc, foldl_erase_apply]
  refine ite_congr (propext ⟨?_, ?_⟩) (fun _ => rfl) fun _ => rfl
  · rintro ⟨x, hx, rfl⟩
    exact ⟨hasKey_iff.2 ⟨x, (List.mem_filter.1 hx).1, rfl⟩, (List.mem_filter.1 hx).2⟩
  · rintro ⟨hk, hf⟩
    obtain ⟨e, he, rfl⟩ := hasKey_iff.1 hk
    exact ⟨e, List.mem_filter.2 ⟨he, hf⟩, rfl⟩

/-- one round of `difference_update`: `if x in self: self.remove(x)` erases the key, present or not -/
theorem abs_remove_if_present (c : CSet) (a : Arg) :
    abs (if contains c a then dictDel c (keyOf a) else c) = (abs c).erase (keyOf a) := by
  by_cases h : contains c a = true
  · rw [if_pos h, abs_dictDel]
  · rw [if_neg h]
    funext p
    by_cases hp : p = keyOf a
    · rw [Map.erase, if_pos hp, hp]
      exact Option.not_isSome_iff_eq_none.1 h
    · rw [Map.erase, if_neg hp]

theorem abs_differenceUpdate_apply (c : CSet) (o : Other) (p : Path) :
    abs (differenceUpdate c o) p = if ∃ a ∈ o.args, keyOf a = p then none else abs c p := by
  rw [differenceUpdate, abs_foldl (g := fun m a => m.erase (keyOf a)) abs_remove_if_present, foldl_erase_apply]

/-- the `for x in other: if x not in self: add(x)` loop of `symmetric_difference_update`, on maps -/
theorem foldl_add_if_absent_apply (l : List Entry) (m : Map) (p : Path) :
    l.foldl (fun (m : Map) x => if (m x.loc).isSome then m else m.insert x) m p = (m p).or (lookup l p) := by
  induction l generalizing m with
  | nil => exact Option.or_none.symm
  | cons x xs ih =>
    rw [List.foldl_cons, ih, lookup_cons]
    by_cases hxp : x.loc = p
    · rw [if_pos hxp, ← hxp]
      cases hm : m x.loc with
      | some y => rw [if_pos (show (some y).isSome = true from rfl), hm]; rfl
      | none =>
        rw [if_neg (show ¬ (none : Option Entry).isSome = true from Bool.false_ne_true), Map.insert, if_pos rfl]
        rfl
    · rw [if_neg hxp]
      congr 1
      by_cases hm : (m x.loc).isSome = true
      · rw [if_pos hm]
      · rw [if_neg hm, Map.insert, if_neg (Ne.symm hxp)]

theorem abs_add_if_absent (c : CSet) (x : Entry) :
    abs (if contains c (.ent x) then c else add c x) = if (abs c x.loc).isSome then abs c else (abs c).insert x := by
  rw [apply_ite abs, add, abs_dictSet]; rfl

theorem abs_symDiffCore (c o' : CSet) : abs (symDiffCore c o') = Spec.symmDiff (abs c) (abs o') := by
  funext p
  refine (abs_foldl_dictDel_filter_apply (hasKey o') c _ p).trans ?_
  rw [abs_foldl (g := fun m x => if (m x.loc).isSome then m else m.insert x) abs_add_if_absent,
    foldl_add_if_absent_apply]
  show (if (lookup c p).isSome = true ∧ (lookup o' p).isSome = true then none else (lookup c p).or (lookup o' p)) =
    symmVal (lookup c p) (lookup o' p)
  cases lookup c p <;> cases lookup o' p <;> rfl

theorem key_eq_keyOf (a : Arg) : key a = keyOf a := rfl

theorem named_iff (o : Other) (p : Path) : named o p = true ↔ ∃ a ∈ o.args, keyOf a = p := by
  unfold named
  induction o.args with
  | nil => simp [view]
  | cons a as ih =>
    simp only [List.mem_cons, exists_eq_or_imp, ← ih]
    rw [← key_eq_keyOf a]
    by_cases hk : key a = p <;> simp [view, hk]

/-- `hp`: the model normalises the probe again when the argument is a contentsSet -/
theorem otherHas_eq_named (o : Other) (p : Path) (hp : Normal p) : otherHas o p = named o p := by
  rw [Bool.eq_iff_iff, named_iff]
  cases o with
  | cset c =>
    simp only [otherHas, contains, keyOf, Other.args]
    rw [hp, hasKey_iff]
    constructor
    · rintro ⟨e, he, hl⟩
      exact ⟨.ent e, List.mem_map.2 ⟨e, he, rfl⟩, hl⟩
    · rintro ⟨a, ha, hk⟩
      obtain ⟨e, he, rfl⟩ := List.mem_map.1 ha
      exact ⟨e, he, hk⟩
  | items l =>
    simp only [otherHas, convertLoc, Other.args, List.contains_iff_mem, List.mem_map]

theorem otherHas_of_mem {c : CSet} (h : WF c) {e : Entry} (he : e ∈ c) (o : Other) :
    otherHas o e.loc = named o e.loc :=
  otherHas_eq_named o e.loc (h.2 e he)

theorem view_ents (l : List Entry) (p : Path) :
    view (l.map Arg.ent) p = (Map.ofList l p).map some := by
  induction l with
  | nil => rfl
  | cons e es ih =>
    rw [List.map_cons, view, Map.ofList, insertAll_cons, insertAll_apply, Option.map_or, ih]
    congr 1
    show (if e.loc = p then some (some e) else none) = (if p = e.loc then some e else none).map some
    by_cases h : e.loc = p
    · rw [if_pos h, if_pos h.symm]; rfl
    · rw [if_neg h, if_neg (Ne.symm h)]; rfl

theorem entriesOf_some {l : List Arg} {es : List Entry} (h : entriesOf l = some es) : l = es.map Arg.ent := by
  induction l generalizing es with
  | nil => cases h; rfl
  | cons a as ih =>
    rw [entriesOf] at h
    split at h
    · rename_i e es' ha has
      cases a with
      | ent x =>
        cases ha
        cases h
        rw [List.map_cons, ← ih has]
      | path s => cases ha
    · cases h

theorem entries_args {o : Other} {es : List Entry} (h : o.entries = some es) : o.args = es.map Arg.ent := by
  cases o with
  | cset c => cases h; rfl
  | items l => exact entriesOf_some h

theorem entries_of_allEntries {o : Other} (h : AllEntries o) : ∃ es, o.entries = some es := by
  cases o with
  | cset c => exact ⟨c, rfl⟩
  | items l =>
    show ∃ es, entriesOf l = some es
    induction l with
    | nil => exact ⟨[], rfl⟩
    | cons a as ih =>
      obtain ⟨e, rfl⟩ := h a List.mem_cons_self
      obtain ⟨es, hes⟩ := ih fun b hb => h b (List.mem_cons_of_mem _ hb)
      exact ⟨e :: es, by rw [entriesOf, hes]; rfl⟩

theorem allEntries_of_entries {o : Other} {es : List Entry} (h : o.entries = some es) : AllEntries o := by
  intro a ha
  rw [entries_args h] at ha
  obtain ⟨e, _, rfl⟩ := List.mem_map.1 ha
  exact ⟨e, rfl⟩

theorem argMap_of_entries {o : Other} {es : List Entry} (h : o.entries = some es) :
    argMap o = Map.ofList es := by
  funext p
  rw [argMap, entries_args h, view_ents]
  cases Map.ofList es p <;> rfl

/-- The model's item and the specification's value of an intersection are brought to one form: this set's entry `x`,
replaced by the argument's own entry where it carries one (`getD`). -/
theorem interItem_eq_getD (c : CSet) (a : Arg) :
    interItem c a = (lookup c (keyOf a)).map fun x => a.entry?.getD x := by
  cases a with
  | ent e =>
    unfold interItem contains hasKey
    cases lookup c (keyOf (.ent e)) <;> rfl
  | path s =>
    unfold interItem contains hasKey getitem
    cases lookup c (keyOf (.path s)) <;> rfl

theorem interVal_eq_getD (mv : Option Entry) (v : Option (Option Entry)) :
    interVal mv v = mv.bind fun x => v.map (·.getD x) := by
  cases mv <;> rcases v with _ | _ | _ <;> rfl

theorem insertAll_interItems (c : CSet) (l : List Arg) (m : Map) (p : Path) :
    Map.insertAll m (l.filterMap (interItem c)) p =
      ((lookup c p).bind fun x => (view l p).map (·.getD x)).or (m p) := by
  induction l generalizing m with
  | nil => cases lookup c p <;> rfl
  | cons a as ih =>
    rw [List.filterMap_cons, interItem_eq_getD]
    cases hl : lookup c (keyOf a) with
    | none =>
      rw [Option.map_none, ih]
      by_cases hk : key a = p
      · rw [← hk, key_eq_keyOf, hl]; rfl
      · rw [view, if_neg hk, Option.or_none]
    | some y =>
      -- a `path` item takes this set's entry, whose location is the key
      have hloc : (a.entry?.getD y).loc = keyOf a := by
        cases a with
        | ent e => rfl
        | path s => exact (lookup_some hl).2
      rw [Option.map_some, insertAll_cons, ih, Map.insert, hloc, ← key_eq_keyOf]
      by_cases hk : key a = p
      · rw [if_pos hk.symm, view, if_pos hk, ← hk, key_eq_keyOf, hl]
        cases view as (keyOf a) <;> rfl
      · rw [if_neg (Ne.symm hk), view, if_neg hk, Option.or_none]

theorem WF_nil : WF [] := ⟨List.nodup_nil, fun _ h => nomatch h⟩

theorem WF_dictSet {c : CSet} {e : Entry} (h : WF c) (he : Normal e.loc) : WF (dictSet c e) := by
  refine ⟨Lib.nodup_set dictSet (fun _ => rfl) (fun _ _ _ => rfl) h.1 e, fun x hx => ?_⟩
  rcases Lib.mem_set (key := (·.loc)) dictSet (fun _ => rfl) (fun _ _ _ => rfl) hx with hx | rfl
  · exact h.2 x hx
  · exact he

theorem WF_filter {c : CSet} (f : Entry → Bool) (h : WF c) : WF (c.filter f) :=
  ⟨List.Nodup.sublist (List.Sublist.map _ List.filter_sublist) h.1, fun e he => h.2 e (List.mem_filter.1 he).1⟩

theorem WF_dictDel {c : CSet} (k : Path) (h : WF c) : WF (dictDel c k) := WF_filter _ h

theorem WF_foldl {α : Type} {f : CSet → α → CSet} {l : List α} (h : ∀ a ∈ l, ∀ c, WF c → WF (f c a)) {c : CSet}
    (hc : WF c) : WF (l.foldl f c) :=
  List.foldlRecOn l f hc fun c hc a ha => h a ha c hc

theorem WF_update {c : CSet} {l : List Entry} (h : WF c) (hl : ∀ e ∈ l, Normal e.loc) : WF (update c l) :=
  WF_foldl (fun e he _ hc => WF_dictSet hc (hl e he)) h

theorem WF_foldl_dictDel {c : CSet} (l : List Entry) (h : WF c) :
    WF (l.foldl (fun (c : CSet) (x : Entry) => dictDel c x.loc) c) :=
  WF_foldl (fun _ _ _ hc => WF_dictDel _ hc) h

theorem WF_differenceUpdate {c : CSet} (h : WF c) (o : Other) : WF (differenceUpdate c o) := by
  refine WF_foldl (fun a _ c hc => ?_) h
  split
  · exact WF_dictDel _ hc
  · exact hc

theorem WF_symDiffCore {c o' : CSet} (h : WF c) (hn : ∀ x ∈ o', Normal x.loc) : WF (symDiffCore c o') := by
  refine WF_foldl_dictDel _ (WF_foldl (fun x hx c hc => ?_) h)
  split
  · exact hc
  · exact WF_dictSet hc (hn x hx)

theorem WF_intersection {c : CSet} (h : WF c) {o : Other} (ho : ArgsWF o.args) : WF (intersection c o) := by
  apply WF_update WF_nil
  intro x hx
  obtain ⟨b, hb, hbx⟩ := List.mem_filterMap.1 hx
  rw [interItem_eq_getD] at hbx
  obtain ⟨y, hy, rfl⟩ := Option.map_eq_some_iff.1 hbx
  cases b with
  | ent e => exact ho e hb
  | path s => exact h.2 y (lookup_some hy).1

/-- the operations that need values are `o.entries.map f`: they return what `f` makes of real entries -/
theorem WF_of_entries {o : Other} (ho : ArgsWF o.args) {f : List Entry → CSet}
    (hf : ∀ es, (∀ x ∈ es, Normal x.loc) → WF (f es)) {r : CSet} (hr : o.entries.map f = some r) : WF r := by
  obtain ⟨es, hes, rfl⟩ := Option.map_eq_some_iff.1 hr
  exact hf es fun x hx => ho x (entries_args hes ▸ List.mem_map_of_mem hx)

theorem WF_symmetricDifferenceUpdate {c r : CSet} {o : Other} (h : WF c) (ho : ArgsWF o.args)
    (hr : symmetricDifferenceUpdate c o = some r) : WF r := by
  cases o with
  | cset c' => exact WF_of_entries ho (f := symDiffCore c) (fun _ hes => WF_symDiffCore h hes) hr
  | items l =>
    rw [symmetricDifferenceUpdate, Option.map_map] at hr
    exact WF_of_entries ho (fun _ hes => WF_symDiffCore h (WF_update WF_nil hes).2) hr

/-- `changeOffset` with any `g` for its rewriter `rewriteLoc (offsetLen old) new`: every new entry comes out of the
constructor -/
theorem WF_changeOffset (g : Path → Path) {c r : CSet}
    (hr : (c.mapM fun e => changeLocation e (g e.loc)).map (update []) = some r) : WF r := by
  obtain ⟨l, hm, rfl⟩ := Option.map_eq_some_iff.1 hr
  refine WF_update WF_nil fun x hx => ?_
  obtain ⟨y, _, hy⟩ := List.mem_map.1 (Lib.map_of_mapM_some hm ▸ List.mem_map_of_mem hx)
  rw [changeLocation] at hy
  split at hy
  · exact Option.some.inj hy ▸ mkEntry_normal _ _ _
  · cases hy

theorem changeOffset_eq_map (g : Path → Path) (c : CSet) (habs : ∀ e ∈ c, AbsNormal (g e.loc))
    (hinj : ((c.map (·.loc)).map g).Nodup) :
    (c.mapM fun e => changeLocation e (g e.loc)).map (update []) =
      some (c.map fun e => ⟨g e.loc, e.kind, e.tag⟩) := by
  have hstep : ∀ e ∈ c, changeLocation e (g e.loc) = some ⟨g e.loc, e.kind, e.tag⟩ := by
    intro e he
    rw [changeLocation, if_pos (habs e he).head, mkEntry, (habs e he).normal]
  rw [Lib.mapM_eq_some hstep, Option.map_some]
  have := update_fresh [] (c.map fun e => ⟨g e.loc, e.kind, e.tag⟩)
    (by simpa [List.map_map, Function.comp_def] using hinj)
  rw [this, List.nil_append]

/-- `t in self` for a path string -/
def inS (c : CSet) (t : Path) : Prop := contains c (.path t) = true

/-- the test normalises `t` before the dict is asked -/
theorem inS_iff_hasKey (c : CSet) {t : Path} (ht : AbsNormal t) : inS c t ↔ hasKey c t = true := by
  rw [inS, contains, keyOf, ht.normal]

theorem mem_setAdd {s : List Path} {x y : Path} : x ∈ setAdd s y ↔ x ∈ s ∨ x = y :=
  Lib.mem_add_if_absent id x

/-- One run of the `while` loop: nothing is lost (`imono`), the target is reached (`itarget`), and — what makes the
climb go all the way — every path it adds has its parent in the result or in the set (`iclosed`). -/
theorem climb_spec (c : CSet) (missing : List Path) (t : Path) :
    (∀ x ∈ missing, x ∈ climb c missing t) ∧ (t ∈ climb c missing t ∨ inS c t) ∧
      ∀ x ∈ climb c missing t, x ∈ missing ∨ dirname x ∈ climb c missing t ∨ inS c (dirname x) := by
  fun_induction climb c missing t with
  | case1 missing t h => exact ⟨fun _ hx => hx, h, fun _ hx => Or.inl hx⟩
  | case2 missing t h hlt ih =>
    obtain ⟨imono, itarget, iclosed⟩ := ih
    refine ⟨fun x hx => imono x (mem_setAdd.2 (Or.inl hx)), Or.inl (imono t (mem_setAdd.2 (Or.inr rfl))), ?_⟩
    intro x hx
    rcases iclosed x hx with h1 | h1
    · rcases mem_setAdd.1 h1 with h2 | rfl
      · exact Or.inl h2
      · exact Or.inr itarget
    · exact Or.inr h1
  | case3 missing t h hlt =>
    refine ⟨fun x hx => mem_setAdd.2 (Or.inl hx), Or.inl (mem_setAdd.2 (Or.inr rfl)), ?_⟩
    intro x hx
    rcases mem_setAdd.1 hx with h2 | rfl
    · exact Or.inl h2
    · exact Or.inr (Or.inl (by rw [dirname_eq_self x hlt]; exact mem_setAdd.2 (Or.inr rfl)))

theorem climb_inv (c : CSet) (P : Path → Prop) (hP : ∀ x, P x → P (dirname x)) (missing : List Path) (t : Path) :
    P t → (∀ x ∈ missing, ¬ inS c x ∧ P x) → ∀ x ∈ climb c missing t, ¬ inS c x ∧ P x := by
  fun_induction climb c missing t with
  | case1 missing t h => exact fun _ hm => hm
  | case2 missing t h hlt ih =>
    exact fun ht hm => ih (hP t ht) fun x hx =>
      (mem_setAdd.1 hx).elim (hm x) fun e => e ▸ ⟨fun hh => h (Or.inr hh), ht⟩
  | case3 missing t h hlt =>
    exact fun ht hm x hx => (mem_setAdd.1 hx).elim (hm x) fun e => e ▸ ⟨fun hh => h (Or.inr hh), ht⟩

/-- the `for x in missing_initial` loop -/
def climbAll (c : CSet) (l : List Path) (m : List Path) : List Path :=
  l.foldl (fun m x => climb c m (dirname x)) m

theorem climbAll_mono (c : CSet) (l m : List Path) : ∀ x ∈ m, x ∈ climbAll c l m :=
  List.foldlRecOn (motive := fun m' => ∀ x ∈ m, x ∈ m') l _ (fun _ hx => hx)
    fun m' h _ _ x hx => (climb_spec c m' _).1 x (h x hx)

theorem climbAll_inv (c : CSet) (P : Path → Prop) (hP : ∀ x, P x → P (dirname x)) (l m : List Path)
    (hl : ∀ y ∈ l, P (dirname y)) (hm : ∀ x ∈ m, ¬ inS c x ∧ P x) : ∀ x ∈ climbAll c l m, ¬ inS c x ∧ P x :=
  List.foldlRecOn (motive := fun m' => ∀ x ∈ m', ¬ inS c x ∧ P x) l _ hm
    fun m' hm' y hy => climb_inv c P hP m' _ (hl y hy) hm'

/-- `h`, the invariant of the `for` loop: a path in `m` has its parent in `m` or in the set — or is itself still in `l`,
so that its parent is climbed later. -/
theorem climbAll_closed (c : CSet) (l m : List Path)
    (h : ∀ x ∈ m, x ∈ l ∨ dirname x ∈ m ∨ inS c (dirname x)) :
    ∀ x ∈ climbAll c l m, dirname x ∈ climbAll c l m ∨ inS c (dirname x) := by
  induction l generalizing m with
  | nil =>
    intro x hx
    rcases h x hx with h1 | h1
    · simp at h1
    · exact h1
  | cons y ys ih =>
    apply ih
    intro x hx
    obtain ⟨hmono, htarget, hclosed⟩ := climb_spec c m (dirname y)
    rcases hclosed x hx with h1 | h1
    · rcases h x h1 with h2 | h2 | h2
      · rcases List.mem_cons.1 h2 with rfl | h3
        · exact Or.inr htarget
        · exact Or.inl h3
      · exact Or.inr (Or.inl (hmono _ h2))
      · exact Or.inr (Or.inr h2)
    · exact Or.inr h1

/-- `{x.dirname for x in self if x.dirname not in self}` -/
def missing0 (c : CSet) : List Path :=
  (c.map fun (x : Entry) => dirname x.loc).foldl (fun s d => if contains c (.path d) then s else setAdd s d) []

theorem mem_missing0 (c : CSet) (x : Path) :
    x ∈ missing0 c ↔ ¬ inS c x ∧ ∃ e ∈ c, dirname e.loc = x := by
  -- a set comprehension: the candidates that pass the test, inserted one by one
  have h : missing0 c =
      ((c.map fun (e : Entry) => dirname e.loc).filter fun d => !contains c (.path d)).foldl setAdd [] := by
    rw [List.foldl_filter, missing0]
    congr
    funext s d
    cases contains c (.path d) <;> rfl
  rw [h, Lib.mem_foldl_add fun _ _ _ => mem_setAdd]
  simp only [List.not_mem_nil, false_or, List.mem_filter, List.mem_map, Bool.not_eq_true', inS, Bool.not_eq_true,
    and_comm]

/-- `missing` after both loops -/
def collected (c : CSet) : List Path := climbAll c (missing0 c) (missing0 c)

theorem mem_collected (c : CSet) (habs : ∀ e ∈ c, AbsNormal e.loc) (x : Path) :
    x ∈ collected c ↔ hasKey c x = false ∧ ∃ e ∈ c, ProperAncestor x e.loc := by
  have hkey : ∀ e ∈ c, inS c e.loc := fun e he => (inS_iff_hasKey c (habs e he)).2 (hasKey_iff.2 ⟨e, he, rfl⟩)
  constructor
  · intro hx
    -- every collected path is absent and a proper ancestor of an entry: true of the initial set (an entry that is its
    -- own parent is a key), kept by every climb
    have h0 : ∀ y ∈ missing0 c, ¬ inS c y ∧ ∃ e ∈ c, ProperAncestor y e.loc := by
      intro y hy
      obtain ⟨hns, e, he, rfl⟩ := (mem_missing0 c y).1 hy
      exact ⟨hns, e, he, properAncestor_dirname_self (habs e he) fun h => hns (h.symm ▸ hkey e he)⟩
    have hP : ∀ y, (∃ e ∈ c, ProperAncestor y e.loc) → ∃ e ∈ c, ProperAncestor (dirname y) e.loc :=
      fun y ⟨e, he, ha⟩ => ⟨e, he, ha.parent⟩
    obtain ⟨hns, e, he, ha⟩ := climbAll_inv c _ hP _ _ (fun y hy => hP y (h0 y hy).2) h0 x hx
    rw [inS_iff_hasKey c ha.absNormal, Bool.not_eq_true] at hns
    exact ⟨hns, e, he, ha⟩
  · rintro ⟨hk, e, he, ha⟩
    -- keys and collected paths together are closed under `dirname`: the climb goes all the way
    have hclosed := climbAll_closed c (missing0 c) (missing0 c) (fun x hx => Or.inl hx)
    refine (ha.induction (S := fun y => inS c y ∨ y ∈ collected c) (Or.inl (hkey e he))
      fun y hy h => ?_).resolve_left fun h => ?_
    · rcases h with h | h
      · obtain ⟨e', he', rfl⟩ := hasKey_iff.1 ((inS_iff_hasKey c hy).1 h)
        by_cases hin : inS c (dirname e'.loc)
        · exact Or.inl hin
        · exact Or.inr (climbAll_mono c _ _ _ ((mem_missing0 c _).2 ⟨hin, e', he', rfl⟩))
      · exact (hclosed _ h).symm
    · rw [inS_iff_hasKey c ha.absNormal, hk] at h; cases h

theorem addMissingDirectories_eq (c : CSet) (t : Nat) :
    addMissingDirectories c t = update c (((collected c).filter (· ≠ ['/'])).map fun x => mkEntry x kindDir t) := rfl

theorem WF_addMissingDirectories {c : CSet} (h : WF c) (t : Nat) : WF (addMissingDirectories c t) := by
  rw [addMissingDirectories_eq]
  apply WF_update h
  intro x hx
  obtain ⟨y, _, rfl⟩ := List.mem_map.1 hx
  exact mkEntry_normal _ _ _

theorem abs_addMissingDirectories_apply (c : CSet) (t : Nat) (habs : ∀ e ∈ c, AbsNormal e.loc) (p : Path) :
    abs (addMissingDirectories c t) p =
      (if p ∈ collected c ∧ p ≠ ['/'] then some ⟨p, kindDir, t⟩ else none).or (abs c p) := by
  have hn : ∀ y ∈ collected c, Normal y := fun y hy =>
    let ⟨_, _, _, ha⟩ := (mem_collected c habs y).1 hy
    ha.absNormal.normal
  rw [addMissingDirectories_eq, abs_update, insertAll_apply,
    ofList_map (mkEntry · kindDir t) _ (fun y hy => hn y (List.mem_filter.1 hy).1) p]
  simp only [List.mem_filter, decide_eq_true_eq]
  congr 1
  split
  · rename_i h
    rw [mkEntry, hn p h.1]
  · rfl

theorem step_object (h : Heap) (s : Step) (j : Nat) (c : CSet) (hj : h[j]? = some c) :
    (h.step s)[j]? = some (match s.editOf j with | some f => f c | none => c) := by
  obtain ⟨hlt, hc⟩ := List.getElem?_eq_some_iff.1 hj
  cases s with
  | inPlace i f =>
    by_cases hij : i = j
    · subst hij
      simp [Heap.step, Step.editOf, hlt, hc]
    · simp only [Heap.step, Step.editOf, if_neg hij]
      cases hi : h[i]? with
      | none => simpa using hj
      | some ci => simpa [List.getElem?_set_ne hij] using hj
  | fresh i f =>
    simp only [Heap.step, Step.editOf]
    split
    · split
      · rw [List.getElem?_append_left hlt]; exact hj
      · exact hj
    · exact hj

end Pkgcore.C22
