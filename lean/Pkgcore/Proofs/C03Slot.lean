import Pkgcore.Proofs.C03Prim
/-!
# C03 — slot / sub-slot / slot operator / repo id

The slot part of an atom is `slotPartTxt sl ss op ++ repoTxt repo` (`renderSlot_eq`, `repoTxt_truthy`: that is what
`render` writes for well-formed attributes).  Bottom up, the model's functions and three proof-side cuts of them:
`parseSlotNames` (`slot[/sub]`, cut out of `parseSlotText`), `parseSlotText` (the text between `:` and `::`),
`slotInfoOf` (the end of `parseSlotPart`), `slotStage` (the whole block of `parseWith`, see `parseWith_eq`: `findSlot`,
then `parseSlotPart` read through `parseSlotPart_eq`); each with a `_complete` (the text of well-formed attributes
parses to them) and a `_sound` (what parses is such a text).  Whether a repo id follows is analysed once, at
`slotStage`, where the `:` found by `findSlot` is in view: with an empty slot text that `:` is the first of the `::`.

`parseSlotText` does not test `hasSlotDeps` when sub-slots are enabled: `parseWith` does, once all stages have run.
The `_sound` lemmas therefore conclude `(sl.isSome → o.hasSlotDeps) → slotOk' …`, and `parseWith_sound` discharges
the premise from that later gate.
-/
namespace Pkgcore.C03
open Pkgcore.C01 Pkgcore.C02 Pkgcore.C03.Spec

/-- `Spec.slotOk` as a predicate on the three attributes it reads: `parseSlotText` yields them before there is an
atom -/
def slotOk' (d : Dialect) (o : Opts) (sl ss op : Option Str) : Prop :=
  match sl with
  | some s =>
    o.hasSlotDeps = true ∧ slotNameOk d s = true ∧
      (match ss with
       | some x => o.subSlotting = true ∧ slotNameOk d x = true
       | none => True) ∧
      (op = none ∨ (o.subSlotting = true ∧ op = some ['=']))
  | none =>
    ss = none ∧ (op = none ∨ (o.subSlotting = true ∧ (op = some ['='] ∨ op = some ['*'])))

theorem slotOk_eq (d : Dialect) (o : Opts) (a : Atom) : slotOk d o a = slotOk' d o a.slot a.subslot a.slotOp := rfl

def namesTxt (s : Str) (ss : Option Str) : Str := s ++ (match ss with | some x => '/' :: x | none => [])

/-- the text after the `:` of a slot dependency -/
def slotTxt (sl ss op : Option Str) : Str :=
  match sl with
  | some s => namesTxt s ss ++ (if op = some ['='] then ['='] else [])
  | none => op.getD []

/-- `:` and the slot text, as `renderSlot` writes them -/
def slotPartTxt (sl ss op : Option Str) : Str :=
  if slotTxt sl ss op = [] then [] else ':' :: slotTxt sl ss op

/-- `::repo`, as `render` writes it -/
def repoTxt : Option Str → Str
  | some r => ':' :: ':' :: r
  | none => []

theorem namesTxt_chars {d : Dialect} {s : Str} {ss : Option Str} (hs : slotNameOk d s = true)
    (hss : ∀ x, ss = some x → slotNameOk d x = true) :
    nameChars ['+', '_', '.', '-', '/'] (namesTxt s ss) = true := by
  obtain ⟨_, _, _, hc, _⟩ := nameOk_iff.mp hs
  rw [namesTxt.eq_def, nameChars_append, nameChars_mono (by decide) hc]
  cases ss with
  | none => rfl
  | some x =>
    obtain ⟨_, _, _, hx, _⟩ := nameOk_iff.mp (hss x rfl)
    rw [nameChars_cons, nameChars_mono (by decide) hx]
    rfl

/-- the `slot[/sub]` part of `parseSlotText`, once a `=` suffix has been taken off -/
def parseSlotNames (op : Option Str) (body : Str) : Except Err (Option Str × Option Str × Option Str) :=
  match breakOn '/' body with
  | some (a, b) =>
    match checkSlotChunk a, checkSlotChunk b with
    | .ok (), .ok () => .ok (some a, some b, op)
    | .error e, _ => .error e
    | _, .error e => .error e
  | none =>
    match checkSlotChunk body with
    | .ok () => .ok (some body, none, op)
    | .error e => .error e

theorem parseSlotText_names {o : Opts} (hsub : o.subSlotting = true) {c : Char} {t : Str}
    (hc : ¬ (c = '*' ∨ c = '=')) :
    parseSlotText o (c :: t) =
      if (c :: t).getLast? = some '=' then parseSlotNames (some ['=']) (c :: t).dropLast
      else parseSlotNames none (c :: t) := by
  rw [parseSlotText.eq_def, if_pos hsub]
  by_cases hl : (c :: t).getLast? = some '='
  · simp only [if_neg hc, if_pos hl]
    rfl
  · simp only [if_neg hc, if_neg hl]
    rfl

theorem parseSlotNames_complete {s : Str} {ss : Option Str} (hs : slotNameOk lenient s = true)
    (hss : ∀ x, ss = some x → slotNameOk lenient x = true) (op : Option Str) :
    parseSlotNames op (namesTxt s ss) = .ok (some s, ss, op) := by
  obtain ⟨_, _, _, hc, _⟩ := nameOk_iff.mp hs
  have hslash : '/' ∉ s := not_mem_of_nameChars hc (by decide) (by decide)
  cases ss with
  | none =>
    rw [parseSlotNames, namesTxt.eq_def, List.append_nil, breakOn_of_not_mem hslash]
    simp only [(checkSlotChunk_iff s).mpr hs]
  | some x =>
    rw [parseSlotNames, namesTxt.eq_def, breakOn_append x hslash]
    simp only [(checkSlotChunk_iff s).mpr hs, (checkSlotChunk_iff x).mpr (hss x rfl)]

theorem parseSlotNames_sound {op op' sl ss : Option Str} {body : Str}
    (h : parseSlotNames op body = .ok (sl, ss, op')) :
    ∃ s, sl = some s ∧ op' = op ∧ body = namesTxt s ss ∧ slotNameOk lenient s = true ∧
      ∀ x, ss = some x → slotNameOk lenient x = true := by
  unfold parseSlotNames at h
  split at h
  · rename_i a b hb
    split at h
    · rename_i ha hb2
      cases h
      exact ⟨a, rfl, rfl, (breakOn_sound hb).1, (checkSlotChunk_iff a).mp ha,
        fun x e => Option.some.inj e ▸ (checkSlotChunk_iff b).mp hb2⟩
    · cases h
    · cases h
  · split at h
    · rename_i ha
      cases h
      exact ⟨body, rfl, rfl, (List.append_nil _).symm, (checkSlotChunk_iff body).mp ha, nofun⟩
    · cases h

theorem parseSlotText_complete {o : Opts} {sl ss op : Option Str} (h : slotOk' lenient o sl ss op)
    (hne : slotTxt sl ss op ≠ []) : parseSlotText o (slotTxt sl ss op) = .ok (sl, ss, op) := by
  cases sl with
  | none =>
    obtain ⟨rfl, hop⟩ := h
    rcases hop with rfl | ⟨hsub, rfl | rfl⟩
    · exact absurd rfl hne
    · simp [slotTxt, parseSlotText, hsub]
    · simp [slotTxt, parseSlotText, hsub]
  | some s =>
    obtain ⟨hsd, hs, hss, hop⟩ := h
    have hss' : ∀ x, ss = some x → slotNameOk lenient x = true := fun x e => by rw [e] at hss; exact hss.2
    by_cases hsub : o.subSlotting = true
    · have hbody := namesTxt_chars hs hss'
      obtain ⟨c, t, hct, hc⟩ : ∃ c t, namesTxt s ss = c :: t ∧ ¬ (c = '*' ∨ c = '=') := by
        obtain ⟨c, cs, rfl, hchars, _⟩ := nameOk_iff.mp hs
        have hm : ∀ x, x.isAlphanum = false → ['+', '_', '.', '-'].contains x = false → c ≠ x :=
          fun x h1 h2 e => not_mem_of_nameChars hchars h1 h2 (e ▸ List.mem_cons_self)
        exact ⟨c, _, rfl, not_or.mpr ⟨hm '*' (by decide) (by decide), hm '=' (by decide) (by decide)⟩⟩
      have hlast : (namesTxt s ss).getLast? ≠ some '=' := fun e =>
        not_mem_of_nameChars hbody (by decide) (by decide) (List.mem_of_getLast? e)
      rcases hop with rfl | ⟨_, rfl⟩
      · rw [slotTxt, if_neg nofun, List.append_nil]
        rw [hct] at hlast ⊢
        rw [parseSlotText_names hsub hc, if_neg hlast, ← hct, parseSlotNames_complete hs hss']
      · rw [slotTxt, if_pos rfl, hct, List.cons_append, parseSlotText_names hsub hc, ← List.cons_append,
          List.getLast?_concat, if_pos rfl, List.dropLast_concat, ← hct, parseSlotNames_complete hs hss']
    · have hss0 : ss = none := by
        cases ss with
        | none => rfl
        | some x => exact absurd hss.1 hsub
      have hop0 : op = none := hop.resolve_right fun h => hsub h.1
      rw [hss0, hop0, slotTxt, namesTxt.eq_def, if_neg nofun, List.append_nil, List.append_nil,
        parseSlotText.eq_def, if_neg hsub, hsd, (checkSlotChunk_iff s).mpr hs]
      rfl

theorem parseSlotText_sound {o : Opts} {txt : Str} {sl ss op : Option Str}
    (h : parseSlotText o txt = .ok (sl, ss, op)) :
    txt = slotTxt sl ss op ∧ ((sl.isSome = true → o.hasSlotDeps = true) → slotOk' lenient o sl ss op) := by
  by_cases hsub : o.subSlotting = true
  · cases txt with
    | nil =>
      rw [parseSlotText.eq_def, if_pos hsub] at h
      cases h
    | cons c t =>
      by_cases hc : c = '*' ∨ c = '='
      · rw [parseSlotText.eq_def, if_pos hsub] at h
        simp only [if_pos hc] at h
        cases t with
        | cons _ _ => cases h
        | nil =>
          cases h
          exact ⟨rfl, fun _ =>
            ⟨rfl, Or.inr ⟨hsub, hc.symm.imp (congrArg (some [·])) (congrArg (some [·]))⟩⟩⟩
      · rw [parseSlotText_names hsub hc] at h
        split at h
        · rename_i hl
          obtain ⟨s, rfl, rfl, hbody, hs, hss⟩ := parseSlotNames_sound h
          refine ⟨?_, fun hd => ⟨hd rfl, hs, ?_, Or.inr ⟨hsub, rfl⟩⟩⟩
          · rw [slotTxt, if_pos rfl, ← hbody]
            exact Lib.eq_dropLast_append_of_getLast? hl
          · cases ss with
            | none => trivial
            | some x => exact ⟨hsub, hss x rfl⟩
        · obtain ⟨s, rfl, rfl, hbody, hs, hss⟩ := parseSlotNames_sound h
          refine ⟨?_, fun hd => ⟨hd rfl, hs, ?_, Or.inl rfl⟩⟩
          · rw [slotTxt, if_neg nofun, List.append_nil, ← hbody]
          · cases ss with
            | none => trivial
            | some x => exact ⟨hsub, hss x rfl⟩
  · rw [parseSlotText.eq_def, if_neg hsub] at h
    split at h
    · cases h
    · rename_i hsd
      split at h
      · rename_i ha
        cases h
        refine ⟨show txt = txt ++ [] ++ [] by rw [List.append_nil, List.append_nil],
          fun _ => ⟨?_, (checkSlotChunk_iff txt).mp ha, trivial, Or.inl rfl⟩⟩
        cases hd : o.hasSlotDeps
        · rw [hd] at hsd
          exact absurd rfl hsd
        · rfl
      · cases h

theorem slotTxt_chars {d : Dialect} {o : Opts} {sl ss op : Option Str} (h : slotOk' d o sl ss op) :
    nameChars ['+', '_', '.', '-', '/', '=', '*'] (slotTxt sl ss op) = true := by
  cases sl with
  | none =>
    obtain ⟨_, hop⟩ := h
    rcases hop with rfl | ⟨_, rfl | rfl⟩ <;> rfl
  | some s =>
    obtain ⟨_, hs, hss, _⟩ := h
    show nameChars _ (namesTxt s ss ++ _) = true
    rw [nameChars_append, nameChars_mono (by decide) (namesTxt_chars hs fun x e => by rw [e] at hss; exact hss.2)]
    split <;> rfl

theorem slotTxt_nil {d : Dialect} {o : Opts} {sl ss op : Option Str} (h : slotOk' d o sl ss op)
    (he : slotTxt sl ss op = []) : sl = none ∧ ss = none ∧ op = none := by
  cases sl with
  | none =>
    obtain ⟨rfl, hop⟩ := h
    rcases hop with rfl | ⟨_, rfl | rfl⟩
    · exact ⟨rfl, rfl, rfl⟩
    · cases he
    · cases he
  | some s =>
    obtain ⟨_, hs, _, _⟩ := h
    obtain ⟨c, cs, rfl, _⟩ := nameOk_iff.mp hs
    cases he

theorem renderSlot_eq {d : Dialect} {o : Opts} (a : Atom) (h : slotOk' d o a.slot a.subslot a.slotOp) :
    renderSlot a = slotPartTxt a.slot a.subslot a.slotOp := by
  unfold renderSlot slotPartTxt
  cases hsl : a.slot with
  | none =>
    rw [hsl] at h
    obtain ⟨hss, hop⟩ := h
    rw [hss]
    rcases hop with hop | ⟨_, hop | hop⟩ <;> rw [hop] <;> simp [truthy, slotTxt]
  | some s =>
    rw [hsl] at h
    obtain ⟨_, hs, hss, _⟩ := h
    obtain ⟨c, cs, rfl, _⟩ := nameOk_iff.mp hs
    have hne2 : slotTxt (some (c :: cs)) a.subslot a.slotOp ≠ [] := by
      simp [slotTxt, namesTxt]
    simp only [truthy, hne2, if_false]
    cases hsub : a.subslot with
    | none => simp [slotTxt, namesTxt]
    | some x =>
      rw [hsub] at hss
      obtain ⟨y, ys, rfl, _⟩ := nameOk_iff.mp hss.2
      simp [slotTxt, namesTxt]

theorem repoTxt_truthy (repo : Option Str) (h : ∀ r, repo = some r → repoNameOk r = true) :
    repoTxt (truthy repo) = repoTxt repo := by
  cases repo with
  | none => rfl
  | some r =>
    obtain ⟨c, cs, rfl, _⟩ := nameOk_iff.mp (h r rfl)
    rfl

/-- the end of `parseSlotPart` -/
def slotInfoOf (o : Opts) (txt : Str) (repo : Option Str) : Except Err SlotInfo :=
  if txt.isEmpty then
    if repo.isNone then .error .slotEmpty else .ok ⟨none, none, none, repo⟩
  else
    match parseSlotText o txt with
    | .error e => .error e
    | .ok (s, ss, op) => .ok ⟨s, ss, op, repo⟩

theorem parseSlotPart_eq (o : Opts) (rest : Str) :
    parseSlotPart o rest =
      match breakDColon (':' :: rest) with
      | some (before, r) =>
        match checkRepo r with
        | .error e => .error e
        | .ok () => slotInfoOf o before.tail (some r)
      | none => slotInfoOf o rest none := by
  unfold parseSlotPart
  cases breakDColon (':' :: rest) <;> rfl

theorem slotInfoOf_complete {o : Opts} {sl ss op repo : Option Str} (hs : slotOk' lenient o sl ss op)
    (hne : slotTxt sl ss op = [] → repo.isNone = false) :
    slotInfoOf o (slotTxt sl ss op) repo = .ok ⟨sl, ss, op, repo⟩ := by
  unfold slotInfoOf
  by_cases he : slotTxt sl ss op = []
  · obtain ⟨rfl, rfl, rfl⟩ := slotTxt_nil hs he
    rw [he]
    show (if repo.isNone = true then _ else _) = _
    rw [hne he]
    rfl
  · rw [if_neg (fun e => he (List.isEmpty_iff.mp e)), parseSlotText_complete hs he]

theorem slotInfoOf_sound {o : Opts} {txt : Str} {repo : Option Str} {si : SlotInfo}
    (h : slotInfoOf o txt repo = .ok si) :
    si.repo = repo ∧ txt = slotTxt si.slot si.subslot si.slotOp ∧ (txt = [] → repo.isNone = false) ∧
      ((si.slot.isSome = true → o.hasSlotDeps = true) → slotOk' lenient o si.slot si.subslot si.slotOp) := by
  unfold slotInfoOf at h
  cases txt with
  | nil =>
    cases hr : repo.isNone with
    | true =>
      rw [hr] at h
      cases h
    | false =>
      rw [hr] at h
      cases h
      exact ⟨rfl, rfl, fun _ => rfl, fun _ => ⟨rfl, Or.inl rfl⟩⟩
  | cons c t =>
    rw [if_neg (c := (c :: t).isEmpty = true) Bool.false_ne_true] at h
    cases hp : parseSlotText o (c :: t) with
    | error e =>
      rw [hp] at h
      cases h
    | ok q =>
      obtain ⟨s, ss, op⟩ := q
      rw [hp] at h
      cases h
      exact ⟨rfl, (parseSlotText_sound hp).1, nofun, (parseSlotText_sound hp).2⟩

theorem findSlot_append {b : Bool} {core rest : Str} (hcolon : ':' ∉ core) (hrest : rest ≠ []) :
    findSlot b (core ++ ':' :: rest) = some (core, rest) := by
  unfold findSlot
  rw [breakOn_append rest hcolon]
  have : rest.isEmpty = false := by simpa using hrest
  simp [this]

theorem findSlot_none {b : Bool} {core : Str} (hcolon : ':' ∉ core) : findSlot b core = none := by
  unfold findSlot
  rw [breakOn_of_not_mem hcolon]

theorem findSlot_sound {b : Bool} {t h rest : Str} (hf : findSlot b t = some (h, rest)) : t = h ++ ':' :: rest := by
  unfold findSlot at hf
  cases hb : breakOn ':' t with
  | none => simp [hb] at hf
  | some p =>
    obtain ⟨h', rest'⟩ := p
    simp only [hb] at hf
    split at hf
    · simp only [Option.some.injEq, Prod.mk.injEq] at hf
      obtain ⟨rfl, rfl⟩ := hf
      exact (breakOn_sound hb).1
    · cases hf

/-- the `if slot_start != -1:` block of `atom.__init__`: a stage of `parseWith` (`parseWith_eq`) -/
def slotStage (o : Opts) (hasUse : Bool) (t : Str) : Except Err (Str × SlotInfo) :=
  match findSlot hasUse t with
  | none => .ok (t, ⟨none, none, none, none⟩)
  | some (h, rest) => match parseSlotPart o rest with
    | .ok si => .ok (h, si)
    | .error e => .error e

theorem slotStage_complete {o : Opts} {core : Str} (hcolon : ':' ∉ core) {sl ss op repo : Option Str}
    (hs : slotOk' lenient o sl ss op) (hr : ∀ r, repo = some r → repoNameOk r = true) (b : Bool) :
    slotStage o b (core ++ slotPartTxt sl ss op ++ repoTxt repo) = .ok (core, ⟨sl, ss, op, repo⟩) := by
  have hc : ':' ∉ slotTxt sl ss op := not_mem_of_nameChars (slotTxt_chars hs) (by decide) (by decide)
  have hrk : ∀ r, repo = some r → checkRepo r = .ok () := fun r e => (checkRepo_iff r).mpr (hr r e)
  unfold slotStage slotPartTxt
  rw [List.append_assoc]
  by_cases he : slotTxt sl ss op = []
  · obtain ⟨rfl, rfl, rfl⟩ := slotTxt_nil hs he
    rw [if_pos he, List.nil_append]
    cases repo with
    | none => rw [repoTxt, List.append_nil, findSlot_none hcolon]
    | some r =>
      -- `find("::")` matches at the `:` that opens the slot part
      rw [repoTxt, findSlot_append hcolon (List.cons_ne_nil _ _)]
      simp only [parseSlotPart_eq, show breakDColon (':' :: ':' :: r) = some ([], r) from rfl, hrk r rfl]
      rfl
  · rw [if_neg he, List.cons_append, findSlot_append hcolon (List.append_ne_nil_of_left_ne_nil he _)]
    cases repo with
    | none =>
      simp only [parseSlotPart_eq, repoTxt, List.append_nil, (breakDColon_of_not_mem ':' hc).1,
        slotInfoOf_complete (repo := none) hs fun e => absurd e he]
    | some r =>
      simp only [parseSlotPart_eq, repoTxt, (breakDColon_of_not_mem ':' hc).2 r he, hrk r rfl, List.tail_cons,
        slotInfoOf_complete (repo := some r) hs fun _ => rfl]

theorem slotStage_sound {o : Opts} {b : Bool} {t t' : Str} {si : SlotInfo} (h : slotStage o b t = .ok (t', si)) :
    t = t' ++ slotPartTxt si.slot si.subslot si.slotOp ++ repoTxt si.repo ∧
      ((si.slot.isSome = true → o.hasSlotDeps = true) → slotOk' lenient o si.slot si.subslot si.slotOp) ∧
      (∀ r, si.repo = some r → repoNameOk r = true) := by
  unfold slotStage at h
  cases hf : findSlot b t with
  | none =>
    simp only [hf, Except.ok.injEq, Prod.mk.injEq] at h
    obtain ⟨rfl, rfl⟩ := h
    refine ⟨by simp [slotPartTxt, slotTxt, repoTxt], fun _ => ⟨rfl, Or.inl rfl⟩, fun r e => by cases e⟩
  | some p =>
    obtain ⟨hd, rest⟩ := p
    simp only [hf] at h
    cases hp : parseSlotPart o rest with
    | error e => simp [hp] at h
    | ok si' =>
      simp only [hp, Except.ok.injEq, Prod.mk.injEq] at h
      obtain ⟨rfl, rfl⟩ := h
      rw [findSlot_sound hf, List.append_assoc, slotPartTxt]
      rw [parseSlotPart_eq] at hp
      cases hb : breakDColon (':' :: rest) with
      | none =>
        simp only [hb] at hp
        obtain ⟨hrepo, htxt, hne, hok⟩ := slotInfoOf_sound hp
        have he : rest ≠ [] := fun e => Bool.noConfusion (hne e)
        refine ⟨?_, hok, fun r e => by rw [hrepo] at e; cases e⟩
        rw [← htxt, if_neg he, hrepo, repoTxt, List.append_nil]
      | some q =>
        obtain ⟨before, r⟩ := q
        simp only [hb] at hp
        cases hck : checkRepo r with
        | error e =>
          rw [hck] at hp
          cases hp
        | ok u =>
          simp only [hck] at hp
          obtain ⟨hrepo, htxt, _, hok⟩ := slotInfoOf_sound hp
          obtain ⟨hsplit, hmin⟩ := breakDColon_sound hb
          refine ⟨?_, hok, fun r' e => by
            rw [hrepo] at e
            cases e
            exact (checkRepo_iff _).mp hck⟩
          rw [← htxt, hrepo, hsplit]
          cases before with
          | nil => rfl
          | cons c t =>
            cases List.cons.inj hsplit |>.1
            rw [List.tail_cons, if_neg fun (e : t = []) => hmin (by rw [e]; rfl)]
            rfl

end Pkgcore.C03
