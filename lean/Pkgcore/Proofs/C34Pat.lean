import Pkgcore.Spec.C34
/-!
Name selection: the matcher on the items of a simple pattern agrees with `matchSimple` (`item_iff`, `simple_eol_m`), the
parser reads the text `build_regex_string` builds back into those items (`simple_parse`, `bars_parse`, `core_parse`);
`pat_parse` and `pat_match` say the two for the whole pattern, `patterns_select_whole_name` puts them together with
`build_tokens`.  Last, plain names as tokens (`plain_tokens`).
-/
namespace Pkgcore.C34
open Pkgcore.C34.Spec

theorem starM_iff (cs : Cs) (k : Nat → List Char → Bool) : ∀ (s : List Char) (i : Nat),
    starM cs k i s = true ↔
      ∃ n, (∀ c ∈ s.take n, cs.accepts c = true) ∧ n ≤ s.length ∧ k (i + n) (s.drop n) = true := by
  intro s
  induction s with
  | nil => intro i; simp [starM]
  | cons c s ih =>
    intro i
    rw [← Nat.or_exists_add_one]
    simp [starM, ih, Nat.add_right_comm i 1, Nat.add_assoc, and_assoc]

/-- the expressions the parser reads an item `c`, `c*`, `c+`, `c?` of a simple pattern as (`rep_parse`) -/
def itemRes : Cs × Rep → List Re
  | (cs, .one) => [.ch cs]
  | (cs, .star) => [.star cs]
  | (cs, .plus) => [.ch cs, .star cs]
  | (cs, .opt) => [.alt (.ch cs) .eps]

/-- the first `n` characters of `s` are a run the item `(cs, r)` matches -/
def Run (cs : Cs) (r : Rep) (s : List Char) (n : Nat) : Prop :=
  r.allows n = true ∧ (∀ c ∈ s.take n, cs.accepts c = true) ∧ n ≤ s.length

theorem item_iff (cs : Cs) (r : Rep) (tail : List Re) (i : Nat) (s : List Char) (k : Nat → List Char → Bool) :
    (seqOf (itemRes (cs, r) ++ tail)).m i s k = true ↔
      ∃ n, Run cs r s n ∧ (seqOf tail).m (i + n) (s.drop n) k = true := by
  cases r with
  | star => simp [itemRes, seqOf, Re.m, Run, Rep.allows, starM_iff, and_assoc]
  | _ =>
    -- a run is empty, or a first character and a run in the rest
    rw [← Nat.or_exists_add_one]
    cases s <;>
      simp [itemRes, seqOf, Re.m, Run, Rep.allows, starM_iff, and_assoc, Nat.add_assoc, Nat.add_comm 1, or_comm]

theorem matchSimple_cons_iff (cs : Cs) (r : Rep) (p : Simple) (s : List Char) :
    matchSimple ((cs, r) :: p) s = true ↔ ∃ n, Run cs r s n ∧ matchSimple p (s.drop n) = true := by
  simp only [matchSimple, List.any_eq_true, List.mem_range, Bool.and_eq_true, List.all_eq_true, Run, Nat.lt_succ_iff]
  exact ⟨fun ⟨n, hn, ⟨h1, hall⟩, hm⟩ => ⟨n, ⟨h1, hall, hn⟩, hm⟩,
    fun ⟨n, ⟨h1, hall, hn⟩, hm⟩ => ⟨n, hn, ⟨h1, hall⟩, hm⟩⟩

theorem altOf_m (rs : List Re) (i : Nat) (s : List Char) (k : Nat → List Char → Bool) :
    (altOf rs).m i s k = rs.any (fun r => r.m i s k) := by
  induction rs with
  | nil => rfl
  | cons r rs ih =>
    cases rs with
    | nil => simp [altOf]
    | cons r2 rs =>
      simp only [altOf, Re.m, List.any_cons]
      rw [ih]
      simp [List.any_cons]

/-- the continuation is the `$`, then the end of the match: what `Re.m` leaves of the whole expression after its
alternation (`pat_match`) -/
theorem simple_eol_m (p : Simple) : ∀ (i : Nat) (s : List Char), '\n' ∉ s →
    (seqOf (p.flatMap itemRes)).m i s (fun i' s' => (seqOf [.eol]).m i' s' fun _ _ => true) = matchSimple p s := by
  induction p with
  | nil =>
    intro i s hs
    cases s with
    | nil => simp [seqOf, Re.m, matchSimple]
    | cons c s =>
      have : c ≠ '\n' := fun h => hs (by simp [h])
      simp [seqOf, Re.m, matchSimple, this]
  | cons it p ih =>
    intro i s hs
    obtain ⟨cs, r⟩ := it
    rw [Bool.eq_iff_iff, List.flatMap_cons, item_iff, matchSimple_cons_iff]
    exact exists_congr fun n => and_congr_right fun _ => by
      rw [ih (i + n) (s.drop n) fun h => hs (List.mem_of_mem_drop h)]

theorem parseFrom_append (a b : List Char) : ∀ st : PState,
    parseFrom st (a ++ b) = (parseFrom st a).bind fun st' => parseFrom st' b := by
  induction a with
  | nil => intro st; simp [parseFrom]
  | cons c a ih =>
    intro st
    simp only [List.cons_append, parseFrom]
    cases step st c with
    | none => simp
    | some st' => exact ih st'

/-- beyond its first three ranges (digits and ASCII letters) the `str.isalnum` table starts at U+00AA -/
theorem alnumRanges_tail : (Generated.C34.alnumRanges.drop 3).all (fun r => 170 ≤ r.1) = true := by decide +kernel

theorem isAlnum_ascii (c : Char) (h : c.toNat < 170) : isAlnum c = inRanges [(48, 57), (65, 90), (97, 122)] c := by
  have hsplit : Generated.C34.alnumRanges = [(48, 57), (65, 90), (97, 122)] ++ Generated.C34.alnumRanges.drop 3 := rfl
  have htail : inRanges (Generated.C34.alnumRanges.drop 3) c = false := by
    unfold inRanges
    rw [List.any_eq_false]
    intro r hr
    have := List.all_eq_true.1 alnumRanges_tail r hr
    simp only [decide_eq_true_eq] at this
    simp only [Bool.and_eq_true, decide_eq_true_eq, not_and]
    omega
  unfold isAlnum
  rw [hsplit]
  unfold inRanges at htail ⊢
  rw [List.any_append, htail, Bool.or_false]

/-- so that `step` in mode `esc` takes an escaped special character literally (`cs_parse`) -/
theorem special_not_alnum (c : Char) (h : isSpecial c = true) : isAlnum c = false := by
  have : ∀ c ∈ specials, c.toNat < 170 ∧ inRanges [(48, 57), (65, 90), (97, 122)] c = false := by decide
  obtain ⟨h1, h2⟩ := this c (List.contains_iff_mem.1 h)
  rw [isAlnum_ascii c h1, h2]

theorem cs_parse (cs : Cs) (top : Frame) (stack : List Frame) :
    parseFrom ⟨.normal, top, stack⟩ (renderCs cs) = some ⟨.normal, top.push (.ch cs), stack⟩ := by
  cases cs with
  | any => simp [renderCs, parseFrom, step]
  | lit c =>
    simp only [renderCs]
    split
    · rename_i h
      have := special_not_alnum c h
      simp [parseFrom, step, this]
    · rename_i h
      simp [isSpecial, specials] at h
      simp [parseFrom, step, h]

theorem rep_parse (cs : Cs) (r : Rep) (top : Frame) (stack : List Frame) :
    parseFrom ⟨.normal, top.push (.ch cs), stack⟩ (renderRep r) =
      some ⟨.normal, { top with cur := top.cur ++ itemRes (cs, r) }, stack⟩ := by
  cases r <;> simp [renderRep, parseFrom, step, applyPostfix, Frame.push, itemRes]

theorem simple_parse (stack : List Frame) (p : Simple) : ∀ top : Frame,
    parseFrom ⟨.normal, top, stack⟩ (renderSimple p) =
      some ⟨.normal, { top with cur := top.cur ++ p.flatMap itemRes }, stack⟩ := by
  induction p with
  | nil => intro top; simp [renderSimple, parseFrom]
  | cons it p ih =>
    intro top
    obtain ⟨cs, r⟩ := it
    have : renderSimple ((cs, r) :: p) = renderCs cs ++ (renderRep r ++ renderSimple p) := by
      simp [renderSimple]
    rw [this, parseFrom_append, cs_parse, Option.bind_some, parseFrom_append, rep_parse, Option.bind_some, ih]
    simp

theorem joinBar_cons (x : List Char) (l : List (List Char)) : joinBar (x :: l) = x ++ l.flatMap ('|' :: ·) := by
  induction l generalizing x with
  | nil => simp [joinBar]
  | cons y l ih =>
    rw [joinBar, ih]
    · simp
    · simp

/-- every `|` closes the branch being read -/
theorem bars_parse (stack : List Frame) (ps : List Simple) : ∀ top : Frame,
    ∃ top', parseFrom ⟨.normal, top, stack⟩ (ps.flatMap ('|' :: renderSimple ·)) = some ⟨.normal, top', stack⟩ ∧
      top'.neg = top.neg ∧
      top'.alts ++ [seqOf top'.cur] = top.alts ++ seqOf top.cur :: ps.map fun p => seqOf (p.flatMap itemRes) := by
  induction ps with
  | nil => exact fun top => ⟨top, rfl, rfl, rfl⟩
  | cons p ps ih =>
    intro top
    obtain ⟨top', h1, h2, h3⟩ := ih { top with alts := top.alts ++ [seqOf top.cur], cur := p.flatMap itemRes }
    refine ⟨top', ?_, h2, by simpa using h3⟩
    rw [List.flatMap_cons, List.cons_append, parseFrom]
    simp only [step, Char.reduceEq, ↓reduceIte]
    rw [parseFrom_append, simple_parse, Option.bind_some]
    simpa using h1

/-- the pattern text before the optional inversion: `^(?:alt|alt|…)$` -/
def coreStr (ps : List Simple) : List Char :=
  '^' :: (['(', '?', ':'] ++ joinBar (ps.map renderSimple) ++ [')']) ++ ['$']

/-- the expression `coreStr ps` is read as (`core_parse`) -/
def coreRe (ps : List Simple) : Re :=
  seqOf [.bol, altOf (ps.map fun p => seqOf (p.flatMap itemRes)), .eol]

/-- `^` is read as `.bol`, `(?:` opens a frame, `simple_parse` reads the first alternative, `bars_parse` the others, `)`
closes the frame into `altOf …`, `$` is read as `.eol` -/
theorem core_parse (ps : List Simple) (hne : ps ≠ []) (neg : Bool) (stack : List Frame) :
    ∃ top', parseFrom ⟨.normal, ⟨neg, [], []⟩, stack⟩ (coreStr ps) = some ⟨.normal, top', stack⟩ ∧
      top'.neg = neg ∧ top'.re = coreRe ps := by
  obtain ⟨p, ps, rfl⟩ := List.exists_cons_of_ne_nil hne
  obtain ⟨top', h1, h2, h3⟩ := bars_parse (⟨neg, [], [.bol]⟩ :: stack) ps ⟨false, [], p.flatMap itemRes⟩
  refine ⟨⟨neg, [], [.bol, altOf ((p :: ps).map fun p => seqOf (p.flatMap itemRes)), .eol]⟩, ?_, rfl, ?_⟩
  · simp only [coreStr, List.map_cons, joinBar_cons, List.flatMap_map, List.cons_append, List.nil_append,
      List.append_assoc, parseFrom, step, Char.reduceEq, ↓reduceIte, Frame.push]
    rw [parseFrom_append, simple_parse, Option.bind_some, parseFrom_append]
    simp only [List.nil_append, h1, Option.bind_some, parseFrom, step, Char.reduceEq, ↓reduceIte, Frame.re, h2,
      Frame.push]
    simp at h3
    simp [h3]
  · simp [Frame.re, coreRe, altOf]

/-- the pattern text `build_regex_string` builds (`build_tokens`) -/
def patStr (ps : List Simple) (inv : Bool) : List Char :=
  if inv then ['(', '?', '!'] ++ coreStr ps ++ [')'] else coreStr ps

/-- the expression `patStr ps inv` is read as (`pat_parse`) -/
def patRe (ps : List Simple) (inv : Bool) : Re := if inv then seqOf [.neg (coreRe ps)] else coreRe ps

theorem pat_parse (ps : List Simple) (hne : ps ≠ []) (inv : Bool) :
    parseRe (patStr ps inv) = some (patRe ps inv) := by
  unfold patStr patRe
  cases inv with
  | false =>
    obtain ⟨top', h1, _, h3⟩ := core_parse ps hne false []
    simp only [Bool.false_eq_true, ↓reduceIte, parseRe, h1, h3]
  | true =>
    obtain ⟨top', h1, h2, h3⟩ := core_parse ps hne true [⟨false, [], []⟩]
    simp only [↓reduceIte, parseRe, List.cons_append, List.nil_append, parseFrom, step, Char.reduceEq]
    rw [parseFrom_append, h1]
    simp only [Frame.re] at h3
    simp [parseFrom, step, h2, h3, Frame.push, Frame.re, altOf]

theorem pat_match (ps : List Simple) (inv : Bool) (name : List Char) (hn : '\n' ∉ name) :
    (patRe ps inv).matches name = (inv != ps.any (matchSimple · name)) := by
  have core : (coreRe ps).m 0 name (fun _ _ => true) = ps.any (matchSimple · name) := by
    simp only [coreRe, seqOf, Re.m, beq_self_eq_true, Bool.true_and]
    rw [altOf_m, List.any_map]
    congr 1
    funext p'
    exact simple_eol_m p' 0 name hn
  cases inv with
  | false => simp [patRe, Re.matches, core]
  | true =>
    simp only [patRe, ↓reduceIte, Re.matches, seqOf, Re.m, core, Bool.and_true]
    cases ps.any (matchSimple · name) <;> rfl

theorem renderToken_nil : renderToken [] = [] := rfl

theorem joinBar_tokens (ts : List Token) (h : ∀ t ∈ ts, t ≠ []) :
    joinBar (ts.map renderToken) = joinBar (ts.flatten.map renderSimple) := by
  have tail : ∀ ts : List Token, (∀ t ∈ ts, t ≠ []) →
      (ts.map renderToken).flatMap ('|' :: ·) = (ts.flatten.map renderSimple).flatMap ('|' :: ·) := by
    intro ts h
    induction ts with
    | nil => rfl
    | cons t ts ih =>
      obtain ⟨p, t', rfl⟩ := List.exists_cons_of_ne_nil (h t (by simp))
      simp [renderToken, joinBar_cons, ih fun u hu => h u (by simp [hu])]
  cases ts with
  | nil => rfl
  | cons t ts =>
    obtain ⟨p, t', rfl⟩ := List.exists_cons_of_ne_nil (h t (by simp))
    simp [renderToken, joinBar_cons, tail ts fun u hu => h u (by simp [hu])]

theorem build_tokens (ts : List Token) (hne : ts ≠ []) (hp : ∀ t ∈ ts, renderToken t ≠ []) (inv : Bool) :
    buildRegexString (ts.map renderToken) inv = some (patStr ts.flatten inv) := by
  have hf : (ts.map renderToken).filter (· ≠ []) = ts.map renderToken := by
    rw [List.filter_eq_self]
    intro t ht
    obtain ⟨p, hp', rfl⟩ := List.mem_map.mp ht
    simpa using hp p hp'
  have hnil : ∀ t ∈ ts, t ≠ [] := fun t ht h0 => hp t ht (h0 ▸ renderToken_nil)
  unfold buildRegexString
  simp only [hf]
  have : ts.map renderToken ≠ [] := by simpa using hne
  simp only [this, ↓reduceIte, patStr, coreStr, joinBar_tokens ts hnil]

theorem literal_render (name : List Char) (h : ∀ c ∈ name, isSpecial c = false) :
    renderSimple (literal name) = name := by
  induction name with
  | nil => rfl
  | cons c cs ih =>
    have hc := h c (by simp)
    have := ih (fun d hd => h d (by simp [hd]))
    simp only [renderSimple, literal, List.map_cons, List.flatMap_cons, renderCs, renderRep] at this ⊢
    simp [hc, this]

theorem literal_match (name s : List Char) : matchSimple (literal name) s = decide (s = name) := by
  induction name generalizing s with
  | nil => cases s <;> simp [literal, matchSimple]
  | cons c cs ih =>
    -- `ih` with `literal` unfolded, as the goal has it after the `rw`
    have ih' : ∀ s, matchSimple (cs.map fun c => (Cs.lit c, Rep.one)) s = decide (s = cs) := fun s => ih (s := s)
    rw [Bool.eq_iff_iff, literal, List.map_cons, matchSimple_cons_iff, ← Nat.or_exists_add_one]
    cases s <;> simp [Run, Rep.allows, Cs.accepts, ih', and_assoc, eq_comm (a := c)]

theorem literal_renderToken (n : List Char) (h : ∀ c ∈ n, isSpecial c = false) : renderToken [literal n] = n :=
  literal_render n h

theorem literal_matchToken (n name : List Char) : matchToken [literal n] name = (name == n) := by
  rw [matchToken, List.any_cons, literal_match, List.any_nil, Bool.or_false, Bool.beq_eq_decide_eq]

theorem plain_tokens (names : List (List Char)) (hn : ∀ n ∈ names, n ≠ [] ∧ ∀ c ∈ n, isSpecial c = false) :
    (names.map fun n => [literal n]).map renderToken = names ∧
    (∀ t ∈ names.map fun n => [literal n], renderToken t ≠ []) ∧
    ∀ wl name, selects (names.map fun n => [literal n]) wl name = (wl != names.contains name) := by
  refine ⟨?_, ?_, fun wl name => ?_⟩
  · rw [List.map_map]
    exact (List.map_congr_left fun n h => literal_renderToken n (hn n h).2).trans (List.map_id' names)
  · intro t ht
    obtain ⟨n, hmem, rfl⟩ := List.mem_map.mp ht
    rw [literal_renderToken n (hn n hmem).2]
    exact (hn n hmem).1
  · rw [selects, List.any_map, List.contains_eq_any_beq]
    simp only [Function.comp_def, literal_matchToken]

end Pkgcore.C34
