import Pkgcore.Proofs.C35
/-!
# C35 — the Python/daemon command protocol never deadlocks or desynchronises

All statements are about every state reachable from the initial state by *any* interleaving of steps of the two
sides (`Reachable`), with any number of requests, batched asynchronous expects of any length, any well typed
client program, death notices at any moment.  Proof: the invariant `Inv` (Proofs/C35.lean) holds initially and is
preserved by each of the 18 step rules.
-/
namespace Pkgcore.C35
open Pkgcore.C35.Spec

/-- the invariant holds in every reachable state -/
theorem invariant_holds {g : G} (h : Reachable g) : Inv g := by
  induction h with
  | init => exact inv_init
  | step _ hs ih => exact inv_step ih hs

/-- progress: whenever Python is blocked in a read, the daemon is not — it is running (and will write), or the command
it reads next is one its current loop knows -/
theorem waiting_progress {g : G} (h : Reachable g) (hw : PWaiting g) :
    (g.b = .running ∧ g.c = []) ∨ ∃ x cs, g.c = x :: cs ∧ (trans g.b x).isSome = true := by
  obtain ⟨hl, hd, hp⟩ := hw
  obtain ⟨_, m', hrun, hwf⟩ := inv_empty hl (invariant_holds h) hd
  cases hc : g.c with
  | cons x cs =>
    rw [hc] at hrun
    obtain ⟨b1, r, _, ht, _⟩ := run_cons_eq_some hrun
    exact Or.inr ⟨x, cs, rfl, by rw [ht]; rfl⟩
  | nil =>
    -- nothing in flight: no reply is owed, so Python sits in `generic_handler`, which is entered when the daemon runs
    rw [hc, run_nil] at hrun
    obtain ⟨rfl, hout⟩ := Prod.mk.inj (Option.some.inj hrun)
    rcases hp with ⟨ops, _, hne⟩ | ⟨ops, ho⟩
    · exact absurd hout.symm hne
    · rw [ho] at hwf
      simp only [wf, Bool.and_eq_true, beq_iff_eq] at hwf
      exact Or.inl ⟨hwf.1, rfl⟩

/-- **no_mutual_wait** — never are both sides blocked in a read on an empty channel. -/
theorem no_mutual_wait {g : G} (h : Reachable g) : ¬ (PWaiting g ∧ BWaiting g) := by
  rintro ⟨hp, hc, hb⟩
  rcases waiting_progress h hp with ⟨e, _⟩ | ⟨x, cs, e, _⟩
  · rcases hb with e' | e' | ⟨k, e'⟩ <;> simp [e] at e'
  · simp [hc] at e

/-- … and Python never waits for a daemon that is gone without its death notice being there to be read -/
theorem no_wait_for_gone_daemon {g : G} (h : Reachable g) : ¬ (PWaiting g ∧ BGone g) := by
  rintro ⟨hp, hb⟩
  rcases waiting_progress h hp with ⟨e, _⟩ | ⟨x, cs, _, ht⟩
  · rcases hb with e' | e' <;> simp [e] at e'
  · rcases hb with e | e <;> simp [e, trans_dead, trans_exited] at ht

example : PWaiting ⟨[.drain], [.yep], .live, .main, [], []⟩ ∧ BWaiting ⟨[.drain], [.yep], .live, .main, [], []⟩ :=
  ⟨⟨rfl, rfl, Or.inl ⟨[], rfl, by simp⟩⟩, rfl, Or.inl rfl⟩

/-- **request_reply_matched** — in no reachable state can either side read something it is not waiting for:
while expectations are outstanding the next line is the reply to the oldest outstanding request (or a death
notice); `generic_handler` only ever sees requests, notices, `phases` (or a death notice); the daemon only ever
reads commands its current loop knows — in particular after request `k` exactly the answers to `k`. -/
theorem request_reply_matched {g : G} (h : Reachable g) : ¬ PMisread g ∧ ¬ PUnhandled g ∧ ¬ BUnknown g := by
  refine ⟨?_, ?_, ?_⟩
  · rintro ⟨hl, o, ops, r, out, m, d, _, _, hout, hd, hne, hnd⟩
    have hp := inv_pop hl (invariant_holds h) hd
    cases m with
    | reply r' =>
      obtain ⟨out', hout', _⟩ := hp
      exact hne (by rw [(List.cons.inj (hout.symm.trans hout')).1])
    | death => exact hnd rfl
    | junk => exact hp
    | _ => rw [hout] at hp; cases hp.1
  · rintro ⟨hl, ops, m, d, _, hout, hd, hm⟩
    have hp := inv_pop hl (invariant_holds h) hd
    rcases hm with rfl | ⟨r, rfl⟩
    · exact hp
    · obtain ⟨out', hout', _⟩ := hp
      rw [hout] at hout'; cases hout'
  · rintro ⟨ha, _, x, cs, hc, ht⟩
    rcases inv_runnable (invariant_holds h) with hbd | ⟨m, rs, hrun⟩
    · rw [hbd] at ha; cases ha
    · rw [hc, run_cons_none ht] at hrun; cases hrun

/-- **unknown_command_ends_session (daemon side)** — in *any* state, reachable or not (e.g. a caller writing a command
at the wrong time): the only step that consumes a command the daemon's current loop does not know is the death step;
the command is never taken for something else. -/
theorem unknown_command_kills_daemon {g g' : G} {x : Cmd} {cs : List Cmd} (hs : Step g g')
    (hc : g.c = x :: cs) (hc' : g'.c = cs) (ht : trans g.b x = none) :
    g'.b = .dead ∧ g'.d = g.d ++ [.death] := by
  cases hs with
  | bCmd x' cs' b' r hcc htt =>
    rw [hc] at hcc
    obtain ⟨rfl, rfl⟩ := List.cons.inj hcc
    rw [ht] at htt; simp at htt
  | bUnknown => exact ⟨rfl, rfl⟩
  | _ =>
    -- every other step leaves `c` alone or appends to it: it has not taken the head off
    simp only at hc'; rw [hc] at hc'
    have := congrArg List.length hc'
    simp +arith at this

/-- **unknown_command_ends_session (Python side)** — in any state: if Python consumes a line that is not what it is
waiting for (not the expected reply while expectations are outstanding; not a request, notice or `phases` inside
`generic_handler`), the session is ended with an error. -/
theorem unknown_line_ends_session {g g' : G} {m : Msg} {d : List Msg} (hs : Step g g')
    (hd : g.d = m :: d) (hd' : g'.d = d)
    (hbad : (∃ r out, g.out = r :: out ∧ m ≠ .reply r) ∨ (g.out = [] ∧ (m = .junk ∨ ∃ r, m = .reply r))) :
    g'.st = .endedError := by
  -- a line `generic_handler` has a branch for is not one of the lines in question
  have handled : ∀ {x : Msg} {d1 : List Msg}, g.out = [] → g.d = x :: d1 → x ≠ .junk → (∀ r, x ≠ .reply r) →
      False := by
    intro x d1 hout hdd h1 h2
    obtain ⟨rfl, _⟩ := List.cons.inj (hd ▸ hdd)
    rcases hbad with ⟨r', out', ho', _⟩ | ⟨_, e | ⟨r, e⟩⟩
    · rw [hout] at ho'; cases ho'
    · exact h1 e
    · exact h2 r e
  cases hs with
  | pReadMismatch => rfl
  | pReadDeath => rfl
  | pHandleUnknown => rfl
  | pReadExpected r out d1 o ops _ _ _ hout hdd =>
    rw [hd] at hdd
    obtain ⟨rfl, _⟩ := List.cons.inj hdd
    rcases hbad with ⟨r', out', ho', hne⟩ | ⟨ho', _⟩
    · rw [hout] at ho'
      obtain ⟨rfl, _⟩ := List.cons.inj ho'
      exact absurd rfl hne
    · rw [hout] at ho'; simp at ho'
  | pHandleNote d1 ops _ _ hout hdd => exact (handled hout hdd (by simp) (by simp)).elim
  | pHandleRequest k ans d1 ops _ _ hout hdd => exact (handled hout hdd (by simp) (by simp)).elim
  | pHandlePhases d1 ops _ _ hout hdd => exact (handled hout hdd (by simp) (by simp)).elim
  | _ =>
    -- every other step leaves `d` alone or appends to it: it has not taken the head off
    simp only at hd'; rw [hd] at hd'
    have := congrArg List.length hd'
    simp +arith at this

/-- … and the daemon's death is never lost: as long as the session is live, the notice is in the channel, so the
next blocking read finds it (with `no_wait_for_gone_daemon`) -/
theorem death_notice_pending {g : G} (h : Reachable g) (hl : g.st = .live) (hb : g.b = .dead) : Msg.death ∈ g.d := by
  rcases inv_cases_of_live hl (invariant_holds h) with ⟨_, o, notes, t, hdd, _⟩ | ⟨hbd, _⟩
  · rw [hdd]; simp
  · exact absurd hb hbd

/-- **notice_forms_recognised** — every form of the death notice, in particular `dying <logfile>` for any log path
(build logging enabled), is a notice for the first-word test that every read applies. -/
theorem notice_forms_recognised (f : NoticeForm) : isNoticeLine f.line = true := by
  cases f with
  | dying arg =>
    cases arg with
    | none => decide
    | some a =>
      have : firstWord (wDying ++ ' ' :: a ++ ['\n']) = wDying := by
        simp [firstWord, wDying, List.takeWhile]
      simp only [isNoticeLine, NoticeForm.line, this]
      decide
  | sigint => decide
  | sigterm => decide

example : isNoticeLine "dying /var/log/portage/cat:pkg-1:20260922.log\n".toList = true ∧
    isNoticeLine "dying_not a notice\n".toList = false := by
  -- literals are unpacked first: the kernel's own evaluation of `toList` on a literal is quadratic in its length
  repeat rw [String.toList_ofList]
  decide +kernel

/-- **batch_reads_own_replies** — `_consume_async_expects` with `n` expectations outstanding takes exactly the `n`
replies to those requests off the pipe — whether they are the expected texts or not (`preload_eclass failed`) — and
leaves the pipe at the reply of the next request; its result is positive exactly when every reply is the expected
text.  (In particular a negative reply in the middle of a batch does not leave the later replies unread.) -/
theorem batch_reads_own_replies (expected replies rest : List Line)
    (hlen : replies.length = expected.length) (hn : ∀ l ∈ replies, isNoticeLine l = false) :
    consumeBatch expected (replies ++ rest) = .result (replies.map rstripNl == expected) rest := by
  unfold consumeBatch
  rw [← hlen, readLines_of_no_notice replies rest hn]

example : consumeBatch ["preload_eclass succeeded".toList, "preload_eclass succeeded".toList, "yep!".toList]
    ["preload_eclass succeeded\n".toList, "preload_eclass failed\n".toList, "yep!\n".toList, "yep!\n".toList]
    = .result false ["yep!\n".toList] := by
  repeat rw [String.toList_ofList]
  decide +kernel

/-- a death notice inside the batch interrupts it, an empty pipe blocks (the daemon still owes replies) -/
example : consumeBatch ["a".toList, "b".toList] ["a\n".toList, "dying /log\n".toList, "x\n".toList]
    = .interrupted ["x\n".toList] ∧ consumeBatch ["a".toList, "b".toList] ["a\n".toList] = .blocked := by decide +kernel

/-- **bashrc_items_answered** — after `request_bashrcs` the daemon answers every item Python sends: either one `next`
per item (for a sourced file whatever the exit status of `source` — a bashrc ending in a false test is fine —, for an
evaluated text when it evaluates), or it dies, and then its death notice is what Python's `expect("next")` reads.
Python is never left waiting for an acknowledgement that will not come. -/
theorem bashrc_items_answered (items : List BashrcItem) :
    ((sourceBashrcs items).length = items.length ∧ ∀ l ∈ sourceBashrcs items, l = .next) ∨
      BashrcLine.death ∈ sourceBashrcs items := by
  induction items with
  | nil => left; simp [sourceBashrcs]
  | cons it rest ih =>
    rcases it with st | (_ | n) | _
    · simpa [sourceBashrcs] using ih
    · simpa [sourceBashrcs] using ih
    · right; simp [sourceBashrcs]
    · right; simp [sourceBashrcs]

/-- sourced files: one `next` each, for all exit statuses -/
theorem bashrc_paths_acknowledged (sts : List Nat) :
    sourceBashrcs (sts.map .path) = sts.map fun _ => .next := by
  induction sts with
  | nil => rfl
  | cons s rest ih => simp [sourceBashrcs, ih]

example : sourceBashrcs [.path 0, .path 1, .path 3, .transfer 0] = [.next, .next, .next, .next] ∧
    sourceBashrcs [.path 1, .transfer 2, .path 0] = [.next, .death] := by decide +kernel

/-! ## the handler table is the session's own -/

/-- **session_calls_only_own_handlers** — whatever a session dispatches to an additional handler is one of the additional
commands passed to *this* `generic_handler` call. -/
theorem session_calls_only_own_handlers (extra lines : List Line) :
    ∀ w ∈ (handlerSession extra lines).1, w ∈ extra := by
  induction lines with
  | nil => simp [handlerSession]
  | cons l rest ih =>
    unfold handlerSession
    by_cases h : firstWord l ∈ extra
    · simp only [h, if_true]
      intro w hw
      rcases List.mem_cons.mp hw with rfl | hw
      · exact h
      · exact ih w hw
    · simp only [h, if_false]
      split <;> (try split) <;> simp

/-- **unknown_in_session_ends_it** — on a pooled processor, after ANY history of earlier sessions (whatever additional
commands they registered), a line whose command is neither a fixed command nor one of the current session's additional
commands ends the current session with UnhandledCommand for exactly that line, after the session's own commands before
it were served; nothing after it is consumed. -/
theorem unknown_in_session_ends_it (hist : List (List Line × List Line)) (extra pre : List Line) (l : Line)
    (rest : List Line) (hpre : ∀ x ∈ pre, firstWord x ∈ extra) (hx : firstWord l ∉ extra)
    (hb : firstWord l ∉ baseWords) :
    (serveSessions (hist ++ [(extra, pre ++ l :: rest)])).getLast? = some (pre.map firstWord, .unhandled l) := by
  have hs : ∀ pre : List Line, (∀ x ∈ pre, firstWord x ∈ extra) →
      handlerSession extra (pre ++ l :: rest) = (pre.map firstWord, .unhandled l) := by
    intro pre
    induction pre with
    | nil =>
      intro _
      have h1 : (firstWord l == wPhases) = false := by
        apply beq_false_of_ne
        intro h; exact hb (by simp [baseWords, h])
      have h2 : firstWord l ∉ otherBaseWords := by
        intro h; exact hb (by simp [baseWords, h])
      simp [handlerSession, hx, h1, h2]
    | cons p ps ih =>
      intro hp
      have := ih (fun x hx' => hp x (List.mem_cons_of_mem _ hx'))
      simp [handlerSession, hp p (List.mem_cons_self ..), this]
  simp [serveSessions, hs pre hpre]

/-- **session_independent_of_history** — what a session does is a function of its own additional commands and of the
lines the daemon sends in it; the sessions served before on the same processor do not enter. -/
theorem session_independent_of_history (h1 h2 : List (List Line × List Line)) (s : List Line × List Line) :
    (serveSessions (h1 ++ [s])).getLast? = (serveSessions (h2 ++ [s])).getLast? := by
  simp [serveSessions]

example : serveSessions [(["request_inherit".toList, "key".toList], ["request_inherit foo\n".toList, "key A=1\n".toList,
      "phases succeeded\n".toList]),
    (["probe".toList], ["probe\n".toList, "request_inherit foo\n".toList, "phases succeeded\n".toList])]
    = [(["request_inherit".toList, "key".toList], .finished),
      (["probe".toList], .unhandled "request_inherit foo\n".toList)] := by
  repeat rw [String.toList_ofList]
  decide +kernel

/-! ## the programs of the real API are instances of the quantified client programs -/

/-- `is_responsive`, `preload_eclasses` (any batch size, synchronous or asynchronous), `clear_preloaded_eclasses`,
`_ensure_metadata_paths`, `_run_depend_like_phase`, `run_phase` (with/without logging), `shutdown_processor` -/
theorem api_programs_wf :
    wf .main progResponsive = true ∧ (∀ n sync, wf .main (progPreload n sync) = true) ∧ wf .main progClear = true ∧
    wf .main progMetaPath = true ∧ (∀ sp, wf .main (progDepend sp) = true) ∧
    (∀ lg, wf .main (progRunPhase lg) = true) ∧ wf .main progShutdown = true := by
  have asks : ∀ n tail, wf .main tail = true → wf .main (List.replicate n (.ask .preload) ++ tail) = true := by
    intro n tail h
    induction n with
    | zero => simpa using h
    | succ n ih => simpa [List.replicate_succ, wf, trans, expected] using ih
  refine ⟨by decide, ?_, by decide, by decide, by decide, by decide, by decide⟩
  intro n sync
  cases sync
  · exact asks n _ (by decide)
  · exact asks n _ (by decide)

/-- the handlers' answers: an IPC reply, `path`+path for an inherit, any number of bashrcs each acknowledged with
`next` then `end_request`, any number of summary lines then `end_sandbox_summary` -/
theorem answers_wf :
    wfTo (.wait .ipc) ansIpc .running = true ∧ wfTo (.wait .inherit) ansInherit .running = true ∧
    (∀ n, wfTo (.wait .bashrcs) (ansBashrcs n) .running = true) ∧
    (∀ n, wfTo (.wait .summary) (ansSummary n) .running = true) := by
  refine ⟨by decide, by decide, ?_, ?_⟩
  · intro n
    induction n with
    | zero => decide
    | succ n ih => simpa [ansBashrcs, List.replicate_succ, wfTo, trans, expected] using ih
  · intro n
    induction n with
    | zero => decide
    | succ n ih => simpa [ansSummary, List.replicate_succ, wfTo, trans] using ih

/-- non-vacuity: a state in the middle of a phase (an asynchronous preload answered and read on the way, an IPC request
just issued, Python inside `generic_handler`) is reachable -/
example : Reachable ⟨[.handler], [], .live, .wait .ipc, [], [.request .ipc]⟩ := by
  have s0 := Reachable.init
  have s1 := Reachable.step s0 (Step.pStart _ (progPreload 1 false ++ progRunPhase false) rfl rfl (by decide))
  have s2 := Reachable.step s1 (Step.pAsk _ .preload .preloadDone _ rfl rfl rfl)
  have s3 := Reachable.step s2 (Step.pCmd _ .processEbuild _ rfl rfl)
  have s4 := Reachable.step s3 (Step.bCmd _ .preload _ .main (some .preloadDone) rfl rfl)
  have s5 := Reachable.step s4 (Step.pAsk _ .startEnv .envDone _ rfl rfl rfl)
  have s6 := Reachable.step s5 (Step.bCmd _ .processEbuild _ .setup none rfl rfl)
  have s7 := Reachable.step s6 (Step.bCmd _ .startEnv _ .setup (some .envDone) rfl rfl)
  have s8 := Reachable.step s7
    (Step.pReadExpected _ .preloadDone [.envDone] [.reply .envDone] .drain _ rfl rfl (Or.inl rfl) rfl rfl)
  have s9 := Reachable.step s8 (Step.pReadExpected _ .envDone [] [] .drain _ rfl rfl (Or.inl rfl) rfl rfl)
  have s10 := Reachable.step s9 (Step.pDrainDone _ _ rfl rfl rfl)
  have s11 := Reachable.step s10 (Step.pCmd _ .sandboxState _ rfl rfl)
  have s12 := Reachable.step s11 (Step.pCmd _ .startProcessing _ rfl rfl)
  have s13 := Reachable.step s12 (Step.bCmd _ .sandboxState _ .setup none rfl rfl)
  have s14 := Reachable.step s13 (Step.bCmd _ .startProcessing _ .running none rfl rfl)
  have s15 := Reachable.step s14 (Step.bRequest _ .ipc rfl)
  exact s15

end Pkgcore.C35
