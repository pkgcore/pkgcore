import Pkgcore.Proofs.C05Order
/-! C05 — the version clause of `intersects` on the order of `Proofs/C05Order`: `<`, `<=`, `>`, `>=` are rays
(`sat_upper`, `sat_lower`), `=` is a point (`sat_eq`), `~` the points of one version value (`sat_tilde`), `=*` what
`verGlobMatch` accepts (`sat_glob`); all but the strict rays contain their own version (`sat_own`).  `Decides a b t w`
says that the test `t` answers whether two constraints have a common version and that `w` is one; every branch of
`vInter` is such a statement, up to swapping the arguments (`vInter_decides`).  Last, `matchSpec` and `intersects`
clause by clause (`matchSpec_eq`, `intersects_eq`, `verPart_decides`); their USE clause is in `Proofs/C05Use`. -/
namespace Pkgcore.C05
open Pkgcore.C01 Pkgcore.C01.Spec Pkgcore.C04 Pkgcore.C04.Spec Pkgcore.C05.Spec Std
open Pkgcore.C02 (Op Str)

attribute [local instance] lexOrd

/-- the point `x` satisfies the version constraint `c`.  `VC` is `Op × Pt`: `c.2` is the constraint's own version as a
point, the end point of a range -/
def Sat (c : VC) (x : Pt) : Prop := opSpec c.1 c.2.1 c.2.2 x.1 x.2 = true

theorem vMatch_eq_opSpec (op : Op) (v : Ver) (r : Str) (pv : Ver) (pr : Str) (hop : op ≠ .glob) :
    vMatch op v r pv pr = opSpec op v r pv pr := by
  obtain ⟨vals, d, e, h⟩ := opVals_spec op hop
  simp only [vMatch, e, h, Bool.bne_false]

theorem vMatch_iff_sat (op : Op) (v : Ver) (r : Str) (p : Pt) (hop : op ≠ .glob) :
    vMatch op v r p.1 p.2 = true ↔ Sat (op, v, r) p := by
  rw [vMatch_eq_opSpec op v r p.1 p.2 hop]; rfl

theorem sat_glob (v : Ver) (r : Str) (x : Pt) (hv : WF v) (hx : WF x.1) :
    Sat (.glob, v, r) x ↔ verGlobMatch v r x.1 x.2 = true := by
  unfold Sat opSpec
  rw [← verGlobMatch_eq_spec v r x.1 x.2 hv hx]

theorem sat_tilde (v : Ver) (r : Str) (x : Pt) (hv : WF v) (hx : WF x.1) :
    Sat (.tilde, v, r) x ↔ VK x.1 = VK v := by
  unfold Sat opSpec
  simp only [beq_iff_eq]
  exact pmsCmp_none_eq_iff_VK x.1 v hx hv

theorem sat_eq (v : Ver) (r : Str) (x : Pt) (hv : WF v) (hx : WF x.1) :
    Sat (.eq, v, r) x ↔ PK x = PK (v, r) := by
  unfold Sat opSpec
  simp only [beq_iff_eq]
  rw [pmsCmp_eq_PK x.1 v x.2 r hx hv]
  exact PK_eq_iff

theorem sat_congr (c : VC) (x y : Pt) (hc : WF c.2.1) (hx : WF x.1) (hy : WF y.1) (h : PK x = PK y) :
    Sat c x ↔ Sat c y := by
  unfold Sat
  have heq : pmsCmp x.1 (some x.2) y.1 (some y.2) = .eq := by
    rw [pmsCmp_eq_PK _ _ _ _ hx hy]; exact PK_eq_iff.mpr h
  rw [opSpec_congr_key c.1 hc hc hx hy rfl (key_of_pms_eq x.1 y.1 x.2 y.2 hx hy heq)]

theorem ranged_ne_glob {o : Op} (h : isRanged o = true) : o ≠ .glob := by
  cases o <;> simp_all [isRanged, isLtOp, isGtOp]

theorem lt_or_gt_of_ranged {o : Op} (h : isRanged o = true) : isLtOp o = true ∨ isGtOp o = true := by
  simpa [isRanged] using h

theorem isGtOp_false_of_isLtOp {o : Op} (h : isLtOp o = true) : isGtOp o = false := by
  cases o <;> simp_all [isLtOp, isGtOp]

theorem isLtOp_false_of_isGtOp {o : Op} (h : isGtOp o = true) : isLtOp o = false := by
  cases o <;> simp_all [isLtOp, isGtOp]

theorem op_cases (o : Op) : isRanged o = true ∨ o = .eq ∨ o = .tilde ∨ o = .glob := by
  cases o <;> simp [isRanged, isLtOp, isGtOp]

theorem sat_upper (c : VC) (x : Pt) (h : isLtOp c.1 = true) (hv : WF c.2.1) (hx : WF x.1) :
    Sat c x ↔ Rel (isStrict c.1) x c.2 := by
  obtain ⟨o, v, r⟩ := c
  unfold Sat opSpec
  cases o <;> simp only [isLtOp, Bool.false_eq_true] at h <;> simp only [pmsCmp_eq_PK x.1 v x.2 r hx hv]
  case lt => exact beq_iff_eq
  case le => exact bne_iff_ne.trans Ordering.isLE_iff_ne_gt.symm

theorem sat_lower (c : VC) (x : Pt) (h : isGtOp c.1 = true) (hv : WF c.2.1) (hx : WF x.1) :
    Sat c x ↔ Rel (isStrict c.1) c.2 x := by
  obtain ⟨o, v, r⟩ := c
  unfold Sat opSpec
  cases o <;> simp only [isGtOp, Bool.false_eq_true] at h <;> simp only [pmsCmp_eq_PK x.1 v x.2 r hx hv]
  case ge => exact bne_iff_ne.trans (Ordering.isGE_iff_ne_lt.symm.trans OrientedCmp.isGE_iff_isLE)
  case gt => exact beq_iff_eq.trans OrientedCmp.gt_iff_lt

theorem sat_of_LT_own (c : VC) (w : Pt) (h : isLtOp c.1 = true) (hv : WF c.2.1) (hw : WF w.1) (l : LT w c.2) :
    Sat c w :=
  (sat_upper c w h hv hw).mpr (Rel_of_LT l)

theorem sat_of_own_LT (c : VC) (w : Pt) (h : isGtOp c.1 = true) (hv : WF c.2.1) (hw : WF w.1) (l : LT c.2 w) :
    Sat c w :=
  (sat_lower c w h hv hw).mpr (Rel_of_LT l)

theorem sat_own (c : VC) (hs : isStrict c.1 = false) (hv : WF c.2.1) : Sat c c.2 := by
  obtain ⟨o, v, r⟩ := c
  cases o
  case lt | gt => cases hs
  case le => exact (sat_upper (.le, v, r) _ rfl hv hv).mpr (LE_refl _)
  case ge => exact (sat_lower (.ge, v, r) _ rfl hv hv).mpr (LE_refl _)
  case eq => exact (sat_eq v r _ hv hv).mpr rfl
  case tilde => exact (sat_tilde v r _ hv hv).mpr rfl
  case glob => exact (sat_glob v r _ hv hv).mpr (glob_own v r)

def Decides (a b : VC) (t : Bool) (w : Pt) : Prop :=
  (t = true → Sat a w ∧ Sat b w ∧ WF w.1) ∧ ∀ x : Pt, WF x.1 → Sat a x → Sat b x → t = true

theorem Decides.symm {a b : VC} {t : Bool} {w : Pt} (h : Decides a b t w) : Decides b a t w :=
  ⟨fun ht => ⟨(h.1 ht).2.1, (h.1 ht).1, (h.1 ht).2.2⟩, fun x hx sb sa => h.2 x hx sa sb⟩

theorem Decides.of_mem {a b : VC} {w : Pt} (sa : Sat a w) (sb : Sat b w) (ww : WF w.1) : Decides a b true w :=
  ⟨fun _ => ⟨sa, sb, ww⟩, fun _ _ _ _ => rfl⟩

theorem Decides.ite {a b : VC} {c : Prop} [Decidable c] {t1 t2 : Bool} {w1 w2 : Pt}
    (h1 : c → Decides a b t1 w1) (h2 : ¬ c → Decides a b t2 w2) :
    Decides a b (if c then t1 else t2) (if c then w1 else w2) := by
  by_cases h : c
  · rw [if_pos h, if_pos h]; exact h1 h
  · rw [if_neg h, if_neg h]; exact h2 h

/-- a lower and an upper bound with a common version: each contains the other's end point, and two strict bounds
on one version value are more than one revision apart -/
theorem opposite_complete (l u : VC) (hl : isGtOp l.1 = true) (hu : isLtOp u.1 = true) (wl : WF l.2.1) (wu : WF u.2.1)
    (x : Pt) (hx : WF x.1) (s1 : Sat l x) (s2 : Sat u x) :
    Sat u l.2 ∧ Sat l u.2 ∧ (isStrict l.1 = true → isStrict u.1 = true → VK l.2.1 = VK u.2.1 →
      natOfDigits l.2.2 + 1 < natOfDigits u.2.2) := by
  rw [sat_lower l x hl wl hx] at s1
  rw [sat_upper u x hu wu hx] at s2
  refine ⟨(sat_upper u _ hu wu wl).mpr (Rel_of_LE_of_Rel (LE_of_Rel s1) s2),
    (sat_lower l _ hl wl wu).mpr (Rel_of_Rel_of_LE s1 (LE_of_Rel s2)), fun e1 e2 hv => ?_⟩
  rw [e1] at s1; rw [e2] at s2
  have hxv : VK x.1 = VK l.2.1 := sandwich_VK (a := l.2) (c := u.2) (LE_of_LT s1) (LE_of_LT s2) hv
  have a1 := (LT_sameV (a := l.2) (b := x) hxv.symm).mp s1
  have a2 := (LT_sameV (a := x) (b := u.2) (hxv.trans hv)).mp s2
  omega

/-- a strict lower bound under the end point of an upper bound, the two more than one revision apart: the revision
after the lower bound satisfies both -/
theorem opposite_strict (l u : VC) (hl : isGtOp l.1 = true) (hu : isLtOp u.1 = true) (sl : isStrict l.1 = true)
    (wl : WF l.2.1) (wu : WF u.2.1) (h : Sat l u.2)
    (gap : VK l.2.1 = VK u.2.1 →
      (natOfDigits l.2.2 - natOfDigits u.2.2) + (natOfDigits u.2.2 - natOfDigits l.2.2) > 1) :
    Sat l (above l.2.1 l.2.2) ∧ Sat u (above l.2.1 l.2.2) := by
  rw [sat_lower l _ hl wl wu, sl] at h
  have sb := strict_between l.2 u.2 h fun hv => by
    have := gap hv
    have := (LT_sameV hv).mp h
    omega
  exact ⟨sat_of_own_LT l _ hl wl wl (LT_above _ _), sat_of_LT_own u _ hu wu wl sb⟩

theorem rangedVs_ranged_iff (rg ot : VC) (hro : isRanged rg.1 = true) (hoo : isRanged ot.1 = true)
    (hrv : WF rg.2.1) (hov : WF ot.2.1) :
    rangedVs rg ot = true ↔
      Sat ot rg.2 ∧ Sat rg ot.2 ∧
        (isStrict rg.1 = true → isStrict ot.1 = true → VK rg.2.1 = VK ot.2.1 →
          (natOfDigits rg.2.2 - natOfDigits ot.2.2) + (natOfDigits ot.2.2 - natOfDigits rg.2.2) > 1) := by
  obtain ⟨ro, rv, rr⟩ := rg
  obtain ⟨oo, ov, orv⟩ := ot
  unfold rangedVs
  simp only [hoo, if_true]
  rw [vMatch_eq_opSpec oo ov orv rv rr (ranged_ne_glob hoo), vMatch_eq_opSpec ro rv rr ov orv (ranged_ne_glob hro)]
  unfold Sat
  by_cases h1 : opSpec oo ov orv rv rr = true
  · by_cases h2 : opSpec ro rv rr ov orv = true
    · simp only [h1, h2, Bool.and_self, Bool.not_true, Bool.false_eq_true, if_false, true_and]
      by_cases h3 : (isStrict ro && isStrict oo && (verCmp rv none ov none == .eq)) = true
      · simp only [h3, if_true, decide_eq_true_eq]
        simp only [Bool.and_eq_true] at h3
        constructor
        · intro g _ _ _; exact g
        · intro g; exact g h3.1.1 h3.1.2 ((verCmp_none_eq_iff_VK rv ov hrv hov).mp h3.2)
      · simp only [h3, Bool.false_eq_true, if_false, true_iff]
        intro s1 s2 hv
        exact absurd (by simp [s1, s2, (verCmp_none_eq_iff_VK rv ov hrv hov).mpr hv]) h3
    · simp [h1, h2]
  · simp [h1]

theorem decides_ranged_ranged (rg ot : VC) (hro : isRanged rg.1 = true) (hoo : isRanged ot.1 = true)
    (hll : (isLtOp rg.1 && isLtOp ot.1) = false) (hgg : (isGtOp rg.1 && isGtOp ot.1) = false)
    (wr : WF rg.2.1) (wo : WF ot.2.1) : Decides rg ot (rangedVs rg ot) (rangedWitness rg ot) := by
  have dir : (isLtOp rg.1 = true ∧ isGtOp ot.1 = true) ∨ (isGtOp rg.1 = true ∧ isLtOp ot.1 = true) := by
    rcases lt_or_gt_of_ranged hro with hr | hr <;> rcases lt_or_gt_of_ranged hoo with ho | ho
    · rw [hr, ho] at hll; cases hll
    · exact Or.inl ⟨hr, ho⟩
    · exact Or.inr ⟨hr, ho⟩
    · rw [hr, ho] at hgg; cases hgg
  /- the test by `rangedVs_ranged_iff`.  Yes ⇒ witness: an end point that is not strict is in both; with two strict
  ones `opposite_strict`, taken from the lower bound whichever argument that is.  Common version ⇒ yes:
  `opposite_complete` in either direction.  The `omega`s turn its `a + 1 < b` into the model's `|a - b| > 1`. -/
  rw [Decides, rangedVs_ranged_iff rg ot hro hoo wr wo]
  refine ⟨fun ⟨h1, h2, h3⟩ => ?_, fun x hx s1 s2 => ?_⟩
  · simp only [rangedWitness, hoo, if_true]
    by_cases c1 : isStrict rg.1 = true
    · by_cases c2 : isStrict ot.1 = true
      · simp only [c1, c2, Bool.not_true, Bool.false_eq_true, if_false]
        rcases dir with ⟨hr, ho⟩ | ⟨hr, ho⟩
        · rw [isGtOp_false_of_isLtOp hr, if_neg Bool.false_ne_true]
          have := opposite_strict ot rg ho hr c2 wo wr h1 fun hv => by
            have := h3 c1 c2 hv.symm; omega
          exact ⟨this.2, this.1, wo⟩
        · rw [if_pos hr]
          have := opposite_strict rg ot hr ho c1 wr wo h2 (h3 c1 c2)
          exact ⟨this.1, this.2, wr⟩
      · rw [Bool.not_eq_true] at c2
        simp only [c1, c2, Bool.not_true, Bool.not_false, Bool.false_eq_true, if_false, if_true]
        exact ⟨h2, sat_own ot c2 wo, wo⟩
    · rw [Bool.not_eq_true] at c1
      simp only [c1, Bool.not_false, if_true]
      exact ⟨sat_own rg c1 wr, h1, wr⟩
  · rcases dir with ⟨hr, ho⟩ | ⟨hr, ho⟩
    · have ⟨a, b, c⟩ := opposite_complete ot rg ho hr wo wr x hx s2 s1
      exact ⟨b, a, fun e1 e2 hv => by have := c e2 e1 hv.symm; omega⟩
    · have ⟨a, b, c⟩ := opposite_complete rg ot hr ho wr wo x hx s1 s2
      exact ⟨a, b, fun e1 e2 hv => by have := c e1 e2 hv; omega⟩

/-- a range against `~ov`: either the range contains `ov` itself, or it is a lower bound at some revision of `ov` -/
theorem decides_ranged_tilde (rg : VC) (ov : Ver) (orv : Str) (hro : isRanged rg.1 = true)
    (wr : WF rg.2.1) (wo : WF ov) (hz : natOfDigits orv = 0) :
    Decides rg (.tilde, ov, orv) (rangedVs rg (.tilde, ov, orv)) (rangedWitness rg (.tilde, ov, orv)) := by
  have hm := vMatch_iff_sat rg.1 rg.2.1 rg.2.2 (ov, orv) (ranged_ne_glob hro)
  have ht : vMatch .tilde ov orv rg.2.1 rg.2.2 = true ↔ VK rg.2.1 = VK ov :=
    (vMatch_iff_sat .tilde ov orv rg.2 (by decide)).trans (sat_tilde ov orv _ wo wr)
  have own : Sat (.tilde, ov, orv) (ov, orv) := sat_own _ rfl wo
  have nr : isRanged .tilde = false := rfl
  simp only [rangedVs, rangedWitness, nr, Bool.false_eq_true, if_false, if_true]
  refine .ite (fun m => .of_mem (hm.mp m) own wo) fun m => ?_
  simp only [Decides, Bool.and_eq_true, ht]
  refine ⟨fun ⟨hg, hv⟩ => ?_, fun x hx s1 s2 => ?_⟩
  · refine ⟨sat_of_own_LT rg _ hg wr (above_WF _ _ wo) ?_,
      (sat_tilde ov orv _ wo (above_WF _ _ wo)).mpr rfl, above_WF _ _ wo⟩
    apply (LT_sameV (a := rg.2) (b := above ov rg.2.2) hv).mpr
    simp only [above, natOfDigits_toDigits]; omega
  · have hvx : VK x.1 = VK ov := (sat_tilde ov orv x wo hx).mp s2
    -- `ov-r0` is the least version with this value
    have hle : LE (ov, orv) x := (LE_sameV (a := (ov, orv)) (b := x) hvx.symm).mpr (by simp only [hz]; omega)
    rcases lt_or_gt_of_ranged hro with hr | hr
    · rw [sat_upper rg _ hr wr hx] at s1
      exact absurd (hm.mpr ((sat_upper rg _ hr wr wo).mpr (Rel_of_LE_of_Rel hle s1))) m
    · rw [sat_lower rg _ hr wr hx] at s1
      have h1 : LE (ov, orv) rg.2 := LE_of_Rel (not_Rel.mp fun h => m (hm.mpr ((sat_lower rg _ hr wr wo).mpr h)))
      exact ⟨hr, sandwich_VK (a := (ov, orv)) (y := rg.2) (c := x) h1 (LE_of_Rel s1) hvx.symm⟩

/-- a range against `=ov-rorv*`: either the range contains `ov-rorv` itself, or its end point is matched by the
revision-less glob (whose versions are contiguous and have no least or greatest element) -/
theorem decides_ranged_glob (rg : VC) (ov : Ver) (orv : Str) (hro : isRanged rg.1 = true)
    (wr : WF rg.2.1) (wo : WF ov) :
    Decides rg (.glob, ov, orv) (rangedVs rg (.glob, ov, orv)) (rangedWitness rg (.glob, ov, orv)) := by
  have hm := vMatch_iff_sat rg.1 rg.2.1 rg.2.2 (ov, orv) (ranged_ne_glob hro)
  have own : Sat (.glob, ov, orv) (ov, orv) := sat_own _ rfl wo
  have nr : isRanged .glob = false := rfl
  simp only [rangedVs, rangedWitness, nr, Bool.false_eq_true, if_false, if_true, reduceCtorEq]
  refine .ite (fun m => .of_mem (hm.mp m) own wo) fun m => ?_
  have hns : ¬ Sat rg (ov, orv) := fun h => m (hm.mpr h)
  unfold Decides
  by_cases hz : natOfDigits orv = 0
  · have hs : ∀ y : Pt, WF y.1 → (Sat (.glob, ov, orv) y ↔ GlobV ov (VK y.1)) := fun y hy =>
      (sat_glob ov orv y wo hy).trans (glob_norev ov orv _ _ wo hy hz)
    simp only [hz, ne_eq, not_true_eq_false, if_false, glob_norev ov [] _ _ wo wr natOfDigits_nil]
    refine ⟨fun h => ?_, fun x hx s1 s2 => ?_⟩
    · rcases lt_or_gt_of_ranged hro with hr | hr
      · simp only [hr, if_true]
        exact ⟨sat_of_LT_own rg _ hr wr (below_WF _ wr) (below_LT _ _),
          (hs _ (below_WF _ wr)).mpr (globV_below ov _ h), below_WF _ wr⟩
      · simp only [isLtOp_false_of_isGtOp hr, Bool.false_eq_true, if_false]
        exact ⟨sat_of_own_LT rg _ hr wr (above_WF _ _ wr) (LT_above _ _), (hs _ (above_WF _ _ wr)).mpr h,
          above_WF _ _ wr⟩
    · -- `x` and the glob's own version are both matched; the end point of the range lies between them
      have gx := (hs x hx).mp s2
      have go := (hs _ wo).mp own
      rcases lt_or_gt_of_ranged hro with hr | hr
      · rw [sat_upper rg _ hr wr hx] at s1
        rw [sat_upper rg _ hr wr wo] at hns
        exact globV_between ov gx go (LE_of_Rel s1) (LE_of_Rel (not_Rel.mp hns))
      · rw [sat_lower rg _ hr wr hx] at s1
        rw [sat_lower rg _ hr wr wo] at hns
        exact globV_between ov go gx (LE_of_Rel (not_Rel.mp hns)) (LE_of_Rel s1)
  · simp only [hz, ne_eq, not_false_eq_true, if_true]
    refine ⟨fun h => (nomatch h), fun x hx s1 s2 => ?_⟩
    -- with a revision the glob matches its own version only
    have := (glob_rev ov orv x.1 x.2 wo hx hz).mp ((sat_glob ov orv x wo hx).mp s2)
    exact absurd ((sat_congr rg x (ov, orv) wr hx wo this.symm).mp s1) hns

/-- a version constraint as `atom.__init__` produces it: valid version; `~` never carries a revision -/
def VCok (c : VC) : Prop := WF c.2.1 ∧ (c.1 = .tilde → natOfDigits c.2.2 = 0)

theorem decides_ranged (rg ot : VC) (hro : isRanged rg.1 = true) (hoe : ot.1 ≠ .eq)
    (hll : (isLtOp rg.1 && isLtOp ot.1) = false) (hgg : (isGtOp rg.1 && isGtOp ot.1) = false)
    (wr : WF rg.2.1) (ho : VCok ot) : Decides rg ot (rangedVs rg ot) (rangedWitness rg ot) := by
  obtain ⟨oo, ov, orv⟩ := ot
  rcases op_cases oo with h | rfl | rfl | rfl
  · exact decides_ranged_ranged rg _ hro h hll hgg wr ho.1
  · exact absurd rfl hoe
  · exact decides_ranged_tilde rg ov orv hro wr ho.1 (ho.2 rfl)
  · exact decides_ranged_glob rg ov orv hro wr ho.1

theorem decides_both_upper (a b : VC) (ha : isLtOp a.1 = true) (hb : isLtOp b.1 = true) (wa : WF a.2.1)
    (wb : WF b.2.1) : Decides a b true
      (if (verCmp a.2.1 (some a.2.2) b.2.1 (some b.2.2) == .gt) = true then below b.2.1 else below a.2.1) := by
  rw [verCmp_eq_PK _ _ _ _ wa wb]
  by_cases hg : (compare (PK a.2) (PK b.2) == .gt) = true
  · have hba : LT b.2 a.2 := OrientedCmp.lt_of_gt (cmp := (compare : VKT × Nat → _)) (beq_iff_eq.mp hg)
    rw [if_pos hg]
    exact .of_mem (sat_of_LT_own a _ ha wa (below_WF _ wb) (LT_trans (below_LT _ _) hba))
      (sat_of_LT_own b _ hb wb (below_WF _ wb) (below_LT _ _)) (below_WF _ wb)
  · have hab : LE a.2 b.2 := Ordering.isLE_iff_ne_gt.mpr fun e => hg (beq_iff_eq.mpr e)
    rw [if_neg hg]
    exact .of_mem (sat_of_LT_own a _ ha wa (below_WF _ wa) (below_LT _ _))
      (sat_of_LT_own b _ hb wb (below_WF _ wa) (LT_of_LT_of_LE (below_LT _ _) hab)) (below_WF _ wa)

theorem decides_both_lower (a b : VC) (ha : isGtOp a.1 = true) (hb : isGtOp b.1 = true) (wa : WF a.2.1)
    (wb : WF b.2.1) : Decides a b true
      (if (verCmp a.2.1 (some a.2.2) b.2.1 (some b.2.2) == .lt) = true then above b.2.1 b.2.2
        else above a.2.1 a.2.2) := by
  rw [verCmp_eq_PK _ _ _ _ wa wb]
  by_cases hl : (compare (PK a.2) (PK b.2) == .lt) = true
  · have hab : LT a.2 b.2 := beq_iff_eq.mp hl
    rw [if_pos hl]
    exact .of_mem (sat_of_own_LT a _ ha wa (above_WF _ _ wb) (LT_trans hab (LT_above _ _)))
      (sat_of_own_LT b _ hb wb (above_WF _ _ wb) (LT_above _ _)) (above_WF _ _ wb)
  · have hba : LE b.2 a.2 := not_LT.mp fun e => hl (beq_iff_eq.mpr e)
    rw [if_neg hl]
    exact .of_mem (sat_of_own_LT a _ ha wa (above_WF _ _ wa) (LT_above _ _))
      (sat_of_own_LT b _ hb wb (above_WF _ _ wa) (LT_of_LE_of_LT hba (LT_above _ _))) (above_WF _ _ wa)

/-- what the `=` branches compute: does `c` accept the version `p`? -/
def accepts (c : VC) (p : Pt) : Bool :=
  if c.1 = .glob then verGlobMatch c.2.1 c.2.2 p.1 p.2 else vMatch c.1 c.2.1 c.2.2 p.1 p.2

theorem accepts_iff (c : VC) (p : Pt) (hc : WF c.2.1) (hp : WF p.1) : accepts c p = true ↔ Sat c p := by
  obtain ⟨o, v, r⟩ := c
  unfold accepts
  by_cases h : o = .glob
  · subst h
    simp only [if_true]
    exact (sat_glob v r p hc hp).symm
  · simp only [h, if_false]; exact vMatch_iff_sat o v r p h

/-- `=v-r` against anything: `v-r` itself is the only candidate -/
theorem decides_eq (v : Ver) (r : Str) (b : VC) (wv : WF v) (wb : WF b.2.1) :
    Decides (.eq, v, r) b (accepts b (v, r)) (v, r) :=
  ⟨fun h => ⟨sat_own (.eq, v, r) rfl wv, (accepts_iff b (v, r) wb wv).mp h, wv⟩,
   fun x hx sa sb => (accepts_iff b (v, r) wb wv).mpr
     ((sat_congr b x (v, r) wb hx wv ((sat_eq v r x wv hx).mp sa)).mp sb)⟩

theorem decides_tilde_tilde (va vb : Ver) (ra rb : Str) (wa : WF va) (wb : WF vb) :
    Decides (.tilde, va, ra) (.tilde, vb, rb) (verCmp va none vb none == .eq) (va, ra) :=
  ⟨fun h => ⟨sat_own (.tilde, va, ra) rfl wa,
     (sat_tilde vb rb _ wb wa).mpr ((verCmp_none_eq_iff_VK va vb wa wb).mp h), wa⟩,
   fun x hx sa sb => (verCmp_none_eq_iff_VK va vb wa wb).mpr
     (((sat_tilde va ra x wa hx).mp sa).symm.trans ((sat_tilde vb rb x wb hx).mp sb))⟩

/-- two globs with a common package: one matches the other's own version -/
theorem decides_glob_glob (va vb : Ver) (ra rb : Str) (wa : WF va) (wb : WF vb) :
    Decides (.glob, va, ra) (.glob, vb, rb) (verGlobMatch vb rb va ra || verGlobMatch va ra vb rb)
      (if verGlobMatch vb rb va ra = true then (va, ra) else (vb, rb)) := by
  refine ⟨fun h => ?_, fun x hx sa sb => ?_⟩
  · by_cases g : verGlobMatch vb rb va ra = true
    · rw [if_pos g]
      exact ⟨sat_own (.glob, va, ra) rfl wa, (sat_glob vb rb _ wb wa).mpr g, wa⟩
    · rw [if_neg g]
      simp only [g, Bool.false_or] at h
      exact ⟨(sat_glob va ra _ wa wb).mpr h, sat_own (.glob, vb, rb) rfl wb, wb⟩
  · rw [Bool.or_eq_true]
    exact glob_linear vb rb va ra x.1 x.2 ((sat_glob vb rb x wb hx).mp sb) ((sat_glob va ra x wa hx).mp sa)

/-- a glob and a `~`: the glob matches the `~`'s version at the glob's own revision -/
theorem decides_glob_tilde (gv tv : Ver) (gr tr : Str) (wg : WF gv) (wt : WF tv) :
    Decides (.glob, gv, gr) (.tilde, tv, tr) (verGlobMatch gv gr tv gr) (tv, gr) := by
  refine ⟨fun h => ⟨(sat_glob gv gr _ wg wt).mpr h, (sat_tilde tv tr _ wt wt).mpr rfl, wt⟩, fun x hx sg stl => ?_⟩
  have hv : VK x.1 = VK tv := (sat_tilde tv tr x wt hx).mp stl
  have gx := (sat_glob gv gr x wg hx).mp sg
  by_cases hz : natOfDigits gr = 0
  · rw [glob_norev gv gr _ _ wg wt hz, ← hv]
    exact (glob_norev gv gr _ _ wg hx hz).mp gx
  · have e := (glob_rev gv gr x.1 x.2 wg hx hz).mp gx
    apply (glob_rev gv gr tv gr wg wt hz).mpr
    simp only [PK, Prod.mk.injEq] at e ⊢
    exact ⟨e.1.trans hv, trivial⟩

/-- after `=`, `~`/`~`, `=*`/`=*` and `=*`/`~` are gone, one of the two operators is a range -/
theorem ranged_of_not_ranged {oa ob : Op} (e1 : oa ≠ .eq) (e2 : ob ≠ .eq) (e3 : ¬(oa = .tilde ∧ ob = .tilde))
    (e4 : ¬(oa = .glob ∧ ob = .glob)) (e5 : ¬(oa = .glob ∧ ob = .tilde)) (e6 : ¬(ob = .glob ∧ oa = .tilde))
    (e7 : ¬ isRanged oa = true) : isRanged ob = true := by
  rcases op_cases ob with h | rfl | rfl | rfl
  · exact h
  · exact absurd rfl e2
  · rcases op_cases oa with h | rfl | rfl | rfl
    · exact absurd h e7
    · exact absurd rfl e1
    · exact absurd ⟨rfl, rfl⟩ e3
    · exact absurd ⟨rfl, rfl⟩ e5
  · rcases op_cases oa with h | rfl | rfl | rfl
    · exact absurd h e7
    · exact absurd rfl e1
    · exact absurd ⟨rfl, rfl⟩ e6
    · exact absurd ⟨rfl, rfl⟩ e4

theorem vInter_decides (a b : VC) (ha : VCok a) (hb : VCok b) : Decides a b (vInter a b) (vWitness a b) := by
  obtain ⟨oa, va, ra⟩ := a
  obtain ⟨ob, vb, rb⟩ := b
  have wa : WF va := ha.1
  have wb : WF vb := hb.1
  by_cases c1 : (isLtOp oa && isLtOp ob) = true
  · simp only [vInter, vWitness, c1, Bool.true_or, if_true]
    rw [Bool.and_eq_true] at c1
    exact decides_both_upper (oa, va, ra) (ob, vb, rb) c1.1 c1.2 wa wb
  rw [Bool.not_eq_true] at c1
  by_cases c2 : (isGtOp oa && isGtOp ob) = true
  · simp only [vInter, vWitness, c1, c2, Bool.or_true, Bool.false_eq_true, if_false, if_true]
    rw [Bool.and_eq_true] at c2
    exact decides_both_lower (oa, va, ra) (ob, vb, rb) c2.1 c2.2 wa wb
  rw [Bool.not_eq_true] at c2
  simp only [vInter, vWitness, c1, c2, Bool.or_self, Bool.false_eq_true, if_false]
  refine .ite (fun e1 => ?_) fun e1 => .ite (fun e2 => ?_) fun e2 => .ite (fun e3 => ?_) fun e3 =>
    .ite (fun e4 => ?_) fun e4 => .ite (fun e5 => ?_) fun e5 => .ite (fun e6 => ?_) fun e6 =>
    .ite (fun e7 => ?_) fun e7 => ?_
  · subst e1
    exact decides_eq va ra (ob, vb, rb) wa wb
  · subst e2
    exact (decides_eq vb rb (oa, va, ra) wb wa).symm
  · obtain ⟨rfl, rfl⟩ := e3
    exact decides_tilde_tilde va vb ra rb wa wb
  · obtain ⟨rfl, rfl⟩ := e4
    exact decides_glob_glob va vb ra rb wa wb
  · obtain ⟨rfl, rfl⟩ := e5
    exact decides_glob_tilde va vb ra rb wa wb
  · obtain ⟨rfl, rfl⟩ := e6
    exact (decides_glob_tilde vb va rb ra wb wa).symm
  · exact decides_ranged (oa, va, ra) (ob, vb, rb) e7 e2 c1 c2 wa hb
  · rw [Bool.and_comm] at c1 c2
    exact (decides_ranged (ob, vb, rb) (oa, va, ra) (ranged_of_not_ranged e1 e2 e3 e4 e5 e6 e7) e1 c1 c2 wb ha).symm

theorem ownWitness_sat (c : VC) (hc : VCok c) : Sat c (ownWitness c) ∧ WF (ownWitness c).1 := by
  obtain ⟨o, v, r⟩ := c
  have hv : WF v := hc.1
  cases o
  case lt => exact ⟨sat_of_LT_own (.lt, v, r) _ rfl hv (below_WF _ hv) (below_LT v r), below_WF _ hv⟩
  case gt => exact ⟨sat_of_own_LT (.gt, v, r) _ rfl hv (above_WF _ _ hv) (LT_above v r), above_WF _ _ hv⟩
  all_goals exact ⟨sat_own _ rfl hv, hv⟩

theorem VCok_of_AtomOk (a : Atom) (ha : AtomOk a) (c : VC) (h : a.vop = some c) : VCok c := by
  obtain ⟨o, v, r⟩ := c
  refine ⟨WF_of_vop ha.1 h, fun e => ?_⟩
  simp only at e
  subst e
  exact ha.2.2 v r h

theorem optEq_pick (x y : Option Str) (h : bothDiffer x y = false) :
    optEq x (pick x y) = true ∧ optEq y (pick x y) = true := by
  cases x <;> cases y <;> simp_all [optEq, pick, bothDiffer]

theorem optEq_both (x y : Option Str) (s : Str) (h1 : optEq x s = true) (h2 : optEq y s = true) :
    bothDiffer x y = false := by
  cases x <;> cases y <;> simp_all [optEq, bothDiffer]

/-- the version clause of `matchSpec` -/
def verPart (a : Atom) (p : Pkg) : Bool :=
  match a.vop with
  | none => true
  | some c => opSpec c.1 c.2.1 c.2.2 p.ver p.rev

/-- `matchSpec` clause by clause like C04's `matchSpecWith`, but with the USE clause on `useList`, as `intersects`
reads it -/
theorem matchSpec_eq (a : Atom) (p : Pkg) :
    matchSpec a p = (a.cat == p.cat && a.pkg == p.pkg && verPart a p && optEq a.slot p.slot &&
      optEq a.subslot p.subslot && optEq a.repo p.repo && (useList a).all (useHolds p)) := by
  unfold matchSpec verPart useList
  cases hv : a.vop with
  | none => cases a.use <;> rfl
  | some c => obtain ⟨o, v, r⟩ := c; cases a.use <;> rfl

/-- the version test of `intersects`: only two versioned atoms are compared -/
def vopInter : Option VC → Option VC → Bool
  | some x, some y => vInter x y
  | _, _ => true

/-- the chain of early returns of `intersects` as a conjunction: one test for each clause of `matchSpec_eq` -/
theorem intersects_eq (a b : Atom) : intersects a b =
    (a.cat == b.cat && a.pkg == b.pkg && !bothDiffer a.slot b.slot && !bothDiffer a.subslot b.subslot &&
      !bothDiffer a.repo b.repo && useOk (useList a ++ useList b) && vopInter a.vop b.vop) := by
  simp only [intersects, Bool.if_false_left, Bool.decide_eq_true, Bool.not_or, bne, Bool.not_not, Bool.and_assoc]
  rfl

theorem verPart_decides (a b : Atom) (ha : AtomOk a) (hb : AtomOk b) :
    (vopInter a.vop b.vop = true →
      verPart a (witness a b) = true ∧ verPart b (witness a b) = true ∧ WF (witness a b).ver) ∧
    ∀ p : Pkg, WF p.ver → verPart a p = true → verPart b p = true → vopInter a.vop b.vop = true := by
  unfold verPart vopInter
  cases hx : a.vop with
  | none =>
    cases hy : b.vop with
    | none =>
      simp only [witness, hx, hy]
      refine ⟨fun _ => ⟨trivial, trivial, by simp, ?_⟩, fun _ _ _ _ => trivial⟩
      -- the default version `0` is valid
      intro c hc
      simp at hc
      subst hc
      exact ⟨by simp, by decide⟩
    | some y =>
      have := ownWitness_sat y (VCok_of_AtomOk b hb y hy)
      simp only [witness, hx, hy]
      exact ⟨fun _ => ⟨trivial, this.1, this.2⟩, fun _ _ _ _ => trivial⟩
  | some x =>
    cases hy : b.vop with
    | none =>
      have := ownWitness_sat x (VCok_of_AtomOk a ha x hx)
      simp only [witness, hx, hy]
      exact ⟨fun _ => ⟨this.1, trivial, this.2⟩, fun _ _ _ _ => trivial⟩
    | some y =>
      have := vInter_decides x y (VCok_of_AtomOk a ha x hx) (VCok_of_AtomOk b hb y hy)
      simp only [witness, hx, hy]
      exact ⟨this.1, fun p hp => this.2 (p.ver, p.rev) hp⟩

end Pkgcore.C05
