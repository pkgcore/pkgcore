import Pkgcore.Proofs.C21
/-!
# C21 — protected configuration files are never silently overwritten or removed

Property theorems only.  Model: `Pkgcore/Model/C21.lean` (mirror of `gen_config_protect_filter`,
`gen_collision_ignore_filter`, `ConfigProtectInstall` (+ `_restore`), `ConfigProtectUninstall` after the C21 `fix:`
commits; merge / unmerge abstracted).  Vocabulary: `Pkgcore/Spec/C21.lean`; `LiveWF`, `LiveFile.through` and
`IEntry.through` stand with their lemmas in `Pkgcore/Proofs/C21.lean`.
-/
namespace Pkgcore.C21
open Pkgcore.C21.Spec
open Pkgcore.C22 (Path normpath pjoin lstripSlash rstripSlash)

/-- the matcher compiled from a `COLLISION_IGNORE` glob accepts exactly the strings the glob denotes (`*` any run of
characters, `?` any one character, everything else itself; the whole string must be consumed) -/
theorem glob_match_spec (ts : List Tok) (s : List Char) : globMatch ts s = true ↔ Matches ts s := globMatch_iff ts s

example : Matches (parsePat "/etc/*.c?nf".toList) "/etc/app/x.conf".toList :=
  (globMatch_iff _ _).1 (by decide +kernel)
example : ¬ Matches (parsePat "/foo".toList) "/etc/foo".toList :=
  fun h => absurd ((globMatch_iff _ _).2 h) (by decide +kernel)

/-- **The CONFIG_PROTECT filter**: a location passes iff it lies below the directory of some `CONFIG_PROTECT` entry
(or `/etc`) *taken under the offset* and below no `CONFIG_PROTECT_MASK` entry; and "below" is component-wise: for
normalised paths, `render k b` is below `render k a` iff `a` is a proper prefix of `b` as a list of components
(`/etcetera/x` is not below `/etc`). -/
theorem protect_filter_spec (offset : Path) (protects masks : List Path) (loc : Path) :
    (protectedFilter offset protects masks loc = true ↔
      (∃ x ∈ protects ++ ["/etc".toList], Under (dirOf offset x) loc) ∧ ¬ ∃ x ∈ masks, Under (dirOf offset x) loc) ∧
    (∀ (k : Nat) (a b : List (List Char)), (k = 1 ∨ k = 2) → C22.Spec.Clean a → C22.Spec.Clean b → a ≠ [] →
      (Under (rstripSlash (C22.Spec.render k a)) (C22.Spec.render k b) ↔ ∃ rest, rest ≠ [] ∧ b = a ++ rest)) := by
  -- the component reading holds for every number `k` of leading slashes
  refine ⟨?_, fun k a b _ ha hb hne => under_render_iff k a b ha hb hne⟩
  unfold protectedFilter
  simp only [Bool.and_eq_true, List.any_eq_true, Bool.not_eq_true', List.any_eq_false, underOffset_prefix_iff]
  constructor
  · rintro ⟨h1, hm⟩
    exact ⟨h1, fun ⟨m, hmm, hmu⟩ => hm m hmm hmu⟩
  · rintro ⟨h1, hm⟩
    exact ⟨h1, fun m hmm hmu => hm ⟨m, hmm, hmu⟩⟩

example : protectedFilter "/tmp//root/.".toList ["/opt/cfg/".toList] ["/etc/app".toList] "/tmp/root/opt/cfg/a".toList = true ∧
    protectedFilter "/tmp/root".toList [] [] "/etc/foo".toList = false ∧
    protectedFilter "/".toList [] ["/etc/app".toList] "/etc/app/x".toList = false ∧
    protectedFilter "/".toList [] ["/etc/app".toList] "/etc/application".toList = true := by decide +kernel

/-- **The COLLISION_IGNORE filter**: a location is ignored iff some entry (or one of the two built-in `.keep`
patterns) matches it as a whole; for a location under the offset root an absolute entry is matched against the
root-relative path, and an absolute entry naming a live directory matches everything below that directory. -/
theorem ignore_filter_spec (offset : Path) (ignores : List (List Char)) (isdir : Path → Bool) (rel : Path) :
    let root := rstripSlash (normpath offset)
    (ignoreFilter offset ignores isdir (root ++ rel) = true ↔
      ∃ x ∈ ignores ++ defaultIgnores,
        (x.head? = some '/' ∧
          Matches (parsePat (if !endsSlashStar x && isdir (root ++ x) then rstripSlash x ++ "/*".toList else x)) rel) ∨
        (x.head? ≠ some '/' ∧ Matches (parsePat x) (root ++ rel))) := by
  intro root
  unfold ignoreFilter
  simp only [List.any_eq_true, globMatch_iff]
  refine exists_congr fun x => and_congr_right fun _ => ?_
  -- an absolute entry is compiled behind the literal root, which cancels against the root of the location
  unfold ignorePattern
  by_cases hh : x.head? = some '/'
  · rw [if_pos hh, matches_lit_append]
    exact ⟨fun h => Or.inl ⟨hh, h⟩, fun h => h.elim (·.2) fun h => absurd hh h.1⟩
  · rw [if_neg hh]
    exact ⟨fun h => Or.inr ⟨hh, h⟩, fun h => h.elim (fun h => absurd h.1 hh) (·.2)⟩

example : ignoreFilter "/tmp/r/".toList ["/etc/ign".toList] (fun p => p == "/tmp/r/etc/ign".toList) "/tmp/r/etc/ign/a".toList = true ∧
    ignoreFilter "/tmp/r".toList ["/foo".toList] (fun _ => false) "/tmp/r/etc/foo".toList = false ∧
    ignoreFilter "/tmp/r".toList [] (fun _ => false) "/tmp/r/etc/.keep_app-0".toList = true := by decide +kernel

/-- the name written for update number `n` of `fname` is read back as exactly that (numbers below 10000), and every name
that is read back as `(n, fname)` is that canonical name: names and (number, file) pairs correspond one to one -/
theorem cfg_name_roundtrip (n : Nat) (fname x : List Char) :
    (n < 10000 → parseCfg (cfgName n fname) = some (n, fname)) ∧
    (parseCfg x = some (n, fname) → x = cfgName n fname ∧ n < 10000) :=
  ⟨fun h => parseCfg_cfgName n h fname, cfgName_of_parseCfg x n fname⟩

example : cfgName 7 "foo".toList = "._cfg0007_foo".toList ∧ parseCfg "._cfg00a1_foo".toList = none ∧
    parseCfg "._cfg00011_foo".toList = none ∧ parseCfg "._cfg0042_a_b".toList = some (42, "a_b".toList) := by
  decide +kernel

/-- **The number given to an incoming file**: it is the number of a pending update of that file, in that directory, whose
content is identical to the incoming one; or no pending update is identical and the number exceeds the number of every
pending update of that file (and is 0 when there is none). -/
theorem cfg_number_fresh_or_reused (live : Live) (hwf : LiveWF live) (dir : Path) (fname : List Char) (c : Content) :
    let n := chooseCount 0 (pendingFor live dir fname) c
    (∃ f ∈ live, f.dir = dir ∧ parseCfg f.base = some (n, fname) ∧ f.content = c) ∨
    ((∀ f ∈ live, f.dir = dir → ∀ k, parseCfg f.base = some (k, fname) → f.content ≠ c ∧ k < n) ∧
      ((∀ f ∈ live, f.dir = dir → ∀ k, parseCfg f.base ≠ some (k, fname)) → n = 0)) := by
  intro n
  rcases chooseCount_spec 0 (pendingFor live dir fname) c with ⟨p, hp, hpc, hpn⟩ | ⟨hall, _, hlt⟩
  · left
    obtain ⟨k, pc⟩ := p
    obtain ⟨f, hf, hd, hparse, hc⟩ := exists_of_mem_pendingFor hp
    refine ⟨f, hf, hd, ?_, ?_⟩
    · rw [hparse]; simp only at hpn; rw [hpn]
    · rw [hc]; exact hpc
  · right
    constructor
    · intro f hf hd k hk
      have hm : (k, f.content) ∈ pendingFor live dir fname := hd ▸ mem_pendingFor hwf hf hk
      exact ⟨hall _ hm, hlt _ hm⟩
    · intro hnone
      have : pendingFor live dir fname = [] := List.eq_nil_iff_forall_not_mem.2 fun ⟨k, pc⟩ hq => by
        obtain ⟨f, hf, hd, hparse, _⟩ := exists_of_mem_pendingFor hq
        exact hnone f hf hd k hparse
      show chooseCount 0 (pendingFor live dir fname) c = 0
      rw [this]; rfl

example : LiveWF [⟨"/r/etc".toList, "foo".toList, 1⟩, ⟨"/r/etc".toList, "._cfg0003_foo".toList, 2⟩] := by
  unfold LiveWF; decide +kernel

/-- every entry the merge sees after the trigger is an entry that needed no protection, untouched, or the
`._cfgNNNN_`-renamed form (same directory, same content) of an entry that did -/
theorem install_trigger_sound (s : Settings) (live : Live) (install : ICSet) :
    ∀ g ∈ (protectInstall s live install).1,
      (g ∈ install ∧ needsProtection s live g = false) ∨
      ∃ e ∈ install, needsProtection s live e = true ∧ g.dir = e.dir ∧ g.content = e.content ∧ g.isReg = true ∧
        g.base = cfgName (chooseCount 0 (pendingFor live e.dir e.base) e.content) e.base := by
  intro g hg
  rcases protectInstall_sound s live install g hg with h | ⟨e, he, hn, rfl⟩
  · exact Or.inl h
  · obtain ⟨_, _, _, hreg, _⟩ := needsProtection_eq_true.1 hn
    exact Or.inr ⟨e, he, hn, rfl, rfl, hreg, rfl⟩

/-- **Merging never changes a protected live file.**  For every live regular file whose location passes the filters
(under CONFIG_PROTECT, not under CONFIG_PROTECT_MASK, not matched by COLLISION_IGNORE): after the pre-merge trigger
and the merge, the file still holds the content it had — whatever the package ships, whatever pending updates exist,
for every offset.  (Hypotheses: an entry arriving at that very location, if any, is a regular file; pending update
numbers stay below 9999, so that new names keep four digits.) -/
theorem protected_never_overwritten (s : Settings) (live : Live) (install : ICSet) (hwf : LiveWF live)
    (f : LiveFile) (hf : f ∈ live) (hprot : s.protectedLoc f.path = true)
    (hreg : ∀ e ∈ install, e.dir = f.dir → e.base = f.base → e.isReg = true)
    (hsmall : ∀ g ∈ live, ∀ k fn, parseCfg g.base = some (k, fn) → k < 9999) :
    Live.lookup (mergeFs live (protectInstall s live install).1) f.dir f.base = some f.content := by
  refine mergeFs_lookup_of_writers (fun g hg hgd hgb => ?_) (Or.inl (lookup_of_mem hwf hf))
  rcases protectInstall_sound s live install g hg with ⟨hin, hnp⟩ | ⟨e, he, hn, rfl⟩
  · -- an untouched entry at the location of `f`: it did not need protection, so it carries `f`'s content
    have hr := hreg g hin hgd hgb
    refine ⟨hr, Classical.byContradiction fun hne => ?_⟩
    have hpath : g.path = f.path := by unfold IEntry.path LiveFile.path; rw [hgd, hgb]
    have : needsProtection s live g = true :=
      needsProtection_eq_true.2 ⟨f.content, by rw [hgd, hgb]; exact lookup_of_mem hwf hf, hpath ▸ hprot, hr,
        fun h => hne h.symm⟩
    rw [hnp] at this; cases this
  · -- a renamed entry landing on `f`: `f` is then a pending update of that entry under the number chosen for it; that
    -- number is fresh (no such `f`) or reused from an identical update, which is `f` itself (one file per name)
    have hd : f.dir = e.dir := hgd.symm
    have hparse : parseCfg f.base = some (chooseCount 0 (pendingFor live e.dir e.base) e.content, e.base) :=
      hgb ▸ parseCfg_renamed live hsmall e
    obtain ⟨_, _, _, hereg, _⟩ := needsProtection_eq_true.1 hn
    refine ⟨hereg, show e.content = f.content from ?_⟩
    rcases cfg_number_fresh_or_reused live hwf e.dir e.base e.content with ⟨f', hf', hd', hparse', hc⟩ | ⟨hlt, _⟩
    · rw [← hc, liveWF_inj hwf hf' hf (hd'.trans hd.symm)
        ((cfgName_of_parseCfg _ _ _ hparse').1.trans (cfgName_of_parseCfg _ _ _ hparse).1.symm)]
    · exact absurd (hlt f hf hd _ hparse).2 (Nat.lt_irrefl _)

example : (⟨"/r/etc".toList, "foo".toList, 1⟩ : LiveFile).path = "/r/etc/foo".toList := by decide +kernel

/-- **The incoming file is written beside the protected one**, under the `._cfgNNNN_` name with the number of
`cfg_number_fresh_or_reused`: for a package whose entries have distinct locations and which ships no `._cfgNNNN_` files
itself, every entry that needed protection is found, with its own content, at `<dir>/._cfgNNNN_<name>` after the merge. -/
theorem update_written_beside (s : Settings) (live : Live) (install : ICSet)
    (hnd : (install.map fun e => (e.dir, e.base)).Nodup) (hno : ∀ e ∈ install, parseCfg e.base = none)
    (hsmall : ∀ g ∈ live, ∀ k fn, parseCfg g.base = some (k, fn) → k < 9999)
    (e : IEntry) (he : e ∈ install) (hn : needsProtection s live e = true) :
    Live.lookup (mergeFs live (protectInstall s live install).1) e.dir
      (cfgName (chooseCount 0 (pendingFor live e.dir e.base) e.content) e.base) = some e.content := by
  have hfilter_nd : ((install.filter (needsProtection s live)).map fun e => (e.dir, e.base)).Nodup :=
    List.Nodup.sublist (List.Sublist.map _ List.filter_sublist) hnd
  have hmem : renamed live e ∈ (protectInstall s live install).1 := by
    rw [protectInstall_eq]
    exact protectFold_renamed_mem live hsmall _ hfilter_nd (fun x hx => hno x (List.mem_filter.1 hx).1) _ e
      (List.mem_filter.2 ⟨he, hn⟩)
  refine mergeFs_lookup_of_writers (fun g hg hgd hgb => ?_) (Or.inr ⟨renamed live e, hmem, rfl, rfl⟩)
  rcases protectInstall_sound s live install g hg with ⟨hin, _⟩ | ⟨e', he', hn', rfl⟩
  · -- an untouched package entry cannot carry a ._cfg name
    have h1 := parseCfg_cfgName _ (chooseCount_lt live hsmall e.dir e.base e.content) e.base
    rw [← hgb, hno g hin] at h1
    cases h1
  · -- another renamed entry with this name is the same entry
    have hkey := renamed_key_inj live hsmall e' e hgd hgb
    obtain rfl : e' = e := Lib.inj_of_nodup_map hnd he' he (by simp only [hkey.1, hkey.2])
    obtain ⟨_, _, _, hreg, _⟩ := needsProtection_eq_true.1 hn
    exact ⟨hreg, rfl⟩

/-- **What an unmerge leaves**: a live file survives iff the package did not record it, or its location passes the
filters and its content differs from the recorded one (or the recorded entry was not a regular file); everything else
the package recorded is removed. -/
theorem uninstall_removes_the_rest (s : Settings) (live : Live) (recorded : Recorded) (f : LiveFile) :
    f ∈ unmergeFs s live recorded ↔
      f ∈ live ∧ ((∀ r ∈ recorded, ¬ (r.dir = f.dir ∧ r.base = f.base)) ∨
        ∃ r, recorded.find? (fun r => r.dir = f.dir ∧ r.base = f.base) = some r ∧ s.protectedLoc f.path = true ∧
          (r.isReg = false ∨ r.content ≠ f.content)) := by
  unfold unmergeFs
  rw [List.mem_filter, Bool.or_eq_true, List.contains_iff_mem, mem_keptAtUnmerge, Bool.not_eq_true', List.any_eq_false]
  simp only [decide_eq_true_eq]
  constructor
  · rintro ⟨hf, h | ⟨_, h⟩⟩
    · exact ⟨hf, Or.inl h⟩
    · exact ⟨hf, Or.inr h⟩
  · rintro ⟨hf, h | h⟩
    · exact ⟨hf, Or.inl h⟩
    · exact ⟨hf, Or.inr ⟨hf, h⟩⟩

/-- **Unmerging keeps a protected file the user changed**: a live file the package recorded, whose location passes the
filters and whose content differs from the recorded one (or whose recorded entry was not a regular file), survives. -/
theorem uninstall_keeps_modified (s : Settings) (live : Live) (recorded : Recorded) (f : LiveFile) (hf : f ∈ live)
    (r : IEntry) (hr : recorded.find? (fun r => r.dir = f.dir ∧ r.base = f.base) = some r)
    (hprot : s.protectedLoc f.path = true) (hdiff : r.isReg = false ∨ r.content ≠ f.content) :
    f ∈ unmergeFs s live recorded :=
  (uninstall_removes_the_rest s live recorded f).2 ⟨hf, Or.inr ⟨r, hr, hprot, hdiff⟩⟩

/-! `pmerge` handles a package list in one process and env.d may change between two operations (an env.d file of an
earlier package, `env-update`, the admin's editor — also by rewriting a file in place).  Each operation of the model
takes the settings env.d holds when it runs (`Op.install s …`, `Op.uninstall s …`); the operations before it — run
under whatever other settings — pass on nothing but the file system. -/

/-- a history of edits, merges and unmerges, under any settings, keeps the live file system well formed (one file per
location), so the single-operation theorems apply to the state every operation finds -/
theorem history_keeps_wf (live : Live) (hwf : LiveWF live) (ops : List Op) :
    LiveWF (runOps live ops) ∧ ∀ t ∈ traceOps live ops, LiveWF t := by
  refine ⟨liveWF_runOps ops hwf, ?_⟩
  induction ops generalizing live with
  | nil => intro t ht; cases ht
  | cons op ops ih =>
    intro t ht
    rcases List.mem_cons.1 ht with rfl | ht'
    · exact liveWF_applyOp hwf op
    · exact ih _ (liveWF_applyOp hwf op) t ht'

/-- **Every merge of a history honours the settings in effect at that merge**: after any history `before` (operations
under arbitrary, possibly different settings — in particular settings under which `f` was *not* protected), a merge under
settings `s` leaves every live regular file that `s` protects with the content it had when the merge started. -/
theorem history_protected_never_overwritten (live : Live) (hwf : LiveWF live) (before : List Op)
    (s : Settings) (pkg : ICSet) (f : LiveFile) (hf : f ∈ runOps live before) (hprot : s.protectedLoc f.path = true)
    (hreg : ∀ e ∈ pkg, e.dir = f.dir → e.base = f.base → e.isReg = true)
    (hsmall : ∀ g ∈ runOps live before, ∀ k fn, parseCfg g.base = some (k, fn) → k < 9999) :
    Live.lookup (runOps live (before ++ [.install s pkg])) f.dir f.base = some f.content := by
  rw [runOps_snoc]
  exact protected_never_overwritten s (runOps live before) pkg (liveWF_runOps before hwf) f hf hprot hreg hsmall

/-- **Every unmerge of a history honours the settings in effect at that unmerge**: a live file the package recorded
survives iff it is protected under the settings `s` of this operation and differs from the recorded entry — whatever
settings the earlier operations ran under. -/
theorem history_uninstall_keeps_modified (live : Live) (before : List Op) (s : Settings) (recorded : Recorded)
    (f : LiveFile) (hf : f ∈ runOps live before) (r : IEntry)
    (hr : recorded.find? (fun r => r.dir = f.dir ∧ r.base = f.base) = some r) :
    (f ∈ runOps live (before ++ [.uninstall s recorded]) ↔
      (s.protectedLoc f.path = true ∧ (r.isReg = false ∨ r.content ≠ f.content))) := by
  rw [runOps_snoc]
  show f ∈ unmergeFs s (runOps live before) recorded ↔ _
  rw [uninstall_removes_the_rest]
  constructor
  · rintro ⟨_, h | ⟨r', hr', hp, hd⟩⟩
    · have hm := List.mem_of_find?_eq_some hr
      have hk := List.find?_some hr
      exact absurd (of_decide_eq_true hk) (h r hm)
    · rw [hr] at hr'
      cases hr'
      exact ⟨hp, hd⟩
  · rintro ⟨hp, hd⟩
    exact ⟨hf, Or.inr ⟨r, hr, hp, hd⟩⟩

/-- the stale-settings scenario: `/srv/conf/site.conf` is merged while env.d does not protect `/srv/conf`, the admin
edits it and adds `/srv/conf` to CONFIG_PROTECT, the next merge of the same process keeps the edit and parks the update -/
example :
    let s0 : Settings := ⟨"/r".toList, [], [], [], fun _ => false⟩
    let s1 : Settings := ⟨"/r".toList, ["/srv/conf".toList], [], [], fun _ => false⟩
    let pkg (c : Content) : ICSet := [⟨"/r/srv/conf".toList, "site.conf".toList, true, c⟩]
    runOps [] [.install s0 (pkg 1), .edit [⟨"/r/srv/conf".toList, "site.conf".toList, 7⟩], .install s1 (pkg 2)] =
      [⟨"/r/srv/conf".toList, "site.conf".toList, 7⟩, ⟨"/r/srv/conf".toList, "._cfg0000_site.conf".toList, 2⟩] := by
  decide +kernel

/-- **A protected file reached through a directory symlink is not overwritten either.**  The trigger decides on the
names (`live`, `install`: what `install_existing` and `install` hold), the merge writes through the links
(`through ρ`): the real file behind the protected name still holds its content. -/
theorem protected_never_overwritten_through_links (ρ : Path → Path) (hinj : ∀ a b, ρ a = ρ b → a = b)
    (s : Settings) (live : Live) (install : ICSet) (hwf : LiveWF live)
    (f : LiveFile) (hf : f ∈ live) (hprot : s.protectedLoc f.path = true)
    (hreg : ∀ e ∈ install, e.dir = f.dir → e.base = f.base → e.isReg = true)
    (hsmall : ∀ g ∈ live, ∀ k fn, parseCfg g.base = some (k, fn) → k < 9999) :
    Live.lookup (mergeFs (live.map (LiveFile.through ρ)) ((protectInstall s live install).1.map (IEntry.through ρ)))
      (ρ f.dir) f.base = some f.content := by
  rw [mergeFs_through ρ hinj, lookup_through ρ hinj]
  exact protected_never_overwritten s live install hwf f hf hprot hreg hsmall

example : (∀ a b : Path, (fun d : Path => "/srv".toList ++ d) a = (fun d : Path => "/srv".toList ++ d) b → a = b) ∧
    (LiveFile.through (fun d => "/srv".toList ++ d) ⟨"/r/etc".toList, "foo".toList, 1⟩).dir = "/srv/r/etc".toList :=
  ⟨fun _ _ h => List.append_cancel_left h, by decide +kernel⟩

end Pkgcore.C21
