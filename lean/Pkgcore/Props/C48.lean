import Pkgcore.Proofs.C48
/-!
# C48 — cached metadata is used only while it is still valid

`validate`, `getMetadata` mirror
`cache.base.validate_entry` + `eclass_cache.rebuild_cache_entry` and `package_factory._get_metadata`/`_update_metadata`;
`Spec.Valid`, `Spec.FirstValid` are the property's own notions.  `WFCache`: every recorded eclass carries at least
one attribute (true of every cache format: `eclass_chf_types` is never empty and record lengths are checked on read).
`clean` (`Proofs/C48.lean`) is what the walk does to a cache it passes.
-/
namespace Pkgcore.C48
open Pkgcore.C48.Spec

/-- **`validate_entry` decides exactly the property's notion of validity**: the recorded ebuild checksum (or mtime)
is the current one, and — when eclasses are recorded — the entry has `INHERIT` and every recorded eclass still exists
with every recorded attribute (checksum; location and mtime for the flat format).  Any number of eclasses, any format. -/
theorem validate_iff_valid (w : World) (fmt : Fmt) (e : Entry) (hwf : WFEntry fmt e) :
    validate w fmt e = true ↔ Valid w fmt e :=
  validate_iff w fmt e hwf

/-- non-vacuity: an md5-dict entry with two eclasses is valid; it stops being valid when one eclass changes, vanishes,
or `INHERIT` is missing; the flat format also notices a moved eclass -/
example :
    let w : World := ⟨⟨"e0", "10", "/o/cat/p"⟩, fun n => if n = "a" then some ⟨"a0", "5", "/m/eclass"⟩ else
                                                  if n = "b" then some ⟨"b0", "6", "/o/eclass"⟩ else none⟩
    let w' : World := { w with eclass := fun n => if n = "a" then some ⟨"a0", "5", "/o/eclass"⟩ else w.eclass n }
    validate w .md5dict ⟨"e0", some [("a", ["a0"]), ("b", ["b0"])], true, 7⟩ = true ∧
    validate w .md5dict ⟨"e0", some [("a", ["a0"]), ("b", ["b1"])], true, 7⟩ = false ∧
    validate w .md5dict ⟨"e0", some [("a", ["a0"]), ("c", ["c0"])], true, 7⟩ = false ∧
    validate w .md5dict ⟨"e0", some [("a", ["a0"])], false, 7⟩ = false ∧
    validate w .md5dict ⟨"e1", none, false, 7⟩ = false ∧
    validate w .flat ⟨"10", some [("a", ["/m/eclass", "5"])], true, 7⟩ = true ∧
    validate w' .flat ⟨"10", some [("a", ["/m/eclass", "5"])], true, 7⟩ = false ∧
    validate w' .md5dict ⟨"e0", some [("a", ["a0"])], true, 7⟩ = true := by
  decide +kernel

/-- **cached metadata is used exactly when it is valid**: `_get_metadata` returns the payload `p` of cache number `i`
iff `i` is the first configured cache holding a valid entry for the package and `p` is that entry's payload.  Any
number of caches, of either format, read-only or not. -/
theorem cache_used_iff_valid (w : World) (regen : Option (List String)) (cs : List Cache)
    (hwf : ∀ c ∈ cs, WFCache c) (i p : Nat) :
    (getMetadata w regen cs).1 = .used i p ↔ FirstValid w cs i p := by
  rw [firstValid_iff w cs hwf]
  cases hf : cs.findIdx? (holdsValidB w) with
  | none =>
    rw [getMetadata_of_none w regen cs hf]
    exact ⟨fun h => (by cases regen <;> cases h), fun h => nomatch h.1⟩
  | some k =>
    obtain ⟨hk, e, hs, -, hg⟩ := getMetadata_of_some w regen cs k hf
    rw [hg]
    simp only [Result.used.injEq, Option.some.injEq]
    constructor
    · rintro ⟨rfl, rfl⟩
      exact ⟨rfl, _, e, List.getElem?_eq_getElem hk, hs, rfl⟩
    · rintro ⟨rfl, c, e', hc, hs', hp⟩
      obtain ⟨_, rfl⟩ := List.getElem?_eq_some_iff.1 hc
      rw [hs] at hs'
      cases hs'
      exact ⟨rfl, hp⟩

/-- **otherwise the metadata is regenerated**: `_get_metadata` sources the ebuild iff no configured cache holds a
valid entry (and reports failure iff, in addition, sourcing fails) -/
theorem regenerated_iff_none_valid (w : World) (regen : Option (List String)) (cs : List Cache)
    (hwf : ∀ c ∈ cs, WFCache c) :
    ((getMetadata w regen cs).1 = .regenerated ↔ (∀ c ∈ cs, ¬ HoldsValid w c) ∧ regen.isSome = true) ∧
    ((getMetadata w regen cs).1 = .failed ↔ (∀ c ∈ cs, ¬ HoldsValid w c) ∧ regen = none) := by
  rw [← none_valid_iff w cs hwf]
  cases hf : cs.findIdx? (holdsValidB w) with
  | none =>
    rw [getMetadata_of_none w regen cs hf]
    cases regen <;> simp
  | some k =>
    obtain ⟨-, e, -, -, hg⟩ := getMetadata_of_some w regen cs k hf
    rw [hg]
    simp

example :
    let w : World := ⟨⟨"e0", "10", "/o/cat/p"⟩, fun n => if n = "a" then some ⟨"a1", "5", "/m/eclass"⟩ else none⟩
    let stale : Entry := ⟨"e0", some [("a", ["a0"])], true, 7⟩
    let good : Entry := ⟨"10", some [("a", ["/m/eclass", "5"])], true, 8⟩
    getMetadata w (some ["a"]) [⟨.md5dict, true, .entry stale⟩, ⟨.md5dict, false, .entry stale⟩, ⟨.flat, false, .entry good⟩]
      = (.used 2 8, [⟨.md5dict, true, .entry stale⟩, ⟨.md5dict, false, .absent⟩, ⟨.flat, false, .entry good⟩]) ∧
    getMetadata w (some ["a"]) [⟨.md5dict, true, .entry stale⟩, ⟨.md5dict, false, .entry stale⟩, ⟨.flat, false, .unreadable⟩]
      = (.regenerated, [⟨.md5dict, true, .entry stale⟩, ⟨.md5dict, false, .entry ⟨"e0", some [("a", ["a1"])], true, 0⟩⟩,
                        ⟨.flat, false, .unreadable⟩]) := by
  decide +kernel

/-- **the stale entry is replaced** (regeneration): when nothing valid was cached and sourcing succeeds (its inherited
eclasses exist), afterwards
* the first writable cache — if there is one — holds the fresh entry, which is valid for the current tree;
* no writable cache holds an entry `validate_entry` would reject;
* read-only caches, and every cache's format and read-only flag, are untouched. -/
theorem stale_entry_replaced (w : World) (inherited : List String) (cs : List Cache)
    (hex : ∀ n ∈ inherited, (w.eclass n).isSome = true)
    (hres : (getMetadata w (some inherited) cs).1 = .regenerated)
    (cs' : List Cache) (hcs : cs' = (getMetadata w (some inherited) cs).2) :
    cs'.length = cs.length ∧
    (∀ k c, cs.findIdx? (fun c => !c.readonly) = some k → cs[k]? = some c →
        cs'[k]? = some { c with slot := .entry (mkEntry w inherited c.fmt) } ∧
        Valid w c.fmt (mkEntry w inherited c.fmt)) ∧
    (∀ c' ∈ cs', c'.readonly = false → ∀ e, c'.slot = .entry e → validate w c'.fmt e = true) ∧
    (∀ (j : Nat) (c : Cache), cs[j]? = some c → ∃ c' : Cache, cs'[j]? = some c' ∧ c'.fmt = c.fmt ∧ c'.readonly = c.readonly ∧
        (c.readonly = true → c' = c)) := by
  obtain ⟨-, hcs'⟩ := getMetadata_of_regenerated w inherited cs hres
  rw [hcs'] at hcs
  subst hcs
  have hget := store_clean_getElem? w (mkEntry w inherited) cs
  refine ⟨by rw [store_length, List.length_map], fun k c hk hc => ?_, fun c' hc' hw e he => ?_, fun j c hc => ?_⟩
  · rw [hget, hc, (List.findIdx?_eq_some_iff_findIdx_eq.1 hk).2]
    exact ⟨congrArg some (if_pos rfl), valid_mkEntry w inherited c.fmt hex⟩
  · obtain ⟨j, hj⟩ := List.mem_iff_getElem?.1 hc'
    rw [hget] at hj
    obtain ⟨c, -, rfl⟩ := Option.map_eq_some_iff.1 hj
    split at he
    · next hk =>
      cases he
      rw [if_pos hk]
      exact validate_mkEntry w inherited c.fmt hex
    · next hk =>
      rw [if_neg hk, (clean_fmt_readonly w c).2] at hw
      rw [if_neg hk, (clean_fmt_readonly w c).1]
      exact clean_no_stale w c hw e he
  · obtain ⟨hj, rfl⟩ := List.getElem?_eq_some_iff.1 hc
    rw [hget, hc]
    refine ⟨_, rfl, ?_⟩
    split
    · next hk =>
      subst hk
      have hw := List.findIdx_getElem (w := hj)
      exact ⟨rfl, rfl, fun hr => by simp [hr] at hw⟩
    · exact ⟨(clean_fmt_readonly w _).1, (clean_fmt_readonly w _).2, clean_of_readonly w _⟩

/-- **stale entries met before the one that is used are dropped**: when cache `i` is used, every writable cache before
it holds nothing `validate_entry` would reject, and nothing else changed (in particular read-only caches) -/
theorem stale_before_used_dropped (w : World) (regen : Option (List String)) (cs : List Cache) (i p : Nat)
    (hres : (getMetadata w regen cs).1 = .used i p) :
    (getMetadata w regen cs).2 = (cs.take i).map (clean w) ++ cs.drop i ∧
    ∀ c ∈ cs.take i, (clean w c = c ∨ (c.readonly = false ∧ (∃ e, c.slot = .entry e ∧ validate w c.fmt e = false) ∧
      clean w c = { c with slot := .absent })) := by
  refine ⟨?_, fun c _ => clean_cases w c⟩
  cases hf : cs.findIdx? (holdsValidB w) with
  | none =>
    rw [getMetadata_of_none w regen cs hf] at hres
    cases regen <;> cases hres
  | some k =>
    obtain ⟨-, e, -, -, hg⟩ := getMetadata_of_some w regen cs k hf
    rw [hg] at hres ⊢
    cases hres
    rfl

/-- **the replacement is used from then on**: after a regeneration that could be stored, reading the metadata again
(same tree) takes it from the cache it was written to and changes nothing; and a cache hit is stable -/
theorem second_read_uses_cache (w : World) (inherited : List String) (cs : List Cache)
    (hex : ∀ n ∈ inherited, (w.eclass n).isSome = true)
    (hres : (getMetadata w (some inherited) cs).1 = .regenerated)
    (k : Nat) (hk : cs.findIdx? (fun c => !c.readonly) = some k) (regen' : Option (List String)) :
    getMetadata w regen' (getMetadata w (some inherited) cs).2
      = (.used k 0, (getMetadata w (some inherited) cs).2) := by
  obtain ⟨hnone, hcs'⟩ := getMetadata_of_regenerated w inherited cs hres
  have hw := walk_store w inherited hex (cs.map (clean w)) k
    (fun c hc => by
      obtain ⟨c0, hc0, rfl⟩ := List.mem_map.1 hc
      rw [holdsValidB_clean]
      exact List.findIdx?_eq_none_iff.1 hnone c0 hc0)
    (fun c hc => by
      obtain ⟨c0, _, rfl⟩ := List.mem_map.1 hc
      exact clean_clean w c0)
    (by rw [List.findIdx?_map, writable_clean, hk])
  rw [hcs']
  unfold getMetadata
  rw [hw]

end Pkgcore.C48
