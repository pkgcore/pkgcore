import Pkgcore.Spec.C06
/-! The loops that build the normal forms compute `all` / `any` over the operands' own DNFs (`andSplit_eval`,
`dnfCat_eval`, `orSplit_eval`, no guard needed); the results about trees are inductions (`R.induct`) on top of these,
the one about the DNF (`dnf_spec`) stated with `ImpliedExact`. -/
namespace Pkgcore.C06
open Pkgcore.C06.Spec

theorem R.induct {P : R → Prop} (leaf : ∀ i, P (.leaf i)) (neg : ∀ r, P r → P (.neg r))
    (and : ∀ n cs, (∀ c ∈ cs, P c) → P (.and n cs)) (or : ∀ n cs, (∀ c ∈ cs, P c) → P (.or n cs))
    (justOne : ∀ n cs, (∀ c ∈ cs, P c) → P (.justOne n cs))
    (atMostOne : ∀ n cs, (∀ c ∈ cs, P c) → P (.atMostOne n cs))
    (atom : ∀ cs, (∀ c ∈ cs, P c) → P (.atom cs)) (r : R) : P r := by
  induction r using R.rec (motive_2 := fun cs => ∀ c ∈ cs, P c) with
  | leaf i => exact leaf i
  | neg r ih => exact neg r ih
  | and n cs ih => exact and n cs ih
  | or n cs ih => exact or n cs ih
  | justOne n cs ih => exact justOne n cs ih
  | atMostOne n cs ih => exact atMostOne n cs ih
  | atom cs ih => exact atom cs ih
  | nil => contradiction
  | cons c cs hc hcs =>
    rename_i x hx
    exact (List.mem_cons.mp hx).elim (· ▸ hc) (hcs x)

theorem evalAll_eq (v : Val) : ∀ cs, evalAll v cs = cs.all (eval v)
  | [] => rfl
  | c :: cs => by rw [evalAll, evalAll_eq v cs, List.all_cons]

theorem evalAny_eq (v : Val) : ∀ cs, evalAny v cs = cs.any (eval v)
  | [] => rfl
  | c :: cs => by rw [evalAny, evalAny_eq v cs, List.any_cons]

theorem evalCount_eq (v : Val) : ∀ cs, evalCount v cs = cs.countP (eval v)
  | [] => by simp [evalCount]
  | c :: cs => by rw [evalCount, evalCount_eq v cs, List.countP_cons, Nat.add_comm]

theorem okDnfAll_eq (full : Bool) : ∀ cs, okDnfAll full cs = cs.all (okDnf full)
  | [] => rfl
  | c :: cs => by rw [okDnfAll, okDnfAll_eq full cs, List.all_cons]

theorem okCnfAll_eq (full : Bool) : ∀ cs, okCnfAll full cs = cs.all (okCnf full)
  | [] => rfl
  | c :: cs => by rw [okCnfAll, okCnfAll_eq full cs, List.all_cons]

theorem nonEmptyAll_eq : ∀ cs, nonEmptyAll cs = cs.all nonEmptyNodes
  | [] => rfl
  | c :: cs => by rw [nonEmptyAll, nonEmptyAll_eq cs, List.all_cons]

theorem refusesAny_eq (full : Bool) : ∀ cs, refusesAny full cs = cs.any (refusesCnf full)
  | [] => rfl
  | c :: cs => by rw [refusesAny, refusesAny_eq full cs, List.any_cons]

mutual
theorem mtch_eq (v : Val) : ∀ r, mtch v r = eval v r
  | .leaf i => by simp [mtch, eval]
  | .neg r => by simp [mtch, eval, mtch_eq v r]
  | .and n cs => by simp [mtch, eval, andLoop_eq v n cs]
  | .or n cs => by simp [mtch, eval, orLoop_eq v n cs]
  | .justOne n cs => by
    simp only [mtch, eval]
    cases cs with
    | nil => simp
    | cons c cs' => simp [justLoop_eq v n false (c :: cs')]
  | .atMostOne n cs => by simp [mtch, eval, amoLoop_eq v n false cs]
  | .atom cs => by simp [mtch, eval, andLoop_eq v false cs]
theorem andLoop_eq (v : Val) (n : Bool) : ∀ cs, andLoop v n cs = (evalAll v cs != n)
  | [] => by simp [andLoop, evalAll]
  | c :: cs => by
    simp only [andLoop, evalAll, mtch_eq v c, andLoop_eq v n cs]
    cases eval v c <;> simp
theorem orLoop_eq (v : Val) (n : Bool) : ∀ cs, orLoop v n cs = (evalAny v cs != n)
  | [] => by simp [orLoop, evalAny]
  | c :: cs => by
    simp only [orLoop, evalAny, mtch_eq v c, orLoop_eq v n cs]
    cases eval v c <;> simp
theorem justLoop_eq (v : Val) (n : Bool) : ∀ (armed : Bool) cs,
    justLoop v n armed cs = ((evalCount v cs + (if armed then 1 else 0) == 1) != n)
  | armed, [] => by cases armed <;> simp [justLoop, evalCount]
  | armed, c :: cs => by
    simp only [justLoop, evalCount, mtch_eq v c, justLoop_eq v n true cs, justLoop_eq v n armed cs]
    rcases Bool.eq_false_or_eq_true (eval v c) with ht | hf
    · cases armed
      · simp only [ht, if_true, Bool.false_eq_true, if_false, Nat.add_zero, Nat.add_comm 1]
      · have : (1 + evalCount v cs + 1 == 1) = false := beq_eq_false_iff_ne.mpr (by omega)
        simp only [ht, if_true, this, Bool.false_bne]
    · simp only [hf, Bool.false_eq_true, if_false, Nat.zero_add]
theorem amoLoop_eq (v : Val) (n : Bool) : ∀ (armed : Bool) cs,
    amoLoop v n armed cs = (decide (evalCount v cs + (if armed then 1 else 0) ≤ 1) != n)
  | armed, [] => by cases armed <;> simp [amoLoop, evalCount]
  | armed, c :: cs => by
    simp only [amoLoop, evalCount, mtch_eq v c, amoLoop_eq v n true cs, amoLoop_eq v n armed cs]
    rcases Bool.eq_false_or_eq_true (eval v c) with ht | hf
    · cases armed
      · simp only [ht, Bool.not_true, if_true, Bool.false_eq_true, if_false, Nat.add_zero, Nat.add_comm 1]
      · have : decide (1 + evalCount v cs + 1 ≤ 1) = false := decide_eq_false (by omega)
        simp only [ht, Bool.not_true, if_true, Bool.false_eq_true, if_false, this, Bool.false_bne]
    · simp only [hf, Bool.not_false, if_true, Bool.false_eq_true, if_false, Nat.zero_add]
end

theorem evalConj_append (v : Val) (a b : Clause) : evalConj v (a ++ b) = (evalConj v a && evalConj v b) := by
  simp [evalConj, List.all_append]

theorem evalConj_true_of_forall (v : Val) (c : Clause) (h : ∀ m ∈ c, eval v m = true) : evalConj v c = true := by
  simp only [evalConj, List.all_eq_true]
  exact h

theorem evalDnf_single (v : Val) (c : Clause) : evalDnf v [c] = evalConj v c := by simp [evalDnf]

theorem evalDnf_cons (v : Val) (c : Clause) (d : List Clause) : evalDnf v (c :: d) = (evalConj v c || evalDnf v d) := by
  simp [evalDnf]

theorem evalDnf_append (v : Val) (a b : List Clause) : evalDnf v (a ++ b) = (evalDnf v a || evalDnf v b) := by
  simp [evalDnf, List.any_append]

theorem evalDnf_cross (v : Val) (ds : List (List Clause)) : evalDnf v (cross ds) = ds.all (evalDnf v) := by
  fun_induction cross ds with
  | case1 => simp [evalDnf, evalConj]
  | case2 d => simp
  | case3 d ds _ ih =>
    rw [List.all_cons, ← ih]
    simp only [evalDnf, List.any_flatMap, List.any_map, Function.comp_def, evalConj_append,
      ← List.and_any_distrib_left, ← List.and_any_distrib_right]

theorem dnf_of_not_hasDnf (full : Bool) {x : R} (h : ¬ hasDnf x = true) : dnf full x = [[x]] := by
  cases x <;> first | rfl | exact absurd rfl h

theorem andSplit_eval (v : Val) (full : Bool) : ∀ cs,
    (evalConj v (andSplit full cs).1 && (andSplit full cs).2.all (evalDnf v)) = cs.all fun x => evalDnf v (dnf full x)
  | [] => rfl
  | x :: xs => by
    rw [List.all_cons, ← andSplit_eval v full xs]
    simp only [andSplit]
    by_cases hd : hasDnf x = true
    · simp only [hd, if_true]
      split
      · rename_i s heq
        simp only [heq, evalDnf_single, evalConj_append, Bool.and_assoc]
      · simp only [List.all_cons, Bool.and_left_comm]
    · simp only [hd, Bool.false_eq_true, if_false, dnf_of_not_hasDnf full hd, evalDnf_single, evalConj, List.all_cons,
        List.all_nil, Bool.and_true, Bool.and_assoc]

theorem dnfCat_eval (v : Val) (full : Bool) : ∀ cs,
    evalDnf v (dnfCat full cs) = cs.any fun x => evalDnf v (dnf full x)
  | [] => rfl
  | x :: xs => by
    rw [dnfCat, evalDnf_append, dnfCat_eval v full xs, List.any_cons]
    by_cases hd : hasDnf x = true
    · rw [if_pos hd]
    · rw [if_neg hd, dnf_of_not_hasDnf full hd]

/-- The `if cs.isEmpty then [[]] else cross …` is the body `dnf` has in common for `.and false cs` and an expanded
`.atom cs`. -/
theorem evalDnf_conjNode (v : Val) (full : Bool) (cs : List R) :
    evalDnf v (if cs.isEmpty then [[]] else cross ([(andSplit full cs).1] :: (andSplit full cs).2)) =
      cs.all fun x => evalDnf v (dnf full x) := by
  cases cs with
  | nil => rfl
  | cons c cs => rw [if_neg (by simp), evalDnf_cross, List.all_cons, evalDnf_single, andSplit_eval]

/-- `q` is implied by `p`, and equals it where `ok` holds: how the value `q` of a normal form stands to the value `p` of
its tree, the guard `ok` keeping out the operand-less any-of. -/
abbrev ImpliedExact (p q ok : Bool) : Prop := (p = true → q = true) ∧ (ok = true → q = p)

theorem ImpliedExact.of_eq {p q ok : Bool} (h : q = p) : ImpliedExact p q ok := ⟨fun e => h ▸ e, fun _ => h⟩

theorem all_implied_exact {α} {p q ok : α → Bool} {l : List α} (h : ∀ x ∈ l, ImpliedExact (p x) (q x) (ok x)) :
    ImpliedExact (l.all p) (l.all q) (l.all ok) := by
  induction l with
  | nil => exact ⟨id, fun _ => rfl⟩
  | cons a l ih =>
    have ha := h a List.mem_cons_self
    have hl := ih fun x hx => h x (List.mem_cons_of_mem _ hx)
    simp only [ImpliedExact, List.all_cons, Bool.and_eq_true]
    exact ⟨fun hp => ⟨ha.1 hp.1, hl.1 hp.2⟩, fun ho => by rw [ha.2 ho.1, hl.2 ho.2]⟩

theorem any_implied_exact {α} {p q ok : α → Bool} {l : List α} (h : ∀ x ∈ l, ImpliedExact (p x) (q x) (ok x)) :
    ImpliedExact (l.any p) (l.any q) (l.all ok) := by
  induction l with
  | nil => exact ⟨id, fun _ => rfl⟩
  | cons a l ih =>
    have ha := h a List.mem_cons_self
    have hl := ih fun x hx => h x (List.mem_cons_of_mem _ hx)
    simp only [ImpliedExact, List.any_cons, List.all_cons, Bool.or_eq_true, Bool.and_eq_true]
    exact ⟨fun hp => hp.imp ha.1 hl.1, fun ho => by rw [ha.2 ho.1, hl.2 ho.2]⟩

theorem dnf_spec (v : Val) (full : Bool) (r : R) : ImpliedExact (eval v r) (evalDnf v (dnf full r)) (okDnf full r) := by
  induction r using R.induct with
  | leaf | neg | justOne | atMostOne => exact .of_eq (by simp [dnf, evalDnf, evalConj])
  | and n cs ih =>
    cases n
    · simpa only [dnf, evalDnf_conjNode, eval, Bool.bne_false, evalAll_eq, okDnf, okDnfAll_eq]
        using all_implied_exact ih
    · cases cs with
      -- the finding class (here through De Morgan, below the operand-less any-of itself): value and guard are both
      -- `false`, so both halves hold vacuously
      | nil => exact ⟨fun h => (nomatch h), fun h => (nomatch h)⟩
      | cons c cs =>
        exact .of_eq (by simp [dnf, eval, evalAll_eq, evalDnf, evalConj, Function.comp_def, List.not_all_eq_any_not])
  | or n cs ih =>
    cases n
    · cases cs with
      | nil => exact ⟨fun h => (nomatch h), fun h => (nomatch h)⟩
      | cons c cs =>
        simpa only [dnf, List.isEmpty_cons, Bool.false_eq_true, if_false, dnfCat_eval, eval, Bool.bne_false, evalAny_eq,
          okDnf, Bool.not_false, Bool.true_and, okDnfAll_eq] using any_implied_exact ih
    · exact .of_eq (by simp [dnf, eval, evalAny_eq, evalDnf, evalConj, Function.comp_def, List.not_any_eq_all_not])
  | atom cs ih =>
    cases full
    · exact .of_eq (by simp [dnf, evalDnf, evalConj])
    · simpa only [dnf, if_true, evalDnf_conjNode, eval, evalAll_eq, okDnf, Bool.not_true, Bool.false_or, okDnfAll_eq]
        using all_implied_exact ih

theorem dnf_sound (v : Val) (full : Bool) (r : R) (h : okDnf full r = true) : evalDnf v (dnf full r) = eval v r :=
  (dnf_spec v full r).2 h

theorem dnf_complete (v : Val) (full : Bool) (r : R) (h : eval v r = true) :
    ∃ cl ∈ dnf full r, ∀ m ∈ cl, eval v m = true := by
  simpa only [evalDnf, evalConj, List.any_eq_true, List.all_eq_true] using (dnf_spec v full r).1 h

theorem andSplit_sound (v : Val) (full : Bool) : ∀ cs, okDnfAll full cs = true →
    (evalConj v (andSplit full cs).1 && (andSplit full cs).2.all (evalDnf v)) = evalAll v cs := fun cs h => by
  rw [andSplit_eval, evalAll_eq]
  exact (all_implied_exact fun x _ => dnf_spec v full x).2 (okDnfAll_eq full cs ▸ h)

theorem dnfCat_sound (v : Val) (full : Bool) : ∀ cs, okDnfAll full cs = true →
    evalDnf v (dnfCat full cs) = evalAny v cs := fun cs h => by
  rw [dnfCat_eval, evalAny_eq]
  exact (any_implied_exact fun x _ => dnf_spec v full x).2 (okDnfAll_eq full cs ▸ h)

theorem andSplit_complete (v : Val) (full : Bool) : ∀ cs, evalAll v cs = true →
    (evalConj v (andSplit full cs).1 && (andSplit full cs).2.all (evalDnf v)) = true := fun cs h => by
  rw [andSplit_eval]
  exact (all_implied_exact (ok := okDnf full) fun x _ => dnf_spec v full x).1 (evalAll_eq v cs ▸ h)

theorem dnfCat_complete (v : Val) (full : Bool) : ∀ cs, evalAny v cs = true → evalDnf v (dnfCat full cs) = true :=
  fun cs h => by
  rw [dnfCat_eval]
  exact (any_implied_exact (ok := okDnf full) fun x _ => dnf_spec v full x).1 (evalAny_eq v cs ▸ h)

theorem cross_ne_nil (ds : List (List Clause)) (h : ∀ d ∈ ds, d ≠ []) : cross ds ≠ [] := by
  fun_induction cross ds with
  | case1 => simp
  | case2 d => exact h d (by simp)
  | case3 d ds hne ih =>
    have hd : d ≠ [] := h d (by simp)
    have hc : cross ds ≠ [] := ih (fun e he => h e (by simp [he]))
    cases d with
    | nil => exact absurd rfl hd
    | cons c cs =>
      cases hcd : cross ds with
      | nil => exact absurd hcd hc
      | cons e es => simp

/-- `…_of`: the statement about the operands of a node, given that about each operand as a hypothesis — the form an
`R.induct` case can use; the unconditional twin follows once the statement about trees is proved. -/
theorem andSplit_ne_nil_of (full : Bool) :
    ∀ cs, (∀ x ∈ cs, dnf full x ≠ []) → ∀ d ∈ (andSplit full cs).2, d ≠ []
  | [], _, d, hd => nomatch hd
  | x :: xs, h, d, hd => by
    have ih := andSplit_ne_nil_of full xs (fun y hy => h y (List.mem_cons_of_mem _ hy)) d
    simp only [andSplit] at hd
    split at hd
    · split at hd
      · exact ih hd
      · exact (List.mem_cons.mp hd).elim (· ▸ h x List.mem_cons_self) ih
    · exact ih hd

theorem dnf_ne_nil (full : Bool) (r : R) : dnf full r ≠ [] := by
  have conj : ∀ {cs : List R}, (∀ c ∈ cs, dnf full c ≠ []) →
      (if cs.isEmpty then [[]] else cross ([(andSplit full cs).1] :: (andSplit full cs).2)) ≠ [] := fun ih => by
    split
    · exact List.cons_ne_nil _ _
    · exact cross_ne_nil _ fun d hd =>
        (List.mem_cons.mp hd).elim (· ▸ List.cons_ne_nil _ _) (andSplit_ne_nil_of full _ ih d)
  induction r using R.induct with
  | leaf | neg | justOne | atMostOne => exact List.cons_ne_nil _ _
  | and n cs ih =>
    cases n
    · simpa only [dnf] using conj ih
    · cases cs <;> exact List.cons_ne_nil _ _
  | or n cs ih =>
    cases n
    · cases cs with
      | nil => exact List.cons_ne_nil _ _
      | cons c cs =>
        simp only [dnf, List.isEmpty_cons, Bool.false_eq_true, if_false, dnfCat]
        by_cases hd : hasDnf c = true
        · rw [if_pos hd]
          exact fun h0 => ih c List.mem_cons_self (List.append_eq_nil_iff.mp h0).1
        · rw [if_neg hd]
          exact List.cons_ne_nil _ _
    · exact List.cons_ne_nil _ _
  | atom cs ih =>
    cases full
    · exact List.cons_ne_nil _ _
    · simpa only [dnf, if_true] using conj ih

theorem andSplit_ne_nil (full : Bool) : ∀ cs, ∀ d ∈ (andSplit full cs).2, d ≠ [] :=
  fun cs => andSplit_ne_nil_of full cs fun x _ => dnf_ne_nil full x

theorem evalCnf_append (v : Val) (a b : List Clause) : evalCnf v (a ++ b) = (evalCnf v a && evalCnf v b) := by
  simp [evalCnf, List.all_append]

theorem evalCnf_single (v : Val) (c : Clause) : evalCnf v [c] = evalDisj v c := by simp [evalCnf]

theorem evalDisj_single (v : Val) (x : R) : evalDisj v [x] = eval v x := by simp [evalDisj]

theorem evalCnf_peel (v : Val) (acc : List Clause) (andreq : Clause) :
    evalCnf v (andreq.flatMap fun x => acc.map fun y => y ++ [x]) = (evalCnf v acc || evalConj v andreq) := by
  simp only [evalCnf, evalDisj, evalConj, List.all_flatMap, List.all_map, Function.comp_def, List.any_append,
    List.any_cons, List.any_nil, Bool.or_false, ← List.or_all_distrib_right]
  -- `or_all_distrib_right` has taken `eval v x` out of the `all` over `acc`; now the value of `acc` comes out of that
  -- over `andreq`
  rw [Bool.or_comm, List.or_all_distrib_right]
  simp only [Bool.or_comm]
  rfl

theorem evalCnf_distribute (v : Val) : ∀ (cn acc : List Clause),
    evalCnf v (distribute acc cn) = (evalCnf v acc || cn.any (evalConj v))
  | [], acc => by simp [distribute]
  | a :: rest, acc => by
    rw [distribute, evalCnf_distribute v rest, evalCnf_peel, List.any_cons, Bool.or_assoc]

/-- `orSplit` sorts a DNF `s2` of several clauses into its one-literal clauses, kept as literals, and the others, kept
as conjunctions; read together the two halves are `s2`. -/
theorem evalDnf_split_singletons (v : Val) (s2 : List Clause) :
    ((s2.filterMap fun y => match y with | [a] => some a | _ => none).any (eval v) ||
      (s2.filter fun y => match y with | [_] => false | _ => true).any (evalConj v)) = evalDnf v s2 := by
  induction s2 with
  | nil => rfl
  | cons y ys ih =>
    rw [evalDnf_cons, ← ih]
    match y with
    | [] => simp only [List.filterMap_cons, List.filter_cons, List.any_cons, evalConj, List.all_nil, Bool.true_or,
        Bool.or_true, if_true]
    | [a] => simp only [List.filterMap_cons, List.filter_cons, List.any_cons, evalConj, List.all_cons, List.all_nil,
        Bool.and_true, Bool.or_assoc, Bool.false_eq_true, if_false]
    | a :: b :: c => simp only [List.filterMap_cons, List.filter_cons, List.any_cons, Bool.or_left_comm, if_true]

theorem orSplit_eval (v : Val) (full : Bool) : ∀ cs,
    ((orSplit full cs).1.any (eval v) || (orSplit full cs).2.any (evalConj v)) = cs.any fun x => evalDnf v (dnf full x)
  | [] => rfl
  | x :: xs => by
    rw [List.any_cons, ← orSplit_eval v full xs]
    simp only [orSplit]
    by_cases hd : hasDnf x = true
    · simp only [hd, if_true]
      split
      · rename_i s heq
        simp only [heq, evalDnf_single, List.any_cons, Bool.or_left_comm]
      · rw [← evalDnf_split_singletons, List.any_append, List.any_append]
        ac_rfl
    · simp only [hd, Bool.false_eq_true, if_false, dnf_of_not_hasDnf full hd, evalDnf_single, evalConj, List.all_cons,
        List.all_nil, Bool.and_true, List.any_cons, Bool.or_assoc]

theorem cnf_of_not_hasDnf (full : Bool) {x : R} (h : ¬ hasDnf x = true) : cnf full x = some [[x]] := by
  cases x <;> first | rfl | exact absurd rfl h

/-- the `hasDnf` test in the loop makes no difference -/
theorem andCnf_cons (full : Bool) (x : R) (xs : List R) :
    andCnf full (x :: xs) = (cnf full x).bind fun a => (andCnf full xs).map (a ++ ·) := by
  have e : (if hasDnf x = true then cnf full x else some [[x]]) = cnf full x := by
    by_cases hd : hasDnf x = true
    · rw [if_pos hd]
    · rw [if_neg hd, cnf_of_not_hasDnf full hd]
  rw [andCnf, e]
  cases cnf full x <;> cases andCnf full xs <;> rfl

theorem andCnf_sound_of (v : Val) (full : Bool) : ∀ cs c,
    (∀ x ∈ cs, ∀ c, okCnf full x = true → cnf full x = some c → evalCnf v c = eval v x) →
    okCnfAll full cs = true → andCnf full cs = some c → evalCnf v c = evalAll v cs
  | [], c, _, _, hc => by
    cases hc
    rfl
  | x :: xs, c, ih, h, hc => by
    simp only [okCnfAll, Bool.and_eq_true] at h
    simp only [andCnf_cons, Option.bind_eq_some_iff, Option.map_eq_some_iff] at hc
    obtain ⟨a, ha, b, hb, rfl⟩ := hc
    rw [evalCnf_append, evalAll, ih x List.mem_cons_self a h.1 ha,
      andCnf_sound_of v full xs b (fun y hy => ih y (List.mem_cons_of_mem _ hy)) h.2 hb]

theorem cnf_sound (v : Val) (full : Bool) (r : R) :
    ∀ c, okCnf full r = true → cnf full r = some c → evalCnf v c = eval v r := by
  induction r using R.induct with
  | leaf | neg | justOne | atMostOne =>
    intro c _ hc
    obtain rfl := Option.some.inj hc
    simp [evalCnf, evalDisj]
  | and n cs ih =>
    intro c h hc
    cases n
    · simp only [cnf] at hc
      simpa only [eval, Bool.bne_false] using andCnf_sound_of v full cs c ih (by simpa only [okCnf] using h) hc
    · simp [cnf] at hc
  | or n cs ih =>
    intro c h hc
    cases n
    · cases cs with
      | nil => exact nomatch h
      | cons x xs =>
        simp only [okCnf, List.isEmpty_cons, Bool.not_false, Bool.true_and, okDnfAll_eq] at h
        simp only [cnf, List.isEmpty_cons, Bool.false_eq_true, if_false, Option.some.injEq] at hc
        subst hc
        rw [evalCnf_distribute, evalCnf_single, evalDisj, orSplit_eval, eval, Bool.bne_false, evalAny_eq]
        exact (any_implied_exact fun y _ => dnf_spec v full y).2 h
    · simp [cnf] at hc
  | atom cs ih =>
    intro c h hc
    cases full
    · obtain rfl := Option.some.inj hc
      simp [evalCnf, evalDisj]
    · simp only [cnf, if_true] at hc
      simpa only [eval]
        using andCnf_sound_of v true cs c ih (by simpa only [okCnf, Bool.not_true, Bool.false_or] using h) hc

theorem andCnf_sound (v : Val) (full : Bool) : ∀ cs c, okCnfAll full cs = true → andCnf full cs = some c →
    evalCnf v c = evalAll v cs :=
  fun cs c => andCnf_sound_of v full cs c fun x _ => cnf_sound v full x

theorem andCnf_eq_none (full : Bool) : ∀ cs, andCnf full cs = none ↔ ∃ x ∈ cs, cnf full x = none
  | [] => by simp [andCnf]
  | x :: xs => by
    have ih := andCnf_eq_none full xs
    simp only [andCnf_cons, List.mem_cons, or_and_right, exists_or, exists_eq_left, ← ih]
    cases cnf full x <;> cases andCnf full xs <;> simp

theorem andCnf_none_iff_of (full : Bool) (cs : List R)
    (h : ∀ x ∈ cs, (cnf full x = none ↔ refusesCnf full x = true)) :
    andCnf full cs = none ↔ refusesAny full cs = true := by
  rw [andCnf_eq_none, refusesAny_eq, List.any_eq_true]
  exact exists_congr fun x => and_congr_right (h x)

theorem cnf_none_iff (full : Bool) (r : R) : cnf full r = none ↔ refusesCnf full r = true := by
  induction r using R.induct with
  | leaf | neg | justOne | atMostOne => simp [cnf, refusesCnf]
  | and n cs ih =>
    cases n
    · simpa only [cnf, refusesCnf] using andCnf_none_iff_of full cs ih
    · simp [cnf, refusesCnf]
  | or n cs ih =>
    cases n
    · simp only [cnf, refusesCnf]
      split <;> simp
    · simp [cnf, refusesCnf]
  | atom cs ih =>
    cases full
    · simp [cnf, refusesCnf]
    · simpa only [cnf, if_true, refusesCnf, Bool.true_and] using andCnf_none_iff_of true cs ih

theorem andCnf_none_iff (full : Bool) : ∀ cs, andCnf full cs = none ↔ refusesAny full cs = true :=
  fun cs => andCnf_none_iff_of full cs fun x _ => cnf_none_iff full x

theorem ok_of_nonEmpty (full : Bool) (r : R) :
    nonEmptyNodes r = true → okDnf full r = true ∧ okCnf full r = true := by
  induction r using R.induct with
  | leaf | neg | justOne | atMostOne => exact fun _ => ⟨rfl, rfl⟩
  | and n cs ih =>
    intro h
    simp only [nonEmptyNodes, Bool.and_eq_true, nonEmptyAll_eq, List.all_eq_true] at h
    cases n
    · simp only [okDnf, okCnf, okDnfAll_eq, okCnfAll_eq, List.all_eq_true]
      exact ⟨fun c hc => (ih c hc (h.2 c hc)).1, fun c hc => (ih c hc (h.2 c hc)).2⟩
    · exact ⟨h.1, rfl⟩
  | or n cs ih =>
    intro h
    simp only [nonEmptyNodes, Bool.and_eq_true, nonEmptyAll_eq, List.all_eq_true] at h
    cases n
    · simp only [okDnf, okCnf, Bool.and_eq_true, okDnfAll_eq, List.all_eq_true, and_self]
      exact ⟨h.1, fun c hc => (ih c hc (h.2 c hc)).1⟩
    · exact ⟨rfl, rfl⟩
  | atom cs ih =>
    intro h
    simp only [nonEmptyNodes, nonEmptyAll_eq, List.all_eq_true] at h
    simp only [okDnf, okCnf, Bool.or_eq_true, okDnfAll_eq, okCnfAll_eq, List.all_eq_true]
    exact ⟨Or.inr fun c hc => (ih c hc (h c hc)).1, Or.inr fun c hc => (ih c hc (h c hc)).2⟩

theorem okCnfAll_of_nonEmpty (full : Bool) : ∀ cs, nonEmptyAll cs = true → okCnfAll full cs = true := fun cs h => by
  rw [okCnfAll_eq, List.all_eq_true]
  exact fun c hc => (ok_of_nonEmpty full c (List.all_eq_true.mp (nonEmptyAll_eq cs ▸ h) c hc)).2

end Pkgcore.C06
