import Pkgcore.Spec.C47
import Pkgcore.Proofs.C29
/-! # C47 proofs, on the store and crash-state lemmas of `Proofs/C29.lean`

The reader looks at the repository path only, so everything that happens at the staging names is quiet for it
(`quiet_off`; `Spec.Untouched ops st repo` unfolds to `Quiet (treeAt · repo) ops st`); a successful sync is a quiet
preparation (`prepareOps`), the two renames, and the bookkeeping files, which are not part of the tree (`tail_ok`),
after the `mkdir` of the head (`head_no_recover`).  A sync that starts with the recovery is that rename followed by
a sync from the restored state (`syncOps_recover`). -/
namespace Pkgcore.C47
open Pkgcore.C29 Pkgcore.C47.Spec

/-- no regular file is in the way at the repository path or at a staging name (a directory or nothing may be there) -/
def NoFiles (st : Store) (repo : Name) : Prop :=
  (∀ c, st repo ≠ some (.file c)) ∧ (∀ c, st (updOf repo) ≠ some (.file c)) ∧ (∀ c, st (oldOf repo) ≠ some (.file c))

theorem updOf_ne (r : Name) : updOf r ≠ r := by
  intro h
  have := congrArg List.length h
  simp [updOf] at this
  omega

theorem oldOf_ne (r : Name) : oldOf r ≠ r := by
  intro h
  have := congrArg List.length h
  simp [oldOf] at this
  omega

theorem updOf_ne_oldOf (r : Name) : updOf r ≠ oldOf r := by
  intro h
  have := congrArg List.length h
  simp [updOf, oldOf] at this

theorem treeAt_congr (s st : Store) (repo : Name) (h : s repo = st repo) : treeAt s repo = treeAt st repo := by
  simp [treeAt, h]

theorem treeAt_dir (s : Store) (repo : Name) (fs : List (Name × Content)) (h : s repo = some (.dir fs)) :
    treeAt s repo = content fs := by simp [treeAt, h]

theorem quiet_off (repo : Name) (ops : List Op) (S : Store) (ho : ∀ op ∈ ops, Within (· != repo) op) :
    Quiet (treeAt · repo) ops S :=
  quiet_of_steps
    (fun op hop s => treeAt_congr _ s repo (step_within _ s op (ho op hop) repo (bne_self_eq_false repo))) S

theorem stage_within (h : Name → Bool) (S : Store) (repo : Name) (hu : h (updOf repo) = true)
    (ho : h (oldOf repo) = true) :
    ∀ op ∈ stageOps S repo, Within h op := by
  intro op hop
  simp only [stageOps, List.mem_append, List.mem_cons, List.not_mem_nil, or_false] at hop
  rcases hop with (hop | hop) | rfl | rfl
  · exact wipe_within h S _ hu op hop
  · exact wipe_within h S _ ho op hop
  · exact hu
  · exact ho

theorem stage_run (S : Store) (repo : Name) (hu : ∀ c, S (updOf repo) ≠ some (.file c))
    (ho : ∀ c, S (oldOf repo) ≠ some (.file c)) :
    run (stageOps S repo) S (updOf repo) = some (.dir []) ∧
    run (stageOps S repo) S (oldOf repo) = some (.dir []) := by
  have hne := updOf_ne_oldOf repo
  have h1 : run (wipeOps S (updOf repo)) S (updOf repo) = none := wipe_run S S _ rfl hu
  have h2 : run (wipeOps S (oldOf repo)) (run (wipeOps S (updOf repo)) S) (oldOf repo) = none :=
    wipe_run S _ _ (run_frame (oldOf repo) _ S (wipe_within _ S _ (bne_iff_ne.2 hne))) ho
  have h2u : run (wipeOps S (oldOf repo)) (run (wipeOps S (updOf repo)) S) (updOf repo) = none :=
    (run_frame (updOf repo) _ _ (wipe_within _ S _ (bne_iff_ne.2 hne.symm))).trans h1
  unfold stageOps
  rw [run_append, run_append]
  simp only [run_cons, run_nil, step, modify_eq_upd]
  constructor
  · rw [upd_ne _ _ _ _ hne, upd_eq, h2u]; rfl
  · rw [upd_eq, upd_ne _ _ _ _ hne.symm, h2]; rfl

theorem extract_within (h : Name → Bool) (repo : Name) (hu : h (updOf repo) = true) (files : List (Name × Content)) :
    ∀ op ∈ extractOps repo files, Within h op := by
  intro op hop
  obtain ⟨p, _, rfl⟩ := List.mem_map.1 hop
  exact hu

theorem extract_run (repo : Name) (files : List (Name × Content)) (S : Store) (fs0 : List (Name × Content))
    (h : S (updOf repo) = some (.dir fs0)) :
    run (extractOps repo files) S (updOf repo) = some (.dir (files.foldl (fun fs p => setFile fs p.1 p.2) fs0)) := by
  induction files generalizing S fs0 with
  | nil => exact h
  | cons p files ih =>
    rw [extractOps, List.map_cons, run_cons]
    refine ih _ _ ?_
    simp only [step, modify_eq_upd]
    rw [upd_eq, h]; rfl

theorem extracted_of_nodup (files : List (Name × Content)) (hd : (files.map (·.1)).Nodup) : extracted files = files :=
  Lib.foldl_fresh Prod.fst (fun _ _ => setFile_fresh) files [] hd

/-- what an unpack does before the two renames, complete or cut short -/
def prepareOps (S : Store) (repo : Name) (files : List (Name × Content)) : List Op :=
  stageOps S repo ++ extractOps repo files

theorem prepare_within (S : Store) (repo : Name) (files : List (Name × Content)) :
    ∀ op ∈ prepareOps S repo files, Within (· != repo) op :=
  List.forall_mem_append.2 ⟨stage_within _ S repo (bne_iff_ne.2 (updOf_ne repo)) (bne_iff_ne.2 (oldOf_ne repo)),
    extract_within (· != repo) repo (bne_iff_ne.2 (updOf_ne repo)) files⟩

theorem prepare_run (S : Store) (repo : Name) (files : List (Name × Content))
    (hu : ∀ c, S (updOf repo) ≠ some (.file c)) (ho : ∀ c, S (oldOf repo) ≠ some (.file c)) :
    run (prepareOps S repo files) S (updOf repo) = some (.dir (extracted files)) ∧
    run (prepareOps S repo files) S (oldOf repo) = some (.dir []) := by
  obtain ⟨h1, h2⟩ := stage_run S repo hu ho
  rw [prepareOps, run_append]
  exact ⟨extract_run repo files _ [] h1,
    (run_frame _ _ _ (extract_within (· != oldOf repo) repo (bne_iff_ne.2 (updOf_ne_oldOf repo)) files)).trans h2⟩

theorem content_setFile_book (fs : List (Name × Content)) (f : Name) (c : Content) (hf : f ∈ bookkeeping) :
    content (setFile fs f c) = content fs := by
  induction fs with
  | nil => simp [setFile, content, hf]
  | cons p fs ih =>
    obtain ⟨g, d⟩ := p
    by_cases hg : g = f
    · subst hg; simp [setFile, content, hf]
    · simp only [setFile, hg, if_false]
      unfold content at ih ⊢
      simp only [List.filter_cons]
      rw [ih]

theorem etagOps_bookkeeping (repo : Name) (etag modified : Option Content) :
    ∀ op ∈ etagOps repo etag modified, ∃ f c, f ∈ bookkeeping ∧ op = .put repo f c := by
  intro op hop
  rcases List.mem_append.1 hop with h | h
  · cases etag with
    | none => cases h
    | some c => exact ⟨_, c, List.mem_cons_self, List.mem_singleton.1 h⟩
  · cases modified with
    | none => cases h
    | some c => exact ⟨_, c, List.mem_cons_of_mem _ List.mem_cons_self, List.mem_singleton.1 h⟩

theorem treeAt_put_book (S : Store) (repo f : Name) (c : Content) (hf : f ∈ bookkeeping) :
    treeAt (step S (.put repo f c)) repo = treeAt S repo := by
  show treeAt (upd S repo (putF f c (S repo))) repo = _
  unfold treeAt
  rw [upd_eq]
  rcases S repo with _ | _ | fs
  · rfl
  · rfl
  · exact content_setFile_book fs f c hf

theorem quiet_etag (repo : Name) (etag modified : Option Content) (S : Store) :
    Quiet (treeAt · repo) (etagOps repo etag modified) S :=
  quiet_of_steps (fun op hop s => by
    obtain ⟨f, c, hf, rfl⟩ := etagOps_bookkeeping repo etag modified op hop
    exact treeAt_put_book s repo f c hf) S

theorem tailOps_eq (S : Store) (repo : Name) (files : List (Name × Content)) (etag modified : Option Content) :
    tailOps S repo files etag modified = prepareOps S repo files ++
      .rename repo (oldOf repo) :: .rename (updOf repo) repo :: etagOps repo etag modified := by
  simp only [tailOps, prepareOps, List.append_assoc, List.cons_append, List.nil_append]

/-- The tail of a successful sync, from a state with tree `X`: the quiet preparation, the rename that moves the old
tree away (the gap), the rename that moves the new tree in, and the bookkeeping writes, which the reader does not see.
The four conjuncts are read off this one computation. -/
theorem tail_ok (S : Store) (repo : Name) (X files : List (Name × Content)) (etag modified : Option Content)
    (hr : S repo = some (.dir X)) (hu : ∀ c, S (updOf repo) ≠ some (.file c))
    (ho : ∀ c, S (oldOf repo) ≠ some (.file c)) :
    (∀ s ∈ states (tailOps S repo files etag modified) S,
        treeAt s repo = content X ∨ s repo = none ∨ treeAt s repo = content (extracted files)) ∧
    treeAt (run (tailOps S repo files etag modified) S) repo = content (extracted files) ∧
    run (tailOps S repo files etag modified) S (updOf repo) = none ∧
    ∃ s ∈ states (tailOps S repo files etag modified) S, s repo = none := by
  -- `h2…`, `h3…`, `h4…`: the store after the preparation, the first and the second rename, at the name in the suffix
  have hP := prepare_within S repo files
  obtain ⟨h2u, h2o⟩ := prepare_run S repo files hu ho
  have h2r := (run_frame repo _ S hP).trans hr
  -- the gap: the old tree has gone to `.repo.old`
  obtain ⟨h3r, -, h3⟩ := step_rename_at _ repo (oldOf repo) _ (oldOf_ne repo).symm h2r (by rw [h2o]; rfl)
  obtain ⟨h4u, h4r, -⟩ := step_rename_at (step _ (.rename repo (oldOf repo))) (updOf repo) repo _ (updOf_ne repo)
    ((h3 _ (updOf_ne repo) (updOf_ne_oldOf repo)).trans h2u) (by rw [h3r]; rfl)
  -- from here on only bookkeeping files are written
  have het := fun s hs => (quiet_etag repo etag modified _ s hs).trans (treeAt_dir _ repo _ h4r)
  rw [tailOps_eq]
  refine ⟨fun s hs => ?_, ?_, ?_, _, commit_mem_states _ _ _ S, h3r⟩
  · rcases (mem_states_commit _ _ _ S s).1 hs with h | h
    · exact Or.inl ((quiet_off repo _ S hP s h).trans (treeAt_dir S repo X hr))
    · rcases List.mem_cons.1 h with h | h
      · exact Or.inr (Or.inl (h ▸ h3r))
      · exact Or.inr (Or.inr (het s h))
  · rw [run_append, run_cons, run_cons]
    exact het _ (run_mem_states _ _)
  · rw [run_append, run_cons, run_cons, run_frame (updOf repo) _ _ ?_, h4u]
    intro op hop
    obtain ⟨f, c, _, rfl⟩ := etagOps_bookkeeping repo etag modified op hop
    exact bne_iff_ne.2 (updOf_ne repo).symm

/-- `makedirs(basedir, exist_ok=True)`: a directory is there afterwards, holding the tree the reader saw before -/
theorem mkdir_repo (st : Store) (repo : Name) (hnf : ∀ c, st repo ≠ some (.file c)) :
    ∃ X, step st (.mkdir repo) repo = some (.dir X) ∧ content X = treeAt st repo := by
  show ∃ X, upd st repo (mkdirF (st repo)) repo = _ ∧ _
  rw [upd_eq]
  rcases h : st repo with _ | c | X
  · exact ⟨[], rfl, by simp [treeAt, h, content]⟩
  · exact absurd h (hnf c)
  · exact ⟨X, rfl, (treeAt_dir st repo X h).symm⟩

/-- the head is quiet and leaves what `tail_ok` asks for -/
theorem head_no_recover (st : Store) (repo : Name) (hrec : recoverOps st repo = []) (hnf : NoFiles st repo) :
    Quiet (treeAt · repo) (headOps st repo) st ∧
    (∃ X, run (headOps st repo) st repo = some (.dir X) ∧ content X = treeAt st repo) ∧
    NoFiles (run (headOps st repo) st) repo := by
  obtain ⟨X, hX, hc⟩ := mkdir_repo st repo hnf.1
  have hoff : ∀ n, n ≠ repo → step st (.mkdir repo) n = st n := fun n hn => upd_ne _ _ _ _ hn
  have hrun : run (headOps st repo) st = step st (.mkdir repo) := by rw [headOps, hrec]; rfl
  rw [hrun]
  refine ⟨fun s hs => ?_, ⟨X, hX, hc⟩, fun c h => ?_, fun c => ?_, fun c => ?_⟩
  · rw [headOps, hrec] at hs
    rcases List.mem_cons.1 hs with rfl | hs
    · rfl
    · rw [List.mem_singleton.1 hs]; exact (treeAt_dir _ repo X hX).trans hc
  · rw [hX] at h; cases h
  · rw [hoff _ (updOf_ne repo)]; exact hnf.2.1 c
  · rw [hoff _ (oldOf_ne repo)]; exact hnf.2.2 c

/-- `tail_ok` after the head, in the vocabulary of the Spec -/
theorem sync_ok_no_recover (st : Store) (repo : Name) (files : List (Name × Content)) (etag modified : Option Content)
    (hrec : recoverOps st repo = []) (hnf : NoFiles st repo) :
    OldGapOrNew (syncOps st repo .ok .ok files etag modified) st repo (content (extracted files)) ∧
    (∃ s ∈ states (syncOps st repo .ok .ok files etag modified) st, s repo = none) ∧
    run (syncOps st repo .ok .ok files etag modified) st (updOf repo) = none := by
  obtain ⟨h1, ⟨X, hX, hc⟩, hnf'⟩ := head_no_recover st repo hrec hnf
  obtain ⟨t1, t2, t3, s, hs, hn⟩ :=
    tail_ok (run (headOps st repo) st) repo X files etag modified hX hnf'.2.1 hnf'.2.2
  refine ⟨⟨fun s hs => ?_, ?_⟩, ⟨s, (mem_states_append _ _ st s).2 (Or.inr hs), hn⟩,
    (congrFun (run_append ..) _).trans t3⟩
  · rcases (mem_states_append _ _ st s).1 hs with h | h
    · exact Or.inl (h1 s h)
    · exact (t1 s h).imp_left (·.trans hc)
  · exact (congrArg (treeAt · repo) (run_append ..)).trans t2

theorem failed_no_recover (st : Store) (repo : Name) (d : Download) (u : Unpack) (files : List (Name × Content))
    (etag modified : Option Content) (hrec : recoverOps st repo = []) (hnf : NoFiles st repo)
    (hfail : d ≠ .ok ∨ ∃ k, u = .fails k) :
    Untouched (syncOps st repo d u files etag modified) st repo := by
  have h1 := (head_no_recover st repo hrec hnf).1
  cases d with
  | unreachable => simp only [syncOps, hrec]; exact quiet_nil st
  | unchanged => simp only [syncOps, hrec]; exact quiet_nil st
  | broken => exact h1
  | ok =>
    obtain ⟨k, rfl⟩ := hfail.resolve_left (fun h => h rfl)
    show Quiet (treeAt · repo) (headOps st repo ++ stageOps _ repo ++ extractOps repo (files.take k)) st
    rw [List.append_assoc]
    exact h1.append (quiet_off repo _ _ (prepare_within _ repo (files.take k)))

theorem recover_nil_of_some (st : Store) (repo : Name) (o : Obj) (h : st repo = some o) : recoverOps st repo = [] := by
  simp [recoverOps, h]

theorem recover_cases (st : Store) (repo : Name) :
    recoverOps st repo = [] ∨ ∃ p fs, st repo = none ∧ st (oldOf repo) = some (.dir (p :: fs)) := by
  unfold recoverOps
  rcases st repo with _ | o
  · rcases st (oldOf repo) with _ | _ | _ | ⟨p, fs⟩
    · exact Or.inl rfl
    · exact Or.inl rfl
    · exact Or.inl rfl
    · exact Or.inr ⟨p, fs, rfl, rfl⟩
  · exact Or.inl rfl

/- The state an interruption in the gap leaves: no repository path, a non-empty tree in `.repo.old`. -/
section
variable (st : Store) (repo : Name) (p : Name × Content) (fs : List (Name × Content))
  (hr : st repo = none) (ho : st (oldOf repo) = some (.dir (p :: fs)))
include hr ho

theorem recover_repo : step st (.rename (oldOf repo) repo) repo = some (.dir (p :: fs)) :=
  (step_rename_at st _ _ _ (oldOf_ne repo) ho (by rw [hr]; rfl)).2.1

theorem recover_noFiles (hu : ∀ c, st (updOf repo) ≠ some (.file c)) :
    NoFiles (step st (.rename (oldOf repo) repo)) repo := by
  obtain ⟨h1, h2, h3⟩ := step_rename_at st _ _ _ (oldOf_ne repo) ho (by rw [hr]; rfl)
  refine ⟨fun c h => ?_, fun c => ?_, fun c h => ?_⟩
  · rw [h2] at h; cases h
  · rw [h3 _ (updOf_ne_oldOf repo) (updOf_ne repo)]
    exact hu c
  · rw [h1] at h; cases h

theorem syncOps_recover (d : Download) (u : Unpack) (files : List (Name × Content)) (etag modified : Option Content) :
    syncOps st repo d u files etag modified
      = .rename (oldOf repo) repo :: syncOps (step st (.rename (oldOf repo) repo)) repo d u files etag modified := by
  have hrec1 := recover_nil_of_some _ repo _ (recover_repo st repo p fs hr ho)
  have hrec : recoverOps st repo = [.rename (oldOf repo) repo] := by simp [recoverOps, hr, ho]
  have hhead : headOps st repo = .rename (oldOf repo) repo :: headOps (step st (.rename (oldOf repo) repo)) repo := by
    simp [headOps, hrec, hrec1]
  cases d <;> simp only [syncOps, hrec, hrec1, hhead, run_cons, List.cons_append]
  case ok => cases u <;> rfl

end

end Pkgcore.C47
