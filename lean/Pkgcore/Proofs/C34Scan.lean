import Pkgcore.Model.C34
import Pkgcore.Proofs.Lib
/-!
The scanner's walkers one by one, before the induction over the fuel.

*The contract.*  Every walker keeps `Ret`: its result satisfies a postcondition and, with the sentinel in place (`Sent`)
and fuel `Enough`, it does not end in the fuel error.  `Adv` is the contract of the position walkers.

*Groundwork, no fuel in it.*  What the scanning functions without fuel return (`skipWhile_spec` … `isFunction_spec`;
`walkPound_ret` is the contract of the comment walk, the one walk that moves forward only thanks to the sentinel).

*The scanning loops* (`walkEscaped`, `walkComplexLoop`, `assignLoop`) are analysed once each (`esc_iter`, `cloop_iter`,
`assign_iter`): `Iter` says what one iteration is, `Call` what it may call; `CloopStop` is where the second may stop.
-/
namespace Pkgcore.C34

/-- the buffer ends with a sentinel (for `main_run`: the NUL).  It is not `#`: a comment walk that finds no line end
returns the last index, and that must not be the `#` it started at -/
def Sent (b : Buf) : Prop := ∃ s, b[b.length - 1]? = some s ∧ s ≠ '#'

/-- for `E` read: the fuel is `Enough` (defined before `Call`) -/
def Ret {α : Type} (Q : α → Prop) (b : Buf) (E : Prop) (x : Except Err α) : Prop :=
  (∀ a, x = .ok a → Q a) ∧ (Sent b → E → x ≠ .error .fuel)

abbrev Adv (b : Buf) (E : Prop) (lo : Nat) (x : Except Err Nat) : Prop := Ret (lo ≤ ·) b E x

section
variable {α β : Type} {Q Q' : α → Prop} {R : β → Prop} {b : Buf} {E E' : Prop} {lo lo' : Nat}

theorem Ret.ok {a : α} (h : Q a) : Ret Q b E (.ok a) :=
  ⟨fun _ h' => by cases h'; exact h, fun _ _ => by simp⟩

theorem Ret.index : Ret Q b E (.error .index) :=
  ⟨fun _ h => (nomatch h), fun _ _ => by simp⟩

theorem Ret.fuel (h : ¬E) : Ret Q b E (.error .fuel) :=
  ⟨fun _ h' => (nomatch h'), fun _ hE => absurd hE h⟩

theorem Ret.post {x : Except Err α} {a : α} (h : Ret Q b E x) (hx : x = .ok a) : Q a := h.1 a hx

theorem Ret.mono {x : Except Err α} (h : Ret Q b E x) (hQ : ∀ a, x = .ok a → Q a → Q' a) (hE : Sent b → E' → E) :
    Ret Q' b E' x :=
  ⟨fun a ha => hQ a ha (h.1 a ha), fun hs hE' => h.2 hs (hE hs hE')⟩

theorem Adv.weaken {x : Except Err Nat} (h : Adv b E lo x) (hlo : lo' ≤ lo) (hE : Sent b → E' → E) :
    Adv b E' lo' x :=
  h.mono (fun _ _ => Nat.le_trans hlo) hE

theorem Ret.bind {x : Except Err α} {f : α → Except Err β} (hx : Ret Q b E x)
    (hf : ∀ a, x = .ok a → Q a → Ret R b E (f a)) : Ret R b E (x >>= f) := by
  refine ⟨fun r h => ?_, fun hs hE h => ?_⟩
  · obtain ⟨a, ha, h⟩ := Lib.bind_eq_ok h
    exact (hf a ha (hx.1 a ha)).1 r h
  · cases x with
    | error e => cases h; exact hx.2 hs hE rfl
    | ok a => exact (hf a rfl (hx.1 a rfl)).2 hs hE h
end

theorem skipWhile_spec (p : Char → Bool) (b : Buf) (pos r : Nat) (h : skipWhile p b pos = some r) :
    pos ≤ r ∧ r < b.length ∧ ∀ j, pos ≤ j → j < r → ∃ c, b[j]? = some c ∧ p c = true := by
  fun_induction skipWhile p b pos with
  | case1 pos hlt hp ih =>
    have ⟨h1, h2, h3⟩ := ih h
    refine ⟨by omega, h2, fun j hj1 hj2 => ?_⟩
    by_cases hj : j = pos
    · subst hj; exact ⟨b[j], by simp [hlt], hp⟩
    · exact h3 j (by omega) hj2
  | case2 pos hlt hp => simp at h; subst h; exact ⟨Nat.le_refl _, hlt, fun j _ _ => by omega⟩
  | case3 pos hge => simp at h

theorem skipWhileLt_ge (p : Char → Bool) (b : Buf) (pos : Nat) : pos ≤ skipWhileLt p b pos := by
  fun_induction skipWhileLt p b pos with
  | case1 pos hlt hp ih => omega
  | case2 pos hlt hp => omega
  | case3 pos hge => omega

theorem findChar_spec (c : Char) (b : Buf) (pos r : Nat) (h : findChar c b pos = some r) :
    pos ≤ r ∧ b[r]? = some c := by
  fun_induction findChar c b pos with
  | case1 pos hlt hc => simp at h; subst h; simp [hlt, hc]
  | case2 pos hlt hc ih => have := ih h; exact ⟨by omega, this.2⟩
  | case3 pos hge => simp at h

theorem findSub_bounds (w : List Char) (b : Buf) (pos r : Nat) (h : findSub w b pos = some r) :
    pos ≤ r ∧ r ≤ b.length := by
  fun_induction findSub w b pos with
  | case1 pos hlt hs => simp at h; omega
  | case2 pos hlt hs ih => have := ih h; omega
  | case3 pos hge hw => simp at h; omega
  | case4 pos hge hw => simp at h

theorem walkNoParsing_ge (b : Buf) (pos : Nat) (e : Char) (h : pos < b.length) : pos ≤ walkNoParsing b pos e := by
  unfold walkNoParsing
  cases hf : findChar e b pos with
  | none => simp only [Option.getD_none]; exact Nat.le_sub_one_of_lt h
  | some r => simp only [Option.getD_some]; exact (findChar_spec e b pos r hf).1

theorem walkNoParsing_succ (b : Buf) (pos : Nat) (e : Char) (h : pos < b.length) :
    pos + 1 ≤ walkNoParsing b (pos + 1) e + 1 := by
  unfold walkNoParsing
  cases hf : findChar e b (pos + 1) with
  | none => simp only [Option.getD_none]; omega
  | some r => simp only [Option.getD_some]; have := (findChar_spec e b (pos + 1) r hf).1; omega

theorem walkDollaredQuote_ge (b : Buf) (pos : Nat) (e : Char) : pos ≤ walkDollaredQuote b pos e := by
  fun_induction walkDollaredQuote b pos e with
  | case1 pos hlt hc => omega
  | case2 pos hlt hc hb ih => omega
  | case3 pos hlt hc hb ih => omega
  | case4 pos hge => omega

/-- in `hf` the character searched for (line end or backquote) is not `#`, which is what `walkPound_ret` needs of it -/
theorem walkPound_cases {b : Buf} {pos : Nat} {e : Option Char} {P : Except Err Nat → Prop} (hi : P (.error .index))
    (h1 : P (.ok (pos + 1))) (hl : P (.ok (b.length - 1)))
    (hf : ∀ c r, c ≠ '#' → findChar c b pos = some r → P (.ok r)) : P (walkPound b pos e) := by
  unfold walkPound
  extract_lets rest
  have hrest : P (.ok rest) := by
    dsimp only [rest]
    by_cases he : e = some '`'
    · rw [if_pos he]
      cases h1 : findChar '\n' b pos <;> cases h2 : findChar '`' b pos <;> dsimp only
      · exact hl
      · exact hf _ _ (by decide) h2
      · exact hf _ _ (by decide) h1
      · rename_i i i2
        rcases Nat.le_total i i2 with h | h
        · rw [Nat.min_eq_left h]; exact hf _ _ (by decide) h1
        · rw [Nat.min_eq_right h]; exact hf _ _ (by decide) h2
    · rw [if_neg he]
      cases h1 : findChar '\n' b pos with
      | none => exact hl
      | some i => exact hf _ _ (by decide) h1
  clear_value rest
  refine iteInduction (fun _ => hrest) fun _ => ?_
  cases b[pos - 1]? with
  | none => exact hi
  | some c =>
    dsimp only
    cases isSpace c with
    | false => exact h1
    | true => exact hrest

theorem walkPound_ret {E : Prop} (b : Buf) (pos : Nat) (e : Option Char) (hc : b[pos]? = some '#') :
    Ret (fun r => pos ≤ r ∧ (Sent b → pos < r)) b E (walkPound b pos e) := by
  have hlt := (List.getElem?_eq_some_iff.1 hc).1
  have hne : ∀ c r, c ≠ '#' → b[r]? = some c → r ≠ pos := by
    intro c r hne hr heq; rw [heq, hc] at hr; cases hr; exact hne rfl
  refine walkPound_cases .index (.ok ⟨Nat.le_succ _, fun _ => Nat.lt_succ_self _⟩) (.ok ?_) fun c r hc' hf => .ok ?_
  · exact ⟨Nat.le_sub_one_of_lt hlt, fun ⟨s, hs1, hs2⟩ => by have := hne s _ hs2 hs1; omega⟩
  · have ⟨h1, h2⟩ := findChar_spec c b pos r hf
    exact ⟨h1, fun _ => by have := hne c r hc' h2; omega⟩

theorem slice_mem (b : Buf) (i j : Nat) (c : Char) (h : c ∈ slice b i j) :
    ∃ k, i ≤ k ∧ k < j ∧ b[k]? = some c := by
  unfold slice at h
  obtain ⟨n, hn⟩ := List.mem_iff_getElem?.mp h
  rw [List.getElem?_drop, List.getElem?_take] at hn
  split at hn
  · exact ⟨i + n, by omega, by omega, hn⟩
  · cases hn

theorem name_no_newline (b : Buf) (q : Char → Bool) (hq : q '\n' = false) (ns ne : Nat)
    (h : skipWhile q b ns = some ne) : '\n' ∉ slice b ns ne := by
  intro hm
  obtain ⟨k, h1, h2, h3⟩ := slice_mem b ns ne '\n' hm
  obtain ⟨c, hc, hqc⟩ := (skipWhile_spec q b ns ne h).2.2 k h1 h2
  rw [h3] at hc
  cases hc
  rw [hq] at hqc
  cases hqc

theorem isEnvvar_spec (b : Buf) (pos ns ne np : Nat) (h : isEnvvar b pos = some (ns, ne, np)) :
    pos ≤ ns ∧ ns < ne ∧ np = ne + 1 ∧ b[ne]? = some '=' ∧ '\n' ∉ slice b ns ne := by
  simp only [isEnvvar, Option.bind_eq_bind, Option.bind_eq_some_iff, Option.ite_none_right_eq_some,
    Option.ite_none_left_eq_some, Option.some.injEq, Prod.mk.injEq] at h
  obtain ⟨start, h1, p, h2, heq, hne, rfl, rfl, rfl⟩ := h
  have g1 := skipWhile_spec _ b pos start h1
  have g2 := skipWhile_spec _ b start p h2
  exact ⟨g1.1, by omega, rfl, heq, name_no_newline b _ (by decide) start p h2⟩

theorem isFunction_spec (b : Buf) (pos ns ne np : Nat) (h : isFunction b pos = some (ns, ne, np)) :
    pos < np ∧ '\n' ∉ slice b ns ne := by
  obtain ⟨p1, h1, h⟩ := Option.bind_eq_some_iff.1 h
  -- the optional keyword `function` only moves the position to the right
  generalize hp2 : ite (slice b p1 (p1 + 8) = "function".toList) _ _ = p2 at h
  have g2 : p1 ≤ p2 := by
    rw [← hp2]
    split
    · split
      · split
        · exact Nat.le_add_right _ _
        · exact Nat.le_refl _
      · exact Nat.le_refl _
    · exact Nat.le_refl _
  simp only [Option.bind_eq_bind, Option.bind_eq_some_iff, Option.ite_none_left_eq_some, Option.some.injEq,
    Prod.mk.injEq] at h
  obtain ⟨p3, h3, p4, h4, _, p5, h5, _, p6, h6, _, p7, h7, _, rfl, rfl, rfl⟩ := h
  have g1 := skipWhile_spec _ b pos p1 h1
  have g3 := skipWhile_spec _ b p2 p3 h3
  have g4 := skipWhile_spec _ b p3 p4 h4
  have g5 := skipWhile_spec _ b p4 p5 h5
  have g6 := skipWhile_spec _ b (p5 + 1) p6 h6
  have g7 := skipWhile_spec _ b (p6 + 1) p7 h7
  exact ⟨by omega, name_no_newline b _ (by decide) p3 p4 h4⟩

/-- the shape of `fuelFor`.  A callee at the same position has a smaller rank: `walkHere`, `walkComplexLoop`,
`walkEscaped`, `dollarName`, `dollarBrace` have rank 1; `walkComplex` 2 (it starts its loop); `walkDollar` 2 (it hands a
plain name to `dollarName`); `assignLoop` 3 and `scopeLoop` 4 (both call `walkComplex` where they stand); `processScope`
5 (it starts `scopeLoop`).  Every other call starts further right, from a walker that has read `b[pos]` or a later
character, so that the step is worth 6, the largest rank plus the one unit a call costs: a walker of rank 1 may call one
of rank 5 at the next position -/
abbrev Enough (n : Nat) (b : Buf) (pos rank : Nat) : Prop := 6 * (b.length - pos) + rank ≤ n

/-- what one iteration of a scanning loop at `pos` calls, at one fuel less, before the loop goes round again: a walker
started at `pos + 1`, the comment walk, or (a loop of `rank` 3) a word walk from a non-blank character at `pos`
itself -/
inductive Call (n : Nat) (b : Buf) (pos rank : Nat) : Except Err Nat → Prop
  | esc (e) : Call n b pos rank (walkEscaped n b (pos + 1) e)
  | dollar (e dq) : Call n b pos rank (walkDollar n b (pos + 1) e dq)
  | here (e) : Call n b pos rank (walkHere n b (pos + 1) e)
  | pound (e) : b[pos]? = some '#' → Call n b pos rank (walkPound b pos e)
  | word (c) : 3 ≤ rank → b[pos]? = some c → isSpace c = false → Call n b pos rank (walkComplex n b pos ' ' .space)

/-- one iteration at `pos` of a scanning loop whose other iterations, at one fuel less, are `loop`: it stops (`S` is
what then holds of `pos`), fails on the character before `pos`, or goes on further right, directly or after a call
(`k` is 1 where the loop steps over the closing character its callee stopped at) -/
inductive Iter (n : Nat) (b : Buf) (pos rank : Nat) (S : Nat → Prop) (loop : Nat → Except Err Nat) :
    Except Err Nat → Prop
  | stop : S pos → Iter n b pos rank S loop (.ok pos)
  | index : Iter n b pos rank S loop (.error .index)
  | next (p) : pos < b.length → pos + 1 ≤ p → Iter n b pos rank S loop (loop p)
  | call (x k) : pos < b.length → Call n b pos rank x → Iter n b pos rank S loop (x >>= fun p => loop (p + k))

section
variable {n : Nat} {b : Buf} {pos rank : Nat} {S : Nat → Prop} {loop : Nat → Except Err Nat} {y : Except Err Nat}

theorem Iter.stops {r : Nat} (hl : ∀ p, loop p = .ok r → S r) (hi : Iter n b pos rank S loop y) (h : y = .ok r) :
    S r := by
  cases hi with
  | stop hst => cases h; exact hst
  | index => cases h
  | next p _ _ => exact hl p h
  | call x k _ _ => obtain ⟨p, _, h⟩ := Lib.bind_eq_ok h; exact hl _ h
end

theorem esc_iter (n : Nat) (b : Buf) (pos : Nat) (e : Char) :
    Iter n b pos 1 (fun _ => True) (fun p => walkEscaped n b p e) (walkEscaped (n + 1) b pos e) := by
  rw [walkEscaped]
  cases hc : b[pos]? with
  | none => exact .stop trivial
  | some ch =>
    have hlt := (List.getElem?_eq_some_iff.1 hc).1
    -- one `refine` for each `if` of the loop body, in its order
    refine iteInduction (fun _ => .stop trivial) fun _ => ?_
    refine iteInduction (fun _ => .next _ hlt (by omega)) fun _ => ?_
    refine iteInduction (fun _ => iteInduction (fun _ => .call _ 1 hlt (.esc _)) fun _ => .next _ hlt (by omega))
      fun _ => ?_
    refine iteInduction (fun _ => iteInduction (fun _ => .call _ 1 hlt (.esc _)) fun _ => .next _ hlt (by omega))
      fun _ => ?_
    refine iteInduction (fun _ => .call _ 1 hlt (.esc _)) fun _ => ?_
    refine iteInduction (fun _ => .next _ hlt (walkNoParsing_succ b pos '\'' hlt)) fun _ => ?_
    refine iteInduction (fun _ => .call _ 0 hlt (.dollar _ _)) fun _ => ?_
    exact iteInduction (fun h => .call _ 0 hlt (.pound _ (by rw [hc, h.1]))) fun _ => .next _ hlt (by omega)

/-- where the complex walker stops: at the end of the buffer, at its end character or at a terminator of its level
(`cloop_stops`), so a word walk from a non-blank character does not stop where it started (`word_stops`) -/
def CloopStop (b : Buf) (pos : Nat) (e : Char) (l : Level) : Prop :=
  ∀ ch, b[pos]? = some ch → ch = e ∨ l = .command ∧ (ch = ';' ∨ ch = '\n') ∨ l = .space ∧ isSpace ch

theorem cloop_iter (n : Nat) (b : Buf) (st pos : Nat) (e : Char) (l : Level) :
    Iter n b pos 1 (CloopStop b · e l) (fun p => walkComplexLoop n b st p e l)
      (walkComplexLoop (n + 1) b st pos e l) := by
  rw [walkComplexLoop]
  cases hc : b[pos]? with
  | none => exact .stop (fun _ h => by rw [hc] at h; cases h)
  | some ch =>
    have hlt := (List.getElem?_eq_some_iff.1 hc).1
    have hend : (ch = e ∨ l = .command ∧ (ch = ';' ∨ ch = '\n') ∨ l = .space ∧ isSpace ch) → CloopStop b pos e l :=
      fun h c hc' => by rw [hc] at hc'; cases hc'; exact h
    refine iteInduction (fun he => ?_) fun _ => ?_
    · refine iteInduction (fun _ => .stop (hend (.inl he))) fun _ =>
        iteInduction (fun _ => .stop (hend (.inl he))) fun _ => ?_
      cases b[pos - 1]? with
      | none => exact .index
      | some p => exact iteInduction (fun _ => .stop (hend (.inl he))) fun _ => .next _ hlt (by omega)
    refine iteInduction (fun h => .stop (hend (.inr h))) fun _ => ?_
    refine iteInduction (fun _ => .next _ hlt (by omega)) fun _ => ?_
    refine iteInduction (fun _ => iteInduction (fun _ => .call _ 0 hlt (.here _)) fun _ => .next _ hlt (by omega))
      fun _ => ?_
    refine iteInduction (fun h => ?_) fun _ => ?_
    · have hp : b[pos]? = some '#' := by rw [hc, h]
      by_cases hst : st = pos
      · rw [if_pos hst]; exact .call _ 0 hlt (.pound none hp)
      · rw [if_neg hst]
        cases b[pos - 1]? with
        | none => exact .index
        | some p =>
          dsimp only
          cases isSpace p || decide (p = ';') with
          | true => exact .call _ 0 hlt (.pound none hp)
          | false => exact .next _ hlt (by omega)
    refine iteInduction (fun _ => .call _ 0 hlt (.dollar _ _)) fun _ => ?_
    refine iteInduction (fun _ => .call _ 1 hlt (.esc _)) fun _ => ?_
    refine iteInduction (fun _ => .call _ 1 hlt (.esc _)) fun _ => ?_
    refine iteInduction (fun _ => .call _ 1 hlt (.esc _)) fun _ => ?_
    exact iteInduction (fun _ => .next _ hlt (walkNoParsing_succ b pos '\'' hlt)) fun _ => .next _ hlt (by omega)

theorem cloop_stops : ∀ (n : Nat) (b : Buf) (st pos : Nat) (e : Char) (l : Level) (r : Nat),
    walkComplexLoop n b st pos e l = .ok r → CloopStop b r e l
  | 0, b, st, pos, e, l, r, h => by rw [walkComplexLoop] at h; cases h
  | n + 1, b, st, pos, e, l, r, h => (cloop_iter n b st pos e l).stops (fun p => cloop_stops n b st p e l r) h

theorem word_stops {n : Nat} {b : Buf} {pos r : Nat} {c : Char} (h : walkComplex n b pos ' ' .space = .ok r)
    (hc : b[pos]? = some c) (hsp : isSpace c = false) : r ≠ pos := by
  intro heq
  subst heq
  cases n with
  | zero => rw [walkComplex] at h; cases h
  | succ n =>
    rw [walkComplex] at h
    rcases cloop_stops n b r r ' ' .space r h c hc with rfl | ⟨hl, _⟩ | ⟨_, hsp'⟩
    · exact absurd hsp (by decide)
    · cases hl
    · rw [hsp] at hsp'; cases hsp'

theorem assign_iter (n : Nat) (b : Buf) (pos : Nat) (e : Char) :
    Iter n b pos 3 (fun _ => True) (fun p => assignLoop n b p e) (assignLoop (n + 1) b pos e) := by
  rw [assignLoop]
  cases hc : b[pos]? with
  | none => exact .stop trivial
  | some c =>
    have hlt := (List.getElem?_eq_some_iff.1 hc).1
    refine iteInduction (fun _ => .stop trivial) fun hsp => ?_
    refine iteInduction (fun _ => .next _ hlt (walkNoParsing_succ b pos '\'' hlt)) fun _ => ?_
    refine iteInduction (fun _ => .call _ 1 hlt (.esc _)) fun _ =>
      iteInduction (fun _ => .call _ 1 hlt (.esc _)) fun _ => ?_
    refine iteInduction (fun _ => iteInduction (fun _ => .next _ hlt (by omega)) fun _ => .call _ 0 hlt (.dollar _ _))
      fun _ => ?_
    exact .call _ 0 hlt (.word c (Nat.le_refl 3) hc (Bool.eq_false_iff.2 fun h => hsp (.inl h)))

end Pkgcore.C34
