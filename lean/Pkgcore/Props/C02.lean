import Pkgcore.Proofs.C02
/-!
# C02 — equality, ordering and hashing of package versions (CPV) and atoms agree

`cpvEq … cpvGe`, `cpvHashKey`, `atomCmp`, `atomEq … atomGe`, `atomHashKey` mirror the code (`Model/C02.lean`);
`Consistent`, `cpvCanon`, `atomCanon`, `cpvOrd`, `atomOrd` are the specification (`Spec/C02.lean`).
-/
namespace Pkgcore.C02
open Pkgcore.C01 Pkgcore.C01.Spec Pkgcore.C02.Spec Std

attribute [local instance] lexOrd

/-- what Python observes for the ordered pair `(a, b)` of CPVs; `none` if an operator raises -/
def cpvObs (a b : Cpv) : Option Obs := do
  let lt ← cpvLt a b
  let le ← cpvLe a b
  let gt ← cpvGt a b
  let ge ← cpvGe a b
  pure { eq := cpvEq a b, ne := cpvNe a b, lt, le, gt, ge }

/-- what Python observes for the ordered pair `(a, b)` of atoms -/
def atomObs (a b : Atom) : Option Obs := do
  let eq ← atomEq a b
  let ne ← atomNe a b
  let lt ← atomLt a b
  let le ← atomLe a b
  let gt ← atomGt a b
  let ge ← atomGe a b
  pure { eq, ne, lt, le, gt, ge }

/-- **all six CPV operators are the ones induced by one order**, the lexicographic order on
(category, package, PMS value of version+revision) — for every pair of versioned CPVs and every pair of
unversioned ones; none of them raises. -/
theorem cpv_richcmp_from_order (a b : Cpv) (ha : Cpv.WF a) (hb : Cpv.WF b) (hk : SameKind a b) :
    cpvObs a b = some (Obs.ofOrd (cpvOrd a b)) := by
  have e1 := cpvRich_eq (· == .lt) (· == .lt) (fun _ _ => rfl) a b ha hb hk
  have e2 := cpvRich_eq (· != .gt) (· == .lt) (fun c h => by cases c <;> simp_all) a b ha hb hk
  have e3 := cpvRich_eq (· == .gt) (· == .gt) (fun _ _ => rfl) a b ha hb hk
  have e4 := cpvRich_eq (· != .lt) (· == .gt) (fun c h => by cases c <;> simp_all) a b ha hb hk
  simp only [cpvObs, cpvLt, cpvLe, cpvGt, cpvGe, e1, e2, e3, e4, cpvNe, cpvEq_eq a b ha hb, Obs.ofOrd,
    Option.bind_eq_bind, Option.bind_some, Option.pure_def]
  cases cpvOrd a b <;> rfl

example : SameKind ⟨['a'], ['b'], some (⟨[['1'], ['0']], none, []⟩, [])⟩
    ⟨['a'], ['b'], some (⟨[['1'], ['0', '0']], none, []⟩, ['0'])⟩ := rfl

/-- **CPV equality is equality of canonical forms**: same category, same package, same PMS version value
(so `1.0 == 1.00`, `1_alpha == 1_alpha0`, `1-r0 == 1`, and nothing else is equal); a versioned and an
unversioned CPV are never equal. -/
theorem cpv_eq_iff_canon (a b : Cpv) (ha : Cpv.WF a) (hb : Cpv.WF b) :
    cpvEq a b = true ↔ cpvCanon a = cpvCanon b := by
  rw [cpvEq_eq a b ha hb, beq_iff_eq, cpvOrd_eq_iff]

/-- **equal CPVs hash equal** — and the hashed value separates unequal ones -/
theorem cpv_eq_hash (a b : Cpv) (ha : Cpv.WF a) (hb : Cpv.WF b) :
    cpvEq a b = true ↔ cpvHashKey a = cpvHashKey b := by
  rw [cpv_eq_iff_canon a b ha hb]
  unfold cpvCanon cpvHashKey
  simp only [Prod.mk.injEq, verHashKeyO_eq_iff a.vr b.vr]

/-- the order behind the operators is a total order on canonical forms: reflexive, antisymmetric
(swapping the operands swaps the result), transitive, and `eq` only on equal canonical forms -/
theorem cpvOrd_total_order (a b c : Cpv) :
    cpvOrd a a = .eq ∧ cpvOrd a b = (cpvOrd b a).swap ∧
    ((cpvOrd a b).isLE → (cpvOrd b c).isLE → (cpvOrd a c).isLE) ∧
    (cpvOrd a b = .eq ↔ cpvCanon a = cpvCanon b) :=
  key_total_order (cpvCanon a) (cpvCanon b) (cpvCanon c)

/-- **the property for CPVs**: for every same-kind pair, what Python observes in both directions, together
with the hashed values, is `Consistent`. -/
theorem cpv_consistent (a b : Cpv) (ha : Cpv.WF a) (hb : Cpv.WF b) (hk : SameKind a b) :
    ∃ ab ba, cpvObs a b = some ab ∧ cpvObs b a = some ba ∧
      Consistent ab ba (cpvHashKey a == cpvHashKey b) :=
  ⟨_, _, cpv_richcmp_from_order a b ha hb hk, cpv_richcmp_from_order b a hb ha hk.symm,
    consistent_of_key _ _ _ fun e => beq_iff_eq.mpr ((cpv_eq_hash a b ha hb).mp ((cpv_eq_iff_canon a b ha hb).mpr e))⟩

/-- exactly one of `<`, `==`, `>` holds -/
theorem cpv_trichotomy (a b : Cpv) (ha : Cpv.WF a) (hb : Cpv.WF b) (hk : SameKind a b) :
    ∃ o, cpvObs a b = some o ∧
      ((o.lt = true ∧ o.eq = false ∧ o.gt = false) ∨ (o.lt = false ∧ o.eq = true ∧ o.gt = false) ∨
       (o.lt = false ∧ o.eq = false ∧ o.gt = true)) :=
  ⟨_, cpv_richcmp_from_order a b ha hb hk, ofOrd_trichotomy _⟩

/-- **`atom.__cmp__` never raises and is the lexicographic order of the canonical form**, hence all six
operators (which are `__cmp__(other) ⋄ 0`) are the ones induced by that order. -/
theorem atom_richcmp_from_order (a b : Atom) (ha : Atom.WF a) (hb : Atom.WF b) :
    atomCmp a b = some (atomOrd a b) ∧ atomObs a b = some (Obs.ofOrd (atomOrd a b)) := by
  refine ⟨atomCmp_eq a b ha hb, ?_⟩
  simp only [atomObs, atomEq, atomNe, atomLt, atomLe, atomGt, atomGe, atomCmp_eq a b ha hb, Obs.ofOrd,
    Option.map_some, Option.bind_eq_bind, Option.bind_some, Option.pure_def]
  cases atomOrd a b <;> rfl

example : Atom.WF ⟨['a'], ['b'], some (.ge, ⟨[['1'], ['0', '2']], some 'b', [(.rc, ['1'])]⟩, ['3']),
    true, true, false, some ['0'], some ['2'], some ['='], some [['y'], ['-', 'x']], none⟩ := by
  refine ⟨by simp, ?_⟩
  intro c hc
  simp at hc
  rcases hc with rfl | rfl <;> exact ⟨by simp, by decide⟩

/-- **equal atoms hash equal** -/
theorem atom_eq_hash (a b : Atom) (ha : Atom.WF a) (hb : Atom.WF b) (h : atomEq a b = some true) :
    atomHashKey a = atomHashKey b :=
  atomHashKey_of_canon a b ((atom_eq_iff_canon a b ha hb).mp h)

/-- the written order of USE deps is irrelevant: atoms that differ only by a permutation of their USE
deps are equal (and therefore hash equal) -/
theorem atom_use_order_irrelevant (a : Atom) (u1 u2 : List Str) (ha : Atom.WF a) (h : u1.Perm u2) :
    atomEq { a with use := some u1 } { a with use := some u2 } = some true := by
  have h1 : Atom.WF { a with use := some u1 } := ha
  have h2 : Atom.WF { a with use := some u2 } := ha
  rw [atom_eq_iff_canon _ _ h1 h2]
  exact atomCanon_use a (congrArg some (sortUse_perm u1 u2 h))

example : [['y'], ['-', 'x']].Perm [['-', 'x'], ['y']] := List.Perm.swap _ _ _

/-- total order on canonical forms -/
theorem atomOrd_total_order (a b c : Atom) :
    atomOrd a a = .eq ∧ atomOrd a b = (atomOrd b a).swap ∧
    ((atomOrd a b).isLE → (atomOrd b c).isLE → (atomOrd a c).isLE) ∧
    (atomOrd a b = .eq ↔ atomCanon a = atomCanon b) :=
  key_total_order (atomCanon a) (atomCanon b) (atomCanon c)

/-- **the property for atoms**: for every pair, what Python observes in both directions, together with
the hashed values, is `Consistent`. -/
theorem atom_consistent (a b : Atom) (ha : Atom.WF a) (hb : Atom.WF b) :
    ∃ ab ba, atomObs a b = some ab ∧ atomObs b a = some ba ∧
      Consistent ab ba (atomHashKey a == atomHashKey b) :=
  ⟨_, _, (atom_richcmp_from_order a b ha hb).2, (atom_richcmp_from_order b a hb ha).2,
    consistent_of_key _ _ _ fun e => beq_iff_eq.mpr (atomHashKey_of_canon a b e)⟩

/-- exactly one of `<`, `==`, `>` holds -/
theorem atom_trichotomy (a b : Atom) (ha : Atom.WF a) (hb : Atom.WF b) :
    ∃ o, atomObs a b = some o ∧
      ((o.lt = true ∧ o.eq = false ∧ o.gt = false) ∨ (o.lt = false ∧ o.eq = true ∧ o.gt = false) ∨
       (o.lt = false ∧ o.eq = false ∧ o.gt = true)) :=
  ⟨_, (atom_richcmp_from_order a b ha hb).2, ofOrd_trichotomy _⟩

end Pkgcore.C02
