import Pkgcore.Spec.C01
import Pkgcore.Proofs.Lib
/-! C01 — `ver_cmp` is the PMS algorithm where the revisions are used consistently (`verCmp_eq_pmsCmp`, `RevsOk`), and
the PMS order is the lexicographic order of `key` (`pmsCmp_eq_key`).  The control flow of `ver_cmp` is read in two ways
only: `if c: return c` is `Ordering.then` (`ite_ne_eq_then`), and a short-cut on equal pieces skips a comparison that
would have come out equal (`ite_skip`). -/
namespace Pkgcore.C01
open Pkgcore.C01.Spec Std

/-- revisions are used consistently: both `None` (the `~` operator) or both `Revision` objects -/
def RevsOk (r1 r2 : Rev) : Prop := (r1 = none ∧ r2 = none) ∨ (r1.isSome ∧ r2.isSome)

/-- `if c: return c` -/
theorem ite_ne_eq_then (c d : Ordering) : (if c ≠ .eq then c else d) = c.then d := by
  cases c <;> simp [Ordering.then]

theorem then_of_ne_eq (c d : Ordering) (h : c ≠ .eq) : c.then d = c :=
  (ite_ne_eq_then c d).symm.trans (if_pos h)

/-- the short-cuts of the code: `parts1[x] == parts2[x]`, `ver1 == ver2`, both revisions falsy, … -/
theorem ite_skip {α : Type} {P : Prop} [Decidable P] {d e : α} (h : P → d = e) : (if P then d else e) = e :=
  ite_eq_right_iff.mpr h

/-- the letter test `if a != b: return cmp(a, b)` -/
theorem ite_ne_compare (x y : Int) : (if x ≠ y then compare x y else .eq) = compare x y := by
  rw [ite_not]; exact ite_skip fun e => by rw [e, compare_self]

theorem natcmp_self (n : Nat) : compare n n = .eq := compare_self
theorem listcmp_self (l : List Char) : compare l l = .eq := compare_self

theorem compare_length_cons (a b : List Char) (as bs : List (List Char)) :
    compare (a :: as).length (b :: bs).length = compare as.length bs.length := by
  simp [Nat.compare_eq_ite_lt]

/-- the length comparison after the component loop of `ver_cmp` -/
theorem ite_length_eq_then (as bs : List (List Char)) (d : Ordering) :
    (if as.length > bs.length then .gt else if bs.length > as.length then .lt else d) =
      (compare as.length bs.length).then d := by
  rw [Nat.compare_eq_ite_lt]
  by_cases h1 : as.length > bs.length
  · rw [if_pos h1, if_neg (Nat.lt_asymm h1), if_pos h1]; rfl
  · rw [if_neg h1, if_neg h1, apply_ite (Ordering.then · d)]; rfl

theorem compLoop_cons (i : Nat) (a b : List Char) (as bs : List (List Char)) :
    compLoop i (a :: as) (b :: bs) =
      (if i = 0 ∨ (a.head? ≠ some '0' ∧ b.head? ≠ some '0') then compare (natOfDigits a) (natOfDigits b)
        else compare (rstrip0 a) (rstrip0 b)).then (compLoop (i + 1) as bs) := by
  rw [compLoop]
  simp only [ite_ne_eq_then]
  exact ite_skip fun e => by rw [e, natcmp_self, listcmp_self, ite_self]; rfl

theorem compLoop_eq_pmsRest (i : Nat) (hi : i ≠ 0) (as bs : List (List Char)) :
    (compLoop i as bs).then (compare as.length bs.length) = pmsRest as bs := by
  induction as generalizing i bs with
  | nil => cases bs <;> simp [compLoop, Nat.compare_eq_ite_lt, pmsRest]
  | cons a as ih =>
    cases bs with
    | nil => simp [compLoop, Nat.compare_eq_ite_lt, pmsRest]
    | cons b bs =>
      rw [compLoop_cons, Ordering.then_assoc, compare_length_cons, ih _ i.succ_ne_zero, pmsRest, pmsComp]
      congr 1
      -- PMS asks whether some component has a leading zero, the code whether none has
      by_cases h : a.head? = some '0' ∨ b.head? = some '0'
      · rw [if_pos h, if_neg]
        · rintro (h0 | ⟨h1, h2⟩)
          · exact hi h0
          · exact h.elim h1 h2
      · rw [if_neg h, if_pos (Or.inr ⟨fun e => h (Or.inl e), fun e => h (Or.inr e)⟩)]

theorem compLoop_eq_pmsNumbers (as bs : List (List Char)) :
    (compLoop 0 as bs).then (compare as.length bs.length) = pmsNumbers as bs := by
  cases as with
  | nil => cases bs <;> simp [compLoop, Nat.compare_eq_ite_lt, pmsNumbers]
  | cons a as =>
    cases bs with
    | nil => simp [compLoop, Nat.compare_eq_ite_lt, pmsNumbers]
    | cons b bs =>
      rw [compLoop_cons, Ordering.then_assoc, compare_length_cons, compLoop_eq_pmsRest _ Nat.one_ne_zero,
        if_pos (Or.inl rfl), pmsNumbers]

theorem letterVal_eq_pmsLetter (a b : Option Char) :
    compare (letterVal a) (letterVal b) = pmsLetter a b := by
  cases a <;> cases b <;> simp only [letterVal, pmsLetter]
  · simp
  · rw [Int.compare_eq_lt]; omega
  · rw [Int.compare_eq_gt]; omega
  · rename_i x y
    rcases Nat.lt_trichotomy x.toNat y.toNat with h | h | h
    · rw [Nat.compare_eq_lt.mpr h, Int.compare_eq_lt.mpr (by omega)]
    · rw [h]; simp
    · rw [Nat.compare_eq_gt.mpr h, Int.compare_eq_gt.mpr (by omega)]

theorem sufVal_eq_rank (s : Suf) : sufVal s = rank s := by
  cases s <;> decide +kernel

theorem rank_ne_zero (s : Suf) : rank s ≠ 0 := by cases s <;> decide

theorem compare_zero_rank (s : Suf) : compare (0 : Int) (rank s) = if s = .p then .lt else .gt := by
  cases s <;> decide

theorem compare_rank_zero (s : Suf) : compare (rank s) (0 : Int) = if s = .p then .gt else .lt := by
  cases s <;> decide

theorem sufLoop_eq_pmsSufs (xs ys : List (Suf × List Char)) : sufLoop xs ys = pmsSufs xs ys := by
  induction xs generalizing ys with
  | nil =>
    cases ys with
    | nil => simp [sufLoop, pmsSufs]
    | cons y ys =>
      obtain ⟨s, n⟩ := y
      -- no table value is 0 (`rank_ne_zero`): the code's `else` branch is dead
      simp only [sufLoop, pmsSufs, sufVal_eq_rank, ne_eq, rank_ne_zero, not_false_eq_true, if_true,
        compare_zero_rank]
  | cons x xs ih =>
    obtain ⟨s, n⟩ := x
    cases ys with
    | nil =>
      simp only [sufLoop, pmsSufs, sufVal_eq_rank, ne_eq, rank_ne_zero, not_false_eq_true, if_true,
        compare_rank_zero]
    | cons y ys =>
      obtain ⟨t, m⟩ := y
      rw [sufLoop, pmsSufs, ← ih]
      simp only [ite_ne_eq_then, sufVal_eq_rank, ← Ordering.then_assoc]
      exact ite_skip fun e => by cases e; simp

theorem cmpRev_eq_revNat (r1 r2 : Rev) (h : RevsOk r1 r2) : cmpRev r1 r2 = compare (revNat r1) (revNat r2) := by
  rcases h with ⟨h1, h2⟩ | ⟨h1, h2⟩
  · subst h1; subst h2; simp [cmpRev, revNat]
  · cases r1 <;> cases r2 <;> simp_all [cmpRev, revNat]

/-! What the short-cuts of `ver_cmp` skip comes out equal: a piece compared with itself, two falsy revisions. -/

theorem pmsComp_self (a : List Char) : pmsComp a a = .eq := by
  unfold pmsComp; split <;> simp

theorem pmsNumbers_self (as : List (List Char)) : pmsNumbers as as = .eq := by
  have hr : ∀ l : List (List Char), pmsRest l l = .eq := by
    intro l; induction l with
    | nil => simp [pmsRest]
    | cons a l ih => simp [pmsRest, pmsComp_self, ih]
  cases as <;> simp [pmsNumbers, hr]

theorem pmsLetter_self (a : Option Char) : pmsLetter a a = .eq := by
  cases a <;> simp [pmsLetter]

theorem pmsSufs_self (l : List (Suf × List Char)) : pmsSufs l l = .eq := by
  induction l with
  | nil => simp [pmsSufs]
  | cons x l ih => obtain ⟨s, n⟩ := x; simp [pmsSufs, ih]

/-- core's lemmas on `Nat.ofDigitChars` (`Nat.ofDigitChars_cons`, `_append`, `_ten_toDigits`) apply to `natOfDigits` as
they stand -/
theorem natOfDigits_eq : natOfDigits = (Nat.ofDigitChars 10 · 0) := rfl

theorem natOfDigits_nil : natOfDigits [] = 0 := rfl

theorem revNat_of_falsy (r : Rev) (h : r.truthy = false) : revNat r = 0 := by
  cases r with
  | none => rfl
  | some ds => cases ds with
    | nil => exact natOfDigits_nil
    | cons _ _ => cases h

theorem verCmp_eq_pmsCmp (v1 v2 : Ver) (r1 r2 : Rev) (h : RevsOk r1 r2) :
    verCmp v1 r1 v2 r2 = pmsCmp v1 r1 v2 r2 := by
  unfold verCmp pmsCmp
  simp only [ite_ne_eq_then, ite_ne_compare, ite_length_eq_then, cmpRev_eq_revNat _ _ h]
  -- the code is now a chain of `then`s under its three short-cuts; of the two `ite_skip`, the later one's side goal
  -- comes first
  rw [← Ordering.then_assoc (compLoop 0 _ _), compLoop_eq_pmsNumbers, letterVal_eq_pmsLetter, sufLoop_eq_pmsSufs,
    ite_skip (P := _ ∧ _), ite_skip (P := v1 = v2), Ordering.then_assoc]
  · -- `ver1 == ver2`: only the revisions are compared, and falsy ones (`None`, `Revision("")`) count as 0
    rintro rfl
    rw [pmsNumbers_self, pmsLetter_self, pmsSufs_self]
    exact ite_skip fun e => by
      simp only [Bool.and_eq_true, Bool.not_eq_true'] at e
      rw [revNat_of_falsy _ e.1, revNat_of_falsy _ e.2]; rfl
  · -- `parts1[0] == parts2[0]`
    rintro ⟨e1, e2⟩; rw [e1, e2, pmsNumbers_self, pmsLetter_self]; rfl

theorem verCmp_eq_pmsCmp_some (v1 v2 : Ver) (a b : List Char) :
    verCmp v1 (some a) v2 (some b) = pmsCmp v1 (some a) v2 (some b) :=
  verCmp_eq_pmsCmp _ _ _ _ (Or.inr ⟨rfl, rfl⟩)

theorem verCmp_eq_pmsCmp_none (v1 v2 : Ver) : verCmp v1 none v2 none = pmsCmp v1 none v2 none :=
  verCmp_eq_pmsCmp _ _ _ _ (Or.inl ⟨rfl, rfl⟩)

theorem versionMatch_pms (vals : List Int) (d negate : Bool) (v pv : Ver) (r pr : Rev) (h : d = true ∨ RevsOk pr r) :
    versionMatch vals d negate v r pv pr =
      (vals.contains (ordToInt (if d then pmsCmp pv none v none else pmsCmp pv pr v r)) != negate) := by
  cases d
  · simp only [versionMatch, Bool.false_eq_true, if_false, verCmp_eq_pmsCmp _ _ _ _ (h.resolve_left Bool.noConfusion)]
  · simp only [versionMatch, if_true, verCmp_eq_pmsCmp_none]

/-! `key` takes its values in nested pairs; `lexOrd` makes `compare` on them the lexicographic order. -/

attribute [local instance] lexOrd

theorem zero_lt_digit (c : Char) (h : c.isDigit = true) (hne : c ≠ '0') : compare '0' c = .lt := by
  have h48 : 48 ≤ c.toNat := (Char.isDigit_iff_toNat.1 h).1
  have hne48 : c.toNat ≠ 48 := fun e => hne (Char.toNat_inj.1 e)
  have h1 : '0' < c := Char.lt_def.2 (UInt32.lt_iff_toNat_lt.2 (by show 48 < c.toNat; omega))
  simp [compare, compareOfLessAndEq, h1]

/-- the mixed case of Algorithm 3.3: as strings too, a component with a leading zero is below one without, which is why
`compKey` can tell the two kinds apart by a flag in front -/
theorem rstrip0_zero_lt (t u : List Char) (c : Char) (hc : c.isDigit = true) (hne : c ≠ '0') :
    compare (rstrip0 ('0' :: t)) (rstrip0 (c :: u)) = .lt := by
  have h2 : rstrip0 (c :: u) = c :: rstrip0 u := by simp [rstrip0, hne]
  rw [h2]
  by_cases h : rstrip0 t = []
  · simp [rstrip0, h]
  · simp [rstrip0, h, zero_lt_digit c hc hne]

theorem pmsComp_eq_key (a b : List Char) (ha : digits a) (hb : digits b) :
    pmsComp a b = compare (compKey a) (compKey b) := by
  obtain ⟨hane, had⟩ := ha
  obtain ⟨hbne, hbd⟩ := hb
  cases a with
  | nil => exact absurd rfl hane
  | cons x t =>
    cases b with
    | nil => exact absurd rfl hbne
    | cons y u =>
      have hx := had x (by simp)
      have hy := hbd y (by simp)
      unfold pmsComp compKey
      by_cases h1 : x = '0' <;> by_cases h2 : y = '0'
      · subst h1; subst h2; simp [Lib.lex_pair]
      · subst h1
        simp only [List.head?_cons, true_or, if_true, Option.some.injEq, h2, if_false, Lib.lex_pair]
        rw [rstrip0_zero_lt t u y hy h2]; rfl
      · subst h2
        simp only [List.head?_cons, or_true, if_true, Option.some.injEq, h1, if_false, Lib.lex_pair]
        have := rstrip0_zero_lt u t x hx h1
        rw [OrientedCmp.eq_swap (cmp := compare) (a := rstrip0 (x :: t)), this]; rfl
      · simp [h1, h2, Lib.lex_pair]

theorem pmsRest_eq_key (as bs : List (List Char)) (ha : ∀ c ∈ as, digits c) (hb : ∀ c ∈ bs, digits c) :
    pmsRest as bs = compare (as.map compKey) (bs.map compKey) := by
  induction as generalizing bs with
  | nil => cases bs <;> simp [pmsRest]
  | cons a as ih =>
    cases bs with
    | nil => simp [pmsRest]
    | cons b bs =>
      simp only [pmsRest, List.map_cons, List.compare_cons_cons]
      rw [pmsComp_eq_key a b (ha a (by simp)) (hb b (by simp)),
        ih bs (fun c hc => ha c (by simp [hc])) (fun c hc => hb c (by simp [hc]))]

theorem pmsLetter_eq_key (a b : Option Char) : pmsLetter a b = compare (letterKey a) (letterKey b) := by
  cases a <;> cases b <;> simp only [pmsLetter, letterKey]
  · simp
  · symm; rw [Nat.compare_eq_lt]; omega
  · symm; rw [Nat.compare_eq_gt]; omega
  · rename_i x y
    rcases Nat.lt_trichotomy x.toNat y.toNat with h | h | h
    · rw [Nat.compare_eq_lt.mpr h, Nat.compare_eq_lt.mpr (by omega)]
    · rw [h]; simp
    · rw [Nat.compare_eq_gt.mpr h, Nat.compare_eq_gt.mpr (by omega)]

theorem pmsSufs_eq_key (xs ys : List (Suf × List Char)) :
    pmsSufs xs ys = compare (xs.map sufKey ++ [((0 : Int), (0 : Nat))]) (ys.map sufKey ++ [(0, 0)]) := by
  induction xs generalizing ys with
  | nil =>
    cases ys with
    | nil => simp [pmsSufs]
    | cons y ys =>
      obtain ⟨s, n⟩ := y
      simp only [pmsSufs, List.map_nil, List.nil_append, List.map_cons, List.cons_append,
        List.compare_cons_cons, Lib.lex_pair, sufKey, compare_zero_rank]
      by_cases hp : s = .p <;> simp [hp, Ordering.then]
  | cons x xs ih =>
    obtain ⟨s, n⟩ := x
    cases ys with
    | nil =>
      simp only [pmsSufs, List.map_nil, List.nil_append, List.map_cons, List.cons_append,
        List.compare_cons_cons, Lib.lex_pair, sufKey, compare_rank_zero]
      by_cases hp : s = .p <;> simp [hp, Ordering.then]
    | cons y ys =>
      obtain ⟨t, m⟩ := y
      simp only [pmsSufs, List.map_cons, List.cons_append, List.compare_cons_cons, Lib.lex_pair, sufKey, ih]

theorem pmsCmp_eq_key (v1 v2 : Ver) (r1 r2 : Rev) (h1 : WF v1) (h2 : WF v2) :
    pmsCmp v1 r1 v2 r2 = compare (key v1 r1) (key v2 r2) := by
  obtain ⟨n1, d1⟩ := h1
  obtain ⟨n2, d2⟩ := h2
  unfold pmsCmp key
  cases hc1 : v1.comps with
  | nil => exact absurd hc1 n1
  | cons a as =>
    cases hc2 : v2.comps with
    | nil => exact absurd hc2 n2
    | cons b bs =>
      simp only [pmsNumbers, List.headD_cons, List.tail_cons, Lib.lex_pair]
      rw [pmsRest_eq_key as bs (fun c hc => d1 c (by simp [hc1, hc])) (fun c hc => d2 c (by simp [hc2, hc])),
        ← pmsLetter_eq_key, ← pmsSufs_eq_key, Ordering.then_assoc]

end Pkgcore.C01
