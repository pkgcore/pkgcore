import Pkgcore.Spec.C13
import Pkgcore.Proofs.Lib
/-! C13: the three configuration stacks (masks, keywords, licenses) are folds of set operations over a list used as a
set; each is followed one element at a time (`contains_applyOps`, `contains_licExpand`) or, for keywords without negated
tokens, collapses to plain concatenation (`incExpand_eq_append`).  Last, the alternatives of `dnf_solutions` against the
and/or expression they come from (`Sat`, `dnf_eval`). -/
namespace Pkgcore.C13
open Pkgcore.C13.Spec

theorem contains_applyOps (ops : List MaskOp) (s : List Str) (a : Str) :
    (applyOps ops s).contains a = inEffect ops a (s.contains a) := by
  induction ops generalizing s with
  | nil => rfl
  | cons op ops ih =>
    rw [applyOps, inEffect, ih, List.contains_append, Lib.contains_filter]
    congr 1
    cases op.pos.contains a <;> cases op.neg.contains a <;> cases s.contains a <;> rfl

theorem mem_applyOps (ops : List MaskOp) (s : List Str) (a : Str) :
    a ∈ applyOps ops s ↔ inEffect ops a (s.contains a) = true := by
  rw [← List.contains_iff_mem, contains_applyOps]

theorem any_applyOps (m : Str → Bool) (ops : List MaskOp) :
    (applyOps ops []).any m = true ↔ Hit m ops := by
  rw [List.any_eq_true]
  exact exists_congr fun a => and_congr (mem_applyOps ops [] a) Iff.rfl

theorem inEffect_true (ops : List MaskOp) (a : Str) (cur : Bool) (h : inEffect ops a cur = true) :
    cur = true ∨ a ∈ ops.flatMap (·.pos) := by
  induction ops generalizing cur with
  | nil => exact Or.inl h
  | cons op ops ih =>
    rw [List.flatMap_cons, List.mem_append]
    rcases ih _ h with h1 | h1
    · split at h1
      · next hp => exact Or.inr (Or.inl (List.contains_iff_mem.1 hp))
      · split at h1
        · cases h1
        · exact Or.inl h1
    · exact Or.inr (Or.inr h1)

def NoNeg (l : List Str) : Prop := ∀ t ∈ l, isNeg t = false

theorem incExpand_eq_append (ts s : List Str) (hts : NoNeg ts) (hs : NoNeg s) : incExpand ts s = s ++ ts := by
  induction ts generalizing s with
  | nil => exact (List.append_nil s).symm
  | cons t ts ih =>
    have ht : isNeg t = false := hts t List.mem_cons_self
    have hfil : s.filter (· != '-' :: t) = s := List.filter_eq_self.2 fun x hx => by
      have hne : x ≠ '-' :: t := by
        rintro rfl
        cases (hs _ hx : true = false)
      simpa using hne
    have hst : NoNeg (s ++ [t]) := List.forall_mem_append.2 ⟨hs, fun x hx => by rw [List.mem_singleton.1 hx]; exact ht⟩
    rw [incExpand, if_neg (by rw [ht]; nofun), hfil, ih _ (fun x hx => hts x (List.mem_cons_of_mem _ hx)) hst,
      List.append_assoc]
    rfl

/-- the pseudo entries made from always-true restrictions hold negative tokens only: under positive tokens they are
empty -/
theorem keyList_flat (es : List KwEntry) (started : Bool) (hpos : ∀ e ∈ es, NoNeg e.tokens) :
    ((keyList es started).filter (·.1)).flatMap (·.2) =
      (es.filter fun e => e.cls == .atom && e.sameKey && e.hit).flatMap (·.tokens) := by
  induction es generalizing started with
  | nil => rfl
  | cons e es ih =>
    have hpos' : ∀ e' ∈ es, NoNeg e'.tokens := fun e' he' => hpos e' (List.mem_cons_of_mem _ he')
    have hnone : e.tokens.filter isNeg = [] :=
      List.filter_eq_nil_iff.2 fun t ht => by rw [hpos e List.mem_cons_self t ht]; nofun
    rw [keyList, List.filter_cons]
    split
    · next hc =>
      split
      · next hk => cases e.hit <;> simp [hc, hk, ih true hpos']
      · next hk => simp [hc, hk, ih started hpos']
    · next hc => cases started <;> simp [hc, hnone, ih _ hpos']
    · next h1 h2 =>
      have hc : (e.cls == Cls.atom) = false := by simpa using h1
      simp [hc, ih started hpos']

/-- the list is the one `pulled` runs over -/
theorem mem_otherKinds_iff (c : Cls) : c ∈ [Cls.repo, .cat, .pkg, .multi] ↔ c ≠ .always ∧ c ≠ .atom := by
  cases c <;> decide

theorem mem_pulled (es : List KwEntry) (x : Str) (hpos : ∀ e ∈ es, NoNeg e.tokens) :
    x ∈ pulled es ↔
      ∃ e ∈ es, e.hit = true ∧ e.cls ≠ .always ∧ (e.cls = .atom → e.sameKey = true) ∧ x ∈ e.tokens := by
  unfold pulled
  rw [List.mem_append, keyList_flat es false hpos]
  simp only [List.mem_flatMap, List.mem_filter, Bool.and_eq_true, beq_iff_eq]
  constructor
  · rintro (⟨c, hc, e, ⟨he, rfl, hh⟩, hx⟩ | ⟨e, ⟨he, ⟨hc, hk⟩, hh⟩, hx⟩)
    · have hne := (mem_otherKinds_iff e.cls).1 hc
      exact ⟨e, he, hh, hne.1, fun h => absurd h hne.2, hx⟩
    · exact ⟨e, he, hh, hc ▸ nofun, fun _ => hk, hx⟩
  · rintro ⟨e, he, hh, hna, hk, hx⟩
    by_cases hc : e.cls = .atom
    · exact Or.inr ⟨e, ⟨he, ⟨hc, hk hc⟩, hh⟩, hx⟩
    · exact Or.inl ⟨e.cls, (mem_otherKinds_iff e.cls).2 ⟨hna, hc⟩, e, ⟨he, rfl, hh⟩, hx⟩

theorem noNeg_pulled (es : List KwEntry) (hpos : ∀ e ∈ es, NoNeg e.tokens) : NoNeg (pulled es) := by
  intro x hx
  obtain ⟨e, he, _, _, _, hxe⟩ := (mem_pulled es x hpos).1 hx
  exact hpos e he x hxe

theorem mem_alwaysTokens (defaults : List Str) (es : List KwEntry) (x : Str) :
    x ∈ alwaysTokens defaults es ↔ x ∈ defaults ∨ ∃ e ∈ es, e.cls = .always ∧ x ∈ e.tokens := by
  simp only [alwaysTokens, List.mem_append, List.mem_flatMap, List.mem_filter, beq_iff_eq, and_assoc]

theorem noNeg_defaults (c : KwConfig) (h : KwPlain c) : NoNeg (defaultKeys c.arch c.accept) := by
  obtain ⟨ha, hacc, _⟩ := h
  intro t ht
  simp only [defaultKeys, List.mem_append, List.mem_cons, List.not_mem_nil, or_false, List.mem_map,
    List.mem_filter] at ht
  rcases ht with (rfl | ht) | ⟨k, ⟨hk, _⟩, rfl⟩
  · exact ha
  · exact (hacc t ht).1
  · -- the stable form of a testing keyword `k`: the second conjunct `KwPlain` asks of `ACCEPT_KEYWORDS` is there for
    -- this case (the stable form of `~-x` would be a negated token)
    have hk2 := (hacc k hk).2
    unfold isNeg
    cases hh : (k.dropWhile (· == '~')).head? with
    | none => rfl
    | some ch =>
      rw [hh] at hk2
      have hch : ch ≠ '-' := fun e => hk2 (by rw [e])
      simp [hch]

theorem of_mem_effective {stable : Bool} {ua : Str} {es : List KwEntry} {e' : KwEntry}
    (h : e' ∈ effective stable ua es) :
    ∃ e ∈ es, e'.cls = e.cls ∧ e'.sameKey = e.sameKey ∧ e'.hit = e.hit ∧
      (e'.tokens = e.tokens ∨ (e.tokens = [] ∧ stable = true ∧ e'.tokens = [ua])) := by
  obtain ⟨e, he, rfl⟩ := List.mem_map.1 (List.mem_filter.1 h).1
  refine ⟨e, he, ?_⟩
  split
  · next hc =>
    rw [Bool.and_eq_true, List.isEmpty_iff] at hc
    exact ⟨rfl, rfl, rfl, Or.inr ⟨hc.2, hc.1, rfl⟩⟩
  · exact ⟨rfl, rfl, rfl, Or.inl rfl⟩

/-- the entries part of `KwPlain` (its third conjunct, definitionally) -/
def PlainEntries (es : List KwEntry) : Prop :=
  ∀ e ∈ es, NoNeg e.tokens ∧ (e.cls = .always → e.hit = true) ∧ (e.cls = .atom → e.hit = true → e.sameKey = true)

theorem plain_effective (stable : Bool) {ua : Str} (hua : isNeg ua = false) {es : List KwEntry} (h : PlainEntries es) :
    PlainEntries (effective stable ua es) := fun e' he' => by
  obtain ⟨e, he, hcls, hkey, hhit, ht⟩ := of_mem_effective he'
  obtain ⟨h1, h2, h3⟩ := h e he
  rw [hcls, hkey, hhit]
  refine ⟨?_, h2, h3⟩
  rcases ht with ht | ⟨_, _, ht⟩ <;> rw [ht]
  · exact h1
  · exact fun t ht => by rw [List.mem_singleton.1 ht]; exact hua

theorem effective_hit_tokens (stable : Bool) (ua : Str) (es : List KwEntry) (x : Str) :
    (∃ e' ∈ effective stable ua es, e'.hit = true ∧ x ∈ e'.tokens) ↔
      ∃ e ∈ es, e.hit = true ∧ (x ∈ e.tokens ∨ (e.tokens = [] ∧ stable = true ∧ x = ua)) := by
  constructor
  · rintro ⟨e', he', hh, hx⟩
    obtain ⟨e, he, -, -, hhit, ht | ⟨hemp, hst, ht⟩⟩ := of_mem_effective he'
    · exact ⟨e, he, hhit ▸ hh, Or.inl (ht ▸ hx)⟩
    · exact ⟨e, he, hhit ▸ hh, Or.inr ⟨hemp, hst, List.mem_singleton.1 (ht ▸ hx)⟩⟩
  · rintro ⟨e, he, hh, hx | ⟨hemp, hst, rfl⟩⟩
    · have hne : e.tokens.isEmpty = false := by cases hq : e.tokens <;> simp_all
      refine ⟨e, List.mem_filter.2 ⟨List.mem_map.2 ⟨e, he, ?_⟩, by simp [hne]⟩, hh, hx⟩
      rw [hne, Bool.and_false, if_neg Bool.false_ne_true]
    · refine ⟨{ e with tokens := [x] }, List.mem_filter.2 ⟨List.mem_map.2 ⟨e, he, ?_⟩, rfl⟩, hh,
        List.mem_singleton_self x⟩
      rw [hst, hemp]
      rfl

theorem allowed_eq_append (stable : Bool) (defaults : List Str) (es : List KwEntry) (hdef : NoNeg defaults)
    (hpos : ∀ e ∈ es, NoNeg e.tokens) :
    (if stable then allowedStable defaults es else allowedUnstable defaults es) =
      alwaysTokens defaults es ++ pulled es := by
  have halw : NoNeg (alwaysTokens defaults es) := fun t ht =>
    ((mem_alwaysTokens defaults es t).1 ht).elim (hdef t) fun ⟨e, he, _, hx⟩ => hpos e he t hx
  have hA : incExpand (alwaysTokens defaults es) [] = alwaysTokens defaults es :=
    incExpand_eq_append _ [] halw nofun
  have hfin : defaultsFinalized defaults es = alwaysTokens defaults es := by
    rw [defaultsFinalized, hA]
    exact List.filter_eq_self.2 fun t ht => by rw [halw t ht]; rfl
  cases stable
  · rw [if_neg Bool.false_ne_true, allowedUnstable, hA]
  · rw [if_pos rfl, allowedStable, hfin, incExpand_eq_append _ _ (noNeg_pulled es hpos) halw]

theorem mem_always_pulled (defaults : List Str) (es : List KwEntry) (x : Str) (hes : PlainEntries es) :
    x ∈ alwaysTokens defaults es ++ pulled es ↔ x ∈ defaults ∨ ∃ e ∈ es, e.hit = true ∧ x ∈ e.tokens := by
  rw [List.mem_append, mem_alwaysTokens, mem_pulled es x fun e he => (hes e he).1]
  constructor
  · rintro ((h | ⟨e, he, hc, hx⟩) | ⟨e, he, hh, _, _, hx⟩)
    · exact Or.inl h
    · exact Or.inr ⟨e, he, (hes e he).2.1 hc, hx⟩
    · exact Or.inr ⟨e, he, hh, hx⟩
  · rintro (h | ⟨e, he, hh, hx⟩)
    · exact Or.inl (Or.inl h)
    · by_cases hc : e.cls = .always
      · exact Or.inl (Or.inr ⟨e, he, hc, hx⟩)
      · exact Or.inr ⟨e, he, hh, hc, fun ha => (hes e he).2.2 ha hh, hx⟩

/-- stated with the `let`s of `kwOk`, so that it closes `kwOk`'s general branch as it stands -/
theorem mem_allowed (c : KwConfig) (h : KwPlain c) (x : Str) :
    let defaults := defaultKeys c.arch c.accept
    let stable := !(defaults.contains ('~' :: c.arch))
    let es := effective stable ('~' :: c.arch) c.entries
    (x ∈ (if stable then allowedStable defaults es else allowedUnstable defaults es)) ↔ Allowed c x := by
  intro defaults stable es
  have hes : PlainEntries es := plain_effective stable rfl h.2.2
  rw [allowed_eq_append stable defaults es (noNeg_defaults c h) fun e he => (hes e he).1,
    mem_always_pulled defaults es x hes, effective_hit_tokens]
  have hst : stable = true ↔ Stable c := by simp [Stable, stable, defaults]
  simp only [Allowed, ← hst]
  rfl

theorem keywordsAccepted_iff (c : KwConfig) (allowed : List Str) (hm : ∀ x, x ∈ allowed ↔ Allowed c x)
    (kws : List Str) :
    keywordsAccepted allowed kws = true ↔ KwVisible c kws := by
  unfold keywordsAccepted KwVisible
  simp only [Bool.or_eq_true, Bool.and_eq_true, List.any_eq_true, List.contains_iff_mem, hm, Bool.not_eq_true',
    Bool.or_eq_false_iff, or_assoc]

/-- `*` stands for the licenses of the alternative only, hence `hl` -/
theorem contains_licExpand (groups : Str → List Str) (andPair : List Str) (l : Str) (hl : l ∈ andPair)
    (toks s : List Str) :
    (licExpand groups andPair toks s).contains l = accepts groups toks l (s.contains l) := by
  induction toks generalizing s with
  | nil => rfl
  | cons t ts ih =>
    rw [licExpand, accepts]
    -- branch by branch: the step on the set, seen at `l`, is the step on the verdict
    by_cases hn : isNeg t = true
    · rw [if_pos hn, if_pos hn]
      dsimp only
      generalize t.drop 1 = i
      by_cases hs : (i == star) = true
      · rw [if_pos hs, if_pos hs, ih]; rfl
      · rw [if_neg hs, if_neg hs]
        by_cases ha : isAt i = true
        · rw [if_pos ha, if_pos ha, ih, Lib.contains_filter]
          congr 1
          cases (groups (i.drop 1)).contains l <;> cases s.contains l <;> rfl
        · rw [if_neg ha, if_neg ha, ih, Lib.contains_filter]
          congr 1
          by_cases he : i = l
          · rw [he, bne_self_eq_false, beq_self_eq_true, Bool.and_false]; rfl
          · rw [beq_eq_false_iff_ne.2 he, bne_iff_ne.2 (Ne.symm he), Bool.and_true]; rfl
    · rw [if_neg hn, if_neg hn]
      by_cases ha : isAt t = true
      · rw [if_pos ha, if_pos ha, ih, List.contains_append]
        congr 1
        cases (groups (t.drop 1)).contains l <;> cases s.contains l <;> rfl
      · rw [if_neg ha, if_neg ha]
        by_cases hs : (t == star) = true
        · rw [if_pos hs, if_pos hs, ih, List.contains_append, List.contains_iff_mem.2 hl, Bool.or_true]
        · rw [if_neg hs, if_neg hs, ih, List.contains_append, List.contains_cons, List.contains_nil, Bool.or_false]
          congr 1
          by_cases he : t = l
          · rw [he, beq_self_eq_true, Bool.or_true]; rfl
          · rw [beq_eq_false_iff_ne.2 he, beq_eq_false_iff_ne.2 (Ne.symm he), Bool.or_false]; rfl

theorem mem_licExpand (groups : Str → List Str) (andPair : List Str) (l : Str) (hl : l ∈ andPair)
    (toks s : List Str) :
    l ∈ licExpand groups andPair toks s ↔ accepts groups toks l (s.contains l) = true := by
  rw [← List.contains_iff_mem, contains_licExpand groups andPair l hl]

def Sat (acc : Str → Bool) (alts : List (List Str)) : Prop := ∃ alt ∈ alts, ∀ l ∈ alt, acc l = true

theorem sat_append (acc : Str → Bool) (a b : List (List Str)) : Sat acc (a ++ b) ↔ Sat acc a ∨ Sat acc b := by
  simp only [Sat, List.mem_append]
  constructor
  · rintro ⟨alt, h | h, hall⟩
    · exact Or.inl ⟨alt, h, hall⟩
    · exact Or.inr ⟨alt, h, hall⟩
  · rintro (⟨alt, h, hall⟩ | ⟨alt, h, hall⟩)
    · exact ⟨alt, Or.inl h, hall⟩
    · exact ⟨alt, Or.inr h, hall⟩

theorem sat_cross (acc : Str → Bool) (a b : List (List Str)) : Sat acc (cross a b) ↔ Sat acc a ∧ Sat acc b := by
  simp only [Sat, cross, List.mem_flatMap, List.mem_map]
  constructor
  · rintro ⟨alt, ⟨x, hx, y, hy, rfl⟩, hall⟩
    exact ⟨⟨x, hx, fun l hl => hall l (List.mem_append_left _ hl)⟩,
      ⟨y, hy, fun l hl => hall l (List.mem_append_right _ hl)⟩⟩
  · rintro ⟨⟨x, hx, hxa⟩, ⟨y, hy, hya⟩⟩
    refine ⟨x ++ y, ⟨x, hx, y, hy, rfl⟩, ?_⟩
    intro l hl
    rcases List.mem_append.1 hl with h | h
    · exact hxa l h
    · exact hya l h

mutual
theorem dnf_eval (acc : Str → Bool) : ∀ t : LTree, Sat acc t.dnf ↔ eval acc t = true
  | .lic n => by simp [LTree.dnf, eval, Sat]
  | .all ts => by simpa [LTree.dnf, eval] using dnfAll_eval acc ts
  | .any ts => by simpa [LTree.dnf, eval] using dnfAny_eval acc ts
theorem dnfAll_eval (acc : Str → Bool) : ∀ ts : List LTree, Sat acc (dnfAll ts) ↔ evalAll acc ts = true
  | [] => by simp [dnfAll, evalAll, Sat]
  | t :: ts => by
    simp only [dnfAll, evalAll, Bool.and_eq_true]
    rw [sat_cross, dnf_eval acc t, dnfAll_eval acc ts]
theorem dnfAny_eval (acc : Str → Bool) : ∀ ts : List LTree, Sat acc (dnfAny ts) ↔ evalAny acc ts = true
  | [] => by simp [dnfAny, evalAny, Sat]
  | t :: ts => by
    simp only [dnfAny, evalAny, Bool.or_eq_true]
    rw [sat_append, dnf_eval acc t, dnfAny_eval acc ts]
end

end Pkgcore.C13
