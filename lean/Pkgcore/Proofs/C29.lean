import Pkgcore.Spec.C29
import Pkgcore.Proofs.Lib
/-!
Every routine is a list `A ++ op :: B` whose segments touch hidden names only (`Within`), so no crash state inside a
segment lists anything new (`Quiet`, `quiet_of_within`), and whose single operation between the segments is the commit
point (`crashConsistent_of_commit`); it is a rename into or out of the listing or the `unlink` of a listed file, and
each routine theorem is one call of `crashConsistent_rename_in`, `crashConsistent_rename_out` or
`crashConsistent_unlink`.  The two replace shapes are two such routines one after the other (`CrashConsistent.seq`):
install then uninstall, or hide then rename in.  Both listings are instances of
`viewOf`; every store step is an `upd`, and `viewOf_upd_*` say what an `upd` does to a listing.
-/
namespace Pkgcore.C29
open Pkgcore.C29.Spec

theorem run_append (a b : List Op) (st : Store) : run (a ++ b) st = run b (run a st) := by
  simp only [run, List.foldl_append]

/- Rewrite with `run_cons`, `run_nil`, `run_noop_cons`; a `show` through `run` makes the unifier compare the
`.noop "…".toList` labels of the routines. -/
theorem run_cons (op : Op) (ops : List Op) (st : Store) : run (op :: ops) st = run ops (step st op) := rfl

theorem run_nil (st : Store) : run [] st = st := rfl

theorem run_noop_cons (w : Name) (ops : List Op) (st : Store) : run (.noop w :: ops) st = run ops st := rfl

theorem self_mem_states (ops : List Op) (st : Store) : st ∈ states ops st := by
  cases ops <;> exact List.mem_cons_self

theorem states_eq_scanl (ops : List Op) (st : Store) : states ops st = ops.scanl step st := by
  induction ops generalizing st with
  | nil => rfl
  | cons op ops ih => rw [states, ih, List.scanl_cons]

theorem run_mem_states (ops : List Op) (st : Store) : run ops st ∈ states ops st :=
  states_eq_scanl ops st ▸ List.mem_of_getLast? List.getLast?_scanl

theorem mem_states_append (A B : List Op) (st s : Store) :
    s ∈ states (A ++ B) st ↔ s ∈ states A st ∨ s ∈ states B (run A st) := by
  induction A generalizing st with
  | nil =>
    simp only [List.nil_append, states, List.mem_singleton, run, List.foldl_nil]
    exact ⟨Or.inr, fun h => h.elim (fun e => e ▸ self_mem_states B _) id⟩
  | cons op A ih =>
    simp only [List.cons_append, states, List.mem_cons, ih, run_cons]
    exact or_assoc.symm

theorem mem_states_commit (A B : List Op) (op : Op) (st s : Store) :
    s ∈ states (A ++ op :: B) st ↔ s ∈ states A st ∨ s ∈ states B (step (run A st) op) := by
  rw [mem_states_append]
  simp only [states, List.mem_cons]
  constructor
  · rintro (h | rfl | h)
    · exact Or.inl h
    · exact Or.inl (run_mem_states A st)
    · exact Or.inr h
  · rintro (h | h)
    · exact Or.inl h
    · exact Or.inr (Or.inr h)

theorem commit_mem_states (A B : List Op) (op : Op) (st : Store) : step (run A st) op ∈ states (A ++ op :: B) st :=
  (mem_states_commit A B op st _).2 (Or.inr (self_mem_states B _))

def Quiet {β : Type} (view : Store → β) (ops : List Op) (S : Store) : Prop :=
  ∀ s ∈ states ops S, view s = view S

section
variable {β : Type} {view : Store → β}

theorem Quiet.final {ops : List Op} {S : Store} (h : Quiet view ops S) : view (run ops S) = view S :=
  h _ (run_mem_states ops S)

theorem quiet_nil (S : Store) : Quiet view [] S := fun _ hs => by rw [List.mem_singleton.1 hs]

theorem Quiet.append {A B : List Op} {S : Store} (hA : Quiet view A S) (hB : Quiet view B (run A S)) :
    Quiet view (A ++ B) S := by
  intro s hs
  rcases (mem_states_append A B S s).1 hs with h | h
  · exact hA s h
  · rw [hB s h, hA.final]

theorem quiet_of_steps {ops : List Op} (h : ∀ op ∈ ops, ∀ s, view (step s op) = view s) (S : Store) :
    Quiet view ops S := by
  induction ops generalizing S with
  | nil => exact quiet_nil S
  | cons op ops ih =>
    intro s hs
    rcases List.mem_cons.1 hs with rfl | hs
    · rfl
    · rw [ih (fun o ho => h o (List.mem_cons_of_mem _ ho)) _ s hs, h op List.mem_cons_self]

end

theorem crashConsistent_of_commit {α : Type} (view : Store → View α) (A B : List Op) (op : Op) (st : Store)
    (new : View α) (hA : Quiet view A st) (hop : view (step (run A st) op) = new)
    (hB : Quiet view B (step (run A st) op)) : CrashConsistent view (A ++ op :: B) st new := by
  constructor
  · intro s hs
    rcases (mem_states_commit A B op st s).1 hs with h | h
    · exact Or.inl (hA s h)
    · exact Or.inr (by rw [hB s h, hop])
  · rw [run_append, run_cons, hB.final, hop]

section
variable {α : Type} {view : Store → View α} {A B : List Op} {st : Store} {mid new : View α}

theorem Spec.CrashConsistent.seq (hA : CrashConsistent view A st mid) (hB : CrashConsistent view B (run A st) new) :
    CrashConsistentVia view (A ++ B) st mid new := by
  constructor
  · intro s hs
    rcases (mem_states_append A B st s).1 hs with h | h
    · exact (hA.1 s h).imp_right Or.inl
    · exact Or.inr ((hB.1 s h).imp_left (·.trans hA.2))
  · rw [run_append, hB.2]

theorem Spec.CrashConsistent.append_quiet (hA : CrashConsistent view A st new) (hB : Quiet view B (run A st)) :
    CrashConsistent view (A ++ B) st new :=
  ⟨fun s hs => ((mem_states_append A B st s).1 hs).elim (hA.1 s) fun h => Or.inr ((hB s h).trans hA.2),
    by rw [run_append, hB.final, hA.2]⟩

end

theorem upd_ne (st : Store) (n m : Name) (v : Option Obj) (h : m ≠ n) : upd st n v m = st m := by simp [upd, h]
theorem upd_eq (st : Store) (n : Name) (v : Option Obj) : upd st n v n = v := by simp [upd]

theorem modify_eq_upd (st : Store) (n : Name) (f : Option Obj → Option Obj) :
    modify st n f = upd st n (f (st n)) := rfl

theorem step_rename (S : Store) (a b : Name) (o : Obj) (hab : a ≠ b) (ha : S a = some o)
    (hok : renameOk o (S b) = true) : step S (.rename a b) = upd (upd S b (some o)) a none := by
  simp only [step, hab, if_false, ha, hok, if_true]

theorem step_rename_at (S : Store) (a b : Name) (o : Obj) (hab : a ≠ b) (ha : S a = some o)
    (hok : renameOk o (S b) = true) :
    step S (.rename a b) a = none ∧ step S (.rename a b) b = some o ∧
    ∀ m, m ≠ a → m ≠ b → step S (.rename a b) m = S m := by
  rw [step_rename S a b o hab ha hok]
  exact ⟨upd_eq .., (upd_ne _ _ _ _ hab.symm).trans (upd_eq ..),
    fun m hma hmb => (upd_ne _ _ _ _ hma).trans (upd_ne _ _ _ _ hmb)⟩

/-- every entry the operation touches is in `h` -/
def Within (h : Name → Bool) : Op → Prop
  | .noop _ => True
  | .mkdir m | .rmdir m | .unlink m => h m = true
  | .put m _ _ | .del m _ => h m = true
  | .write m _ => h m = true
  | .rename a b => h a = true ∧ h b = true

theorem step_within (h : Name → Bool) (S : Store) (op : Op) (ho : Within h op) (m : Name) (hm : h m = false) :
    step S op m = S m := by
  cases op with
  | noop => rfl
  | rename a b =>
    simp only [step]
    split
    · rfl
    · cases S a with
      | none => rfl
      | some o =>
        show (if renameOk o (S b) = true then upd (upd S b (some o)) a none else S) m = S m
        split
        · rw [upd_ne _ _ _ _ (Lib.ne_of_class ho.1 hm).symm, upd_ne _ _ _ _ (Lib.ne_of_class ho.2 hm).symm]
        · rfl
  | _ => exact upd_ne _ _ _ _ (Lib.ne_of_class ho hm).symm

theorem run_within (h : Name → Bool) (ops : List Op) (S : Store) (ho : ∀ op ∈ ops, Within h op) (m : Name)
    (hm : h m = false) : run ops S m = S m :=
  -- the entry at `m` is itself a view that no step changes
  (quiet_of_steps (view := (· m)) (fun op hop s => step_within h s op (ho op hop) m hm) S).final

theorem within_noop (h : Name → Bool) (w : Name) : ∀ op ∈ [Op.noop w], Within h op :=
  fun _ hop => List.mem_singleton.1 hop ▸ trivial

theorem run_frame (m : Name) (ops : List Op) (S : Store) (ho : ∀ op ∈ ops, Within (· != m) op) : run ops S m = S m :=
  run_within _ ops S ho m (bne_self_eq_false m)

def filesOf : Obj → Option (List (Name × Content))
  | .dir fs => some fs
  | .file _ => none

def contentOf : Obj → Option Content
  | .file c => some c
  | .dir _ => none

def viewOf {α : Type} (h : Name → Bool) (p : Obj → Option α) (S : Store) : View α :=
  fun n => if h n then none else (S n).bind p

theorem viewVdb_eq_viewOf : viewVdb = viewOf hiddenVdb filesOf := by
  funext S n
  unfold viewVdb viewOf
  split
  · rfl
  · rcases S n with _ | _ | _ <;> rfl

theorem viewBin_eq_viewOf : viewBin = viewOf hiddenBin contentOf := by
  funext S n
  unfold viewBin viewOf
  split
  · rfl
  · rcases S n with _ | _ | _ <;> rfl

section
variable {α : Type} {h : Name → Bool} {p : Obj → Option α}

theorem viewOf_congr {S S' : Store} (hS : ∀ n, h n = false → S' n = S n) : viewOf h p S' = viewOf h p S := by
  funext n
  unfold viewOf
  cases hn : h n
  · rw [hS n hn]
  · rfl

theorem quiet_of_within {ops : List Op} (S : Store) (ho : ∀ op ∈ ops, Within h op) : Quiet (viewOf h p) ops S :=
  quiet_of_steps (fun op hop s => viewOf_congr (step_within h s op (ho op hop))) S

theorem viewOf_upd_hidden (S : Store) {n : Name} (v : Option Obj) (hn : h n = true) :
    viewOf h p (upd S n v) = viewOf h p S :=
  viewOf_congr fun _ hm => upd_ne _ _ _ _ (Lib.ne_of_class hn hm).symm

theorem viewOf_upd_some (S : Store) {n : Name} {v : Option Obj} {d : α} (hn : h n = false) (hv : v.bind p = some d) :
    viewOf h p (upd S n v) = addPkg (viewOf h p S) n d := by
  funext m
  unfold viewOf addPkg
  by_cases hm : m = n
  · rw [hm, upd_eq, hv, hn]; simp
  · rw [upd_ne _ _ _ _ hm, if_neg hm]

theorem viewOf_upd_none (S : Store) (n : Name) {v : Option Obj} (hv : v.bind p = none) :
    viewOf h p (upd S n v) = removePkg (viewOf h p S) n := by
  funext m
  unfold viewOf removePkg
  by_cases hm : m = n
  · rw [hm, upd_eq, hv]; simp
  · rw [upd_ne _ _ _ _ hm, if_neg hm]

/-- The commit point is a rename from a hidden name `a` to a listed name `b`: the entry appears.  `A` may write hidden
names, so what is renamed is read after `A` (`hS`); it cannot change `b`, so what the rename replaces is read in `st`
(`hok`). -/
theorem crashConsistent_rename_in (A B : List Op) (a b : Name) (st : Store) (o : Obj) (d : α)
    (hA : ∀ x ∈ A, Within h x) (hB : ∀ x ∈ B, Within h x) (ha : h a = true) (hb : h b = false)
    (hS : run A st a = some o) (hok : renameOk o (st b) = true) (hd : p o = some d) :
    CrashConsistent (viewOf h p) (A ++ .rename a b :: B) st (addPkg (viewOf h p st) b d) := by
  refine crashConsistent_of_commit _ A B _ st _ (quiet_of_within st hA) ?_ (quiet_of_within _ hB)
  rw [step_rename _ a b o (Lib.ne_of_class ha hb) hS (by rwa [run_within _ _ _ hA b hb]),
    viewOf_upd_hidden _ _ ha, viewOf_upd_some (v := some o) _ hb hd, (quiet_of_within st hA).final]

/-- The mirror image, from a listed name `a` to a hidden name `b`: the entry disappears.  Here the entry is read in `st`
and the hidden target after `A`. -/
theorem crashConsistent_rename_out (A B : List Op) (a b : Name) (st : Store) (o : Obj)
    (hA : ∀ x ∈ A, Within h x) (hB : ∀ x ∈ B, Within h x) (ha : h a = false) (hb : h b = true)
    (hS : st a = some o) (hok : renameOk o (run A st b) = true) :
    CrashConsistent (viewOf h p) (A ++ .rename a b :: B) st (removePkg (viewOf h p st) a) := by
  refine crashConsistent_of_commit _ A B _ st _ (quiet_of_within st hA) ?_ (quiet_of_within _ hB)
  rw [step_rename _ a b o (Lib.ne_of_class hb ha).symm ((run_within _ _ _ hA a ha).trans hS) hok,
    viewOf_upd_none _ _ rfl, viewOf_upd_hidden _ _ hb, (quiet_of_within st hA).final]

theorem crashConsistent_unlink (B : List Op) (n : Name) (st : Store) (c : Content) (hB : ∀ x ∈ B, Within h x)
    (hS : st n = some (.file c)) : CrashConsistent (viewOf h p) (.unlink n :: B) st (removePkg (viewOf h p st) n) :=
  crashConsistent_of_commit _ [] B (.unlink n) st _ (quiet_nil _)
    (viewOf_upd_none st n (v := unlinkF (st n)) (by rw [hS]; rfl)) (quiet_of_within _ hB)

end

theorem addPkg_removePkg {α : Type} (v : View α) (n : Name) (d : α) : addPkg (removePkg v n) n d = addPkg v n d := by
  funext m
  unfold addPkg removePkg
  by_cases h : m = n <;> simp [h]

theorem startsWith_append (p n : List Char) : startsWith p (p ++ n) = true := by
  simp [startsWith]

theorem any_startsWith_tmp {ps : List String} (hp : ".tmp." ∈ ps) (n : Name) :
    ps.any (fun p => startsWith p.toList (tmpPrefix ++ n)) = true :=
  List.any_eq_true.2 ⟨_, hp, startsWith_append _ _⟩

theorem hiddenVdb_tmpOf (n : Name) : hiddenVdb (tmpOf n) = true := by
  rw [hiddenVdb, tmpOf, any_startsWith_tmp (by decide)]; rfl

theorem hiddenVdb_hidOf (n : Name) : hiddenVdb (hidOf n) = true := by
  unfold hidOf
  rw [List.append_assoc]
  exact hiddenVdb_tmpOf _

theorem hiddenBin_of_tmpPrefix (n : Name) : hiddenBin (tmpPrefix ++ n) = true := by
  rw [hiddenBin, any_startsWith_tmp (by decide)]; rfl

theorem hiddenBin_binTmpOf (pid : List Char) (n : Name) : hiddenBin (binTmpOf pid n) = true := by
  unfold binTmpOf
  rw [List.append_assoc, List.append_assoc]
  exact hiddenBin_of_tmpPrefix _

theorem hidOf_ne_tmpOf (n : Name) : hidOf n ≠ tmpOf n := by
  intro h
  have := congrArg List.length h
  simp [hidOf, tmpOf, tmpPrefix] at this

theorem filter_all_names (names : List Name) (fs : List (Name × Content)) (h : ∀ p ∈ fs, p.1 ∈ names) :
    names.foldl (fun acc f => acc.filter (fun p => p.1 ≠ f)) fs = [] := by
  induction names generalizing fs with
  | nil =>
    cases fs with
    | nil => rfl
    | cons p _ => exact absurd (h p List.mem_cons_self) List.not_mem_nil
  | cons f names ih =>
    apply ih
    intro p hp
    simp only [List.mem_filter, decide_eq_true_eq] at hp
    exact (List.mem_cons.1 (h p hp.1)).resolve_left hp.2

theorem run_dels (n : Name) (names : List Name) (st : Store) (fs : List (Name × Content)) (h : st n = some (.dir fs)) :
    run (names.map (Op.del n)) st n = some (.dir (names.foldl (fun acc f => acc.filter (fun p => p.1 ≠ f)) fs)) := by
  induction names generalizing st fs with
  | nil => exact h
  | cons f names ih => exact ih _ _ (by rw [show step st (.del n f) n = delF f (st n) from upd_eq .., h]; rfl)

theorem wipe_within (h : Name → Bool) (st : Store) (n : Name) (hn : h n = true) :
    ∀ op ∈ wipeOps st n, Within h op := by
  intro op hop
  unfold wipeOps at hop
  split at hop
  · simp only [List.mem_append, List.mem_map, List.mem_singleton] at hop
    rcases hop with ⟨p, _, rfl⟩ | rfl <;> exact hn
  · cases hop

/-- A routine fixes its operation list at the start, in `st`; the wipe may come to run later, from any `S` that still
has at `n` what `st` had. -/
theorem wipe_run (st S : Store) (n : Name) (hS : S n = st n) (hnf : ∀ c, st n ≠ some (.file c)) :
    run (wipeOps st n) S n = none := by
  unfold wipeOps
  cases h : st n with
  | none => exact hS.trans h
  | some o =>
    cases o with
    | file c => exact absurd h (hnf c)
    | dir fs =>
      -- the `del`s empty the directory, then `rmdir` of an empty directory removes it
      have hd := run_dels n (fs.map (·.1)) S fs (hS.trans h)
      rw [filter_all_names _ _ (fun p hp => List.mem_map.2 ⟨p, hp, rfl⟩), List.map_map] at hd
      show run (fs.map _ ++ [.rmdir n]) S n = none
      rw [run_append, run_cons, run_nil]
      simp only [step, modify_eq_upd, upd_eq]
      exact congrArg rmdirF hd

theorem wipeOps_congr (st s : Store) (n : Name) (h : s n = st n) : wipeOps s n = wipeOps st n := by
  unfold wipeOps; rw [h]

/-- `rmtree` of the hidden copy is the wipe of a store in which the entry has been moved there -/
theorem vdbWipeHidden_eq_wipeOps (st : Store) (name : Name) :
    vdbWipeHidden st name = wipeOps (upd st (hidOf name) (st name)) (hidOf name) := by
  simp only [vdbWipeHidden, wipeOps, upd_eq]

theorem wipeHidden_within (st : Store) (name : Name) : ∀ op ∈ vdbWipeHidden st name, Within hiddenVdb op :=
  vdbWipeHidden_eq_wipeOps st name ▸ wipe_within _ _ _ (hiddenVdb_hidOf name)

/-- the hidden copy is really gone after `shutil.rmtree(tmp_remove_path)` -/
theorem wipeHidden_run (st S : Store) (name : Name) (fs : List (Name × Content))
    (h0 : st name = some (.dir fs)) (hS : S (hidOf name) = some (.dir fs)) :
    run (vdbWipeHidden st name) S (hidOf name) = none := by
  rw [vdbWipeHidden_eq_wipeOps]
  exact wipe_run _ S _ (by rw [upd_eq, hS, h0]) (by rw [upd_eq, h0]; intro c h; cases h)

theorem writeFiles_run (n : Name) (files : List (Name × Content)) (st : Store) (fs0 : List (Name × Content))
    (h : st n = some (.dir fs0)) :
    run (writeFiles n files) st n
      = some (.dir (files.foldl (fun fs p => setFile (setFile fs p.1 []) p.1 p.2) fs0)) := by
  induction files generalizing st fs0 with
  | nil => exact h
  | cons p files ih =>
    refine ih _ _ ?_
    show upd _ n (putF p.1 p.2 (upd st n (putF p.1 [] (st n)) n)) n = _
    rw [upd_eq, upd_eq, h]; rfl

theorem writeFiles_within (h : Name → Bool) (n : Name) (hn : h n = true) (files : List (Name × Content)) :
    ∀ op ∈ writeFiles n files, Within h op := by
  intro op hop
  simp only [writeFiles, List.mem_flatMap, List.mem_cons, List.not_mem_nil, or_false] at hop
  rcases hop with ⟨p, _, rfl | rfl⟩ <;> exact hn

theorem addData_within (h : Name → Bool) (st : Store) (name : Name) (files : List (Name × Content))
    (hn : h (tmpOf name) = true) : ∀ op ∈ vdbAddData st name files, Within h op := by
  intro op hop
  simp only [vdbAddData, List.mem_append, List.mem_cons, List.not_mem_nil, or_false] at hop
  rcases hop with (hop | rfl | rfl | rfl) | hop
  · exact wipe_within h st _ hn op hop
  · trivial
  · exact hn
  · trivial
  · exact writeFiles_within h _ hn files op hop

theorem addData_run (st : Store) (name : Name) (files : List (Name × Content))
    (hnf : ∀ c, st (tmpOf name) ≠ some (.file c)) :
    run (vdbAddData st name files) st (tmpOf name) = some (.dir (written files)) := by
  unfold vdbAddData
  rw [run_append, run_append]
  refine writeFiles_run _ files _ [] ?_
  simp only [run_cons, run_nil, step, modify_eq_upd, upd_eq]
  rw [wipe_run st st _ rfl hnf]; rfl

/- `setFile` is the dict assignment of `Lib`'s section `DictSet`, on pairs keyed by their name. -/
theorem setFile_cons (x : Name × Content) (xs : List (Name × Content)) (e : Name × Content) :
    setFile (x :: xs) e.1 e.2 = if x.1 = e.1 then e :: xs else x :: setFile xs e.1 e.2 := by
  obtain ⟨g, d⟩ := x
  rw [setFile]
  split
  · next h => subst h; rfl
  · rfl

theorem setFile_fresh {fs : List (Name × Content)} {e : Name × Content} (h : e.1 ∉ fs.map (·.1)) :
    setFile fs e.1 e.2 = fs ++ [e] :=
  Lib.set_fresh (fun l e => setFile l e.1 e.2) (fun _ => rfl) setFile_cons h

theorem setFile_last (fs : List (Name × Content)) (f : Name) (c d : Content) (h : f ∉ fs.map (·.1)) :
    setFile (fs ++ [(f, d)]) f c = fs ++ [(f, c)] :=
  Lib.set_mid (fun l e => setFile l e.1 e.2) setFile_cons fs (f, d) (f, c) [] rfl h

theorem install_frame (st : Store) (name : Name) (files : List (Name × Content)) (m : Name) (h1 : m ≠ tmpOf name)
    (h2 : m ≠ name) : run (vdbInstall st name files) st m = st m := by
  refine run_frame m _ st (List.forall_mem_append.2 ⟨addData_within _ st name files (bne_iff_ne.2 h1.symm), ?_⟩)
  exact List.forall_mem_cons.2 ⟨⟨bne_iff_ne.2 h1.symm, bne_iff_ne.2 h2.symm⟩, within_noop _ _⟩

/-- `uninstall.finalize_data` as planned in `st`, run from a state `S` that has the entry and the same leftover
under the hidden name: the rename of `_hide_data` takes the entry out of the listing -/
theorem uninstallFinalize_crashConsistent (st S : Store) (name : Name) (fs : List (Name × Content))
    (hn : hiddenVdb name = false) (hS : S name = some (.dir fs)) (hh : S (hidOf name) = st (hidOf name))
    (hnf : ∀ c, st (hidOf name) ≠ some (.file c)) :
    CrashConsistent viewVdb (vdbUninstallFinalize st name) S (removePkg (viewVdb S) name) := by
  have hshape : vdbUninstallFinalize st name = (.noop "utime".toList :: wipeOps st (hidOf name)) ++
      .rename name (hidOf name) :: (vdbWipeHidden st name ++ [.noop "utime".toList]) := by
    simp only [vdbUninstallFinalize, vdbHide, List.append_assoc, List.cons_append, List.nil_append]
  rw [hshape, viewVdb_eq_viewOf]
  exact crashConsistent_rename_out _ _ _ _ S _
    (List.forall_mem_cons.2 ⟨trivial, wipe_within _ st _ (hiddenVdb_hidOf name)⟩)
    (List.forall_mem_append.2 ⟨wipeHidden_within st name, within_noop _ _⟩) hn (hiddenVdb_hidOf name) hS
    (by rw [run_noop_cons, wipe_run st S _ hh hnf]; rfl)

/-- `add_data`, then the wipe of a leftover hidden copy -/
def replaceSamePre (st : Store) (name : Name) (files : List (Name × Content)) : List Op :=
  vdbAddData st name files ++ .noop "utime".toList :: wipeOps st (hidOf name)

section
variable (st : Store) (name : Name) (files : List (Name × Content))

theorem vdbReplace_same_shape :
    vdbReplace st name name files = (replaceSamePre st name files ++ [.rename name (hidOf name)]) ++
      .rename (tmpOf name) name :: .noop "utime".toList :: (vdbWipeHidden st name ++ [.noop "utime".toList]) := by
  simp only [vdbReplace, replaceSamePre, vdbHide, vdbInstallFinalize, if_true, List.append_assoc, List.cons_append,
    List.nil_append]

theorem replaceSamePre_within : ∀ op ∈ replaceSamePre st name files, Within hiddenVdb op :=
  List.forall_mem_append.2 ⟨addData_within _ st name files (hiddenVdb_tmpOf name),
    List.forall_mem_cons.2 ⟨trivial, wipe_within _ st _ (hiddenVdb_hidOf name)⟩⟩

theorem replaceSamePre_hid (hnf : ∀ c, st (hidOf name) ≠ some (.file c)) :
    run (replaceSamePre st name files) st (hidOf name) = none := by
  unfold replaceSamePre
  rw [run_append]
  exact wipe_run st _ _
    (run_frame _ _ st (addData_within _ st name files (bne_iff_ne.2 (hidOf_ne_tmpOf name).symm))) hnf

theorem replaceSamePre_tmp (hnf : ∀ c, st (tmpOf name) ≠ some (.file c)) :
    run (replaceSamePre st name files) st (tmpOf name) = some (.dir (written files)) := by
  unfold replaceSamePre
  rw [run_append]
  exact (run_frame (tmpOf name) _ _ (wipe_within _ st _ (bne_iff_ne.2 (hidOf_ne_tmpOf name)))).trans
    (addData_run st name files hnf)

variable (fsO : List (Name × Content)) (hn : hiddenVdb name = false) (h0 : st name = some (.dir fsO))
  (hnfH : ∀ c, st (hidOf name) ≠ some (.file c))
include hn h0 hnfH

theorem replaceSame_hide_crashConsistent :
    CrashConsistent viewVdb (replaceSamePre st name files ++ [.rename name (hidOf name)]) st
      (removePkg (viewVdb st) name) :=
  viewVdb_eq_viewOf ▸ crashConsistent_rename_out _ [] name _ st _ (replaceSamePre_within st name files)
    (List.forall_mem_nil _) hn (hiddenVdb_hidOf name) h0 (by rw [replaceSamePre_hid st name files hnfH]; rfl)

theorem replaceSame_renameIn_crashConsistent (hnfT : ∀ c, st (tmpOf name) ≠ some (.file c)) :
    CrashConsistent viewVdb
      (.rename (tmpOf name) name :: .noop "utime".toList :: (vdbWipeHidden st name ++ [.noop "utime".toList]))
      (run (replaceSamePre st name files ++ [.rename name (hidOf name)]) st)
      (addPkg (viewVdb st) name (written files)) := by
  -- after the hiding rename the name is free and the new entry's temp directory is as `add_data` left it
  obtain ⟨hfree, -, hoth⟩ := step_rename_at (run (replaceSamePre st name files) st) name (hidOf name) _
    (Lib.ne_of_class (hiddenVdb_hidOf name) hn).symm
    ((run_within _ _ st (replaceSamePre_within st name files) name hn).trans h0)
    (by rw [replaceSamePre_hid st name files hnfH]; rfl)
  have htmp := (hoth _ (Lib.ne_of_class (hiddenVdb_tmpOf name) hn) (hidOf_ne_tmpOf name).symm).trans
    (replaceSamePre_tmp st name files hnfT)
  rw [← addPkg_removePkg, ← (replaceSame_hide_crashConsistent st name files fsO hn h0 hnfH).2, viewVdb_eq_viewOf]
  exact crashConsistent_rename_in [] _ (tmpOf name) name _ _ (written files) (List.forall_mem_nil _)
    (List.forall_mem_cons.2 ⟨trivial, List.forall_mem_append.2 ⟨wipeHidden_within st name, within_noop _ _⟩⟩)
    (hiddenVdb_tmpOf name) hn (by rw [run_nil, run_append]; exact htmp)
    (by rw [run_append, run_cons, run_nil, hfree]; rfl) rfl

end

theorem step_write (S : Store) (tmp : Name) (x : Content) (hnd : ∀ fs, S tmp ≠ some (.dir fs)) :
    step S (.write tmp x) tmp = some (.file x) := by
  show upd S tmp (writeF x (S tmp)) tmp = _
  rw [upd_eq]
  rcases h : S tmp with _ | _ | fs
  · rfl
  · rfl
  · exact absurd h (hnd fs)

theorem run_writes (tmp : Name) (cs : List Content) (c : Content) (S : Store) (hnd : ∀ fs, S tmp ≠ some (.dir fs)) :
    run ((cs ++ [c]).map (Op.write tmp)) S tmp = some (.file c) := by
  induction cs generalizing S with
  | nil => exact step_write S tmp c hnd
  | cons x cs ih => exact ih _ fun fs h => by rw [step_write S tmp x hnd] at h; cases h

theorem binAddData_within (h : Name → Bool) (tmp : Name) (hn : h tmp = true) (pre : List Content) (c : Content) :
    ∀ op ∈ binAddData tmp pre c, Within h op := by
  intro op hop
  simp only [binAddData, List.mem_append, List.mem_cons, List.not_mem_nil, or_false, List.mem_map] at hop
  rcases hop with (rfl | ⟨x, _, rfl⟩) | rfl
  · trivial
  · exact hn
  · trivial

theorem binAddData_run (st : Store) (tmp : Name) (pre : List Content) (c : Content)
    (hnd : ∀ fs, st tmp ≠ some (.dir fs)) :
    run (binAddData tmp pre c) st tmp = some (.file c) := by
  unfold binAddData
  rw [run_append, run_append]
  exact run_writes tmp pre c _ hnd

theorem binReplace_same_shape (tmp name : Name) (pre : List Content) (c : Content) :
    binReplace tmp name name pre c
      = (binAddData tmp pre c ++ [.noop "rmdir-category".toList]) ++ [.rename tmp name] := by
  simp only [binReplace, if_true, List.append_assoc, List.cons_append, List.nil_append, List.append_nil]

theorem binReplace_same_crashConsistent (st : Store) (tmp name : Name) (pre : List Content) (c : Content)
    (ht : hiddenBin tmp = true) (hf : hiddenBin name = false) (hnd : ∀ fs, st tmp ≠ some (.dir fs))
    (hok : renameOk (.file c) (st name) = true) :
    CrashConsistent viewBin (binReplace tmp name name pre c) st (addPkg (viewBin st) name c) := by
  rw [binReplace_same_shape, viewBin_eq_viewOf]
  exact crashConsistent_rename_in _ [] _ _ st _ _
    (List.forall_mem_append.2 ⟨binAddData_within _ tmp ht pre c, within_noop _ _⟩) (List.forall_mem_nil _) ht hf
    (by rw [run_append, run_noop_cons, run_nil]; exact binAddData_run st tmp pre c hnd) hok rfl

theorem binReplace_same_frame (st : Store) (tmp name : Name) (pre : List Content) (c : Content) (m : Name)
    (h1 : m ≠ tmp) (h2 : m ≠ name) : run (binReplace tmp name name pre c) st m = st m := by
  rw [binReplace_same_shape]
  refine run_frame m _ st (List.forall_mem_append.2 ⟨List.forall_mem_append.2
    ⟨binAddData_within (· != m) tmp (bne_iff_ne.2 h1.symm) pre c, within_noop _ _⟩, ?_⟩)
  exact fun _ hx => List.mem_singleton.1 hx ▸ ⟨bne_iff_ne.2 h1.symm, bne_iff_ne.2 h2.symm⟩

end Pkgcore.C29
