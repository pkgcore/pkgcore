import Pkgcore.Spec.C10Solver
import Pkgcore.Proofs.C10
import Pkgcore.Proofs.Lib
/-!
# C10 — the problem `find_constraint_satisfaction` hands to the solver

A compiled rule only looks at its own flags (`evalSingle_congr`, `MC.eval_congr`), these are flags of the rule it was
split from (`toMultiple_flags`), so the problem is well formed (`problem_wf`) and a constraint called on a total
assignment is the compiled rule on the flags that are on (`toConstraint_pred`).
-/
namespace Pkgcore.C10
open Pkgcore.C09 Pkgcore.C10.Spec

@[simp] theorem flagsOfL_nil : flagsOfL [] = [] := by simp [flagsOfL]

@[simp] theorem flagsOfL_cons (c cs) : flagsOfL (c :: cs) = flagsOf c ++ flagsOfL cs := by simp [flagsOfL]

theorem evalSingle_congr (on on' : List Tok) :
    (∀ t : Dep, (∀ x ∈ flagsOf t, on.contains x = on'.contains x) → evalSingle on t = evalSingle on' t) ∧
      ∀ cs : List Dep, (∀ x ∈ flagsOfL cs, on.contains x = on'.contains x) →
        cs.map (evalSingle on) = cs.map (evalSingle on') := by
  apply Dep.induct₂
  case leaf =>
    intro k r h
    have := h (if k.head? = some '!' then k.tail else k) (by simp [flagsOf])
    simp only [evalSingle, lit]
    split
    · next hk => rw [if_pos hk] at this; rw [this]
    · next hk => rw [if_neg hk] at this; rw [this]
  case cond =>
    intro n f cs ih h
    rw [evalSingle, evalSingle, allSingle_eq, allSingle_eq, h f (by simp [flagsOf]),
      ih fun x hx => h x (by simp [flagsOf, hx])]
  case grp =>
    intro kind cs ih h
    have ih := ih fun x hx => h x (by simpa [flagsOf] using hx)
    cases kind <;> simp only [evalSingle, allSingle_eq, anySingle_eq, countSingle_eq, ih]
  case nil => intro _; rfl
  case cons =>
    intro c cs hc hcs h
    rw [List.map_cons, List.map_cons, hc fun x hx => h x (by simp [hx]), hcs fun x hx => h x (by simp [hx])]

theorem allSingle_congr (on on' : List Tok) : ∀ cs : List Dep, (∀ x ∈ flagsOfL cs, on.contains x = on'.contains x) →
    allSingle on cs = allSingle on' cs :=
  fun cs h => by rw [allSingle_eq, allSingle_eq, (evalSingle_congr on on').2 cs h]

theorem anySingle_congr (on on' : List Tok) : ∀ cs : List Dep, (∀ x ∈ flagsOfL cs, on.contains x = on'.contains x) →
    anySingle on cs = anySingle on' cs :=
  fun cs h => by rw [anySingle_eq, anySingle_eq, (evalSingle_congr on on').2 cs h]

theorem countSingle_congr (on on' : List Tok) : ∀ cs : List Dep, (∀ x ∈ flagsOfL cs, on.contains x = on'.contains x) →
    countSingle on cs = countSingle on' cs :=
  fun cs h => by rw [countSingle_eq, countSingle_eq, (evalSingle_congr on on').2 cs h]

theorem MC.mem_flags (c : MC) (x : Tok) : x ∈ c.flags ↔ (x ∈ c.conds.map (·.2) ∨ x ∈ flagsOf c.body) := by
  unfold MC.flags; rw [mem_dedup, List.mem_append]

theorem MC.eval_congr (c : MC) (on on' : List Tok) (h : ∀ x ∈ c.flags, on.contains x = on'.contains x) :
    c.eval on = c.eval on' := by
  unfold MC.eval
  rw [(evalSingle_congr on on').1 c.body fun x hx => h x ((c.mem_flags x).mpr (Or.inr hx)),
    Lib.any_congr_left fun e he => by
      rw [h e.2 ((c.mem_flags e.2).mpr (Or.inl (List.mem_map.mpr ⟨e, he, rfl⟩)))]]

theorem toMultiple_flags :
    (∀ (t : Dep) (mc : MC), mc ∈ toMultiple t → ∀ x ∈ mc.flags, x ∈ flagsOf t) ∧
      ∀ (cs : List Dep) (mc : MC), mc ∈ toMultipleL cs → ∀ x ∈ mc.flags, x ∈ flagsOfL cs := by
  apply Dep.induct₂
  case leaf =>
    intro k r mc hm x hx
    simp only [toMultiple, List.mem_singleton] at hm
    subst hm
    simpa [MC.mem_flags] using hx
  case cond =>
    intro n f cs ih mc hm x hx
    simp only [toMultiple, List.mem_map] at hm
    obtain ⟨c, hc, rfl⟩ := hm
    rw [MC.mem_flags] at hx
    simp only [List.map_cons, List.mem_cons] at hx
    simp only [flagsOf, List.mem_cons]
    rcases hx with (h | h) | h
    · exact Or.inl h
    · exact Or.inr (ih c hc x ((c.mem_flags x).mpr (Or.inl h)))
    · exact Or.inr (ih c hc x ((c.mem_flags x).mpr (Or.inr h)))
  case grp =>
    intro kind cs ih mc hm x hx
    cases kind
    case and =>
      simp only [toMultiple] at hm
      simpa [flagsOf] using ih mc hm x hx
    all_goals
      simp only [toMultiple, List.mem_singleton] at hm
      subst hm
      simpa [MC.mem_flags] using hx
  case nil => intro mc hm; simp at hm
  case cons =>
    intro c cs hc hcs mc hm x hx
    rw [toMultipleL_cons, List.mem_append] at hm
    rw [flagsOfL_cons, List.mem_append]
    exact hm.imp (hc mc · x hx) (hcs mc · x hx)

theorem flagsOf_ne_nil : ∀ t : Dep, nonEmpty t = true → flagsOf t ≠ []
  | .leaf k r, _ => by simp [flagsOf]
  | .cond n f cs, _ => by simp [flagsOf]
  | .grp kind [], h => by simp [nonEmpty] at h
  | .grp kind (c :: cs), h => by
      simp only [nonEmpty, nonEmptyL, Bool.and_eq_true] at h
      simp [flagsOf, flagsOf_ne_nil c h.2.1]

theorem toMultiple_nonEmpty :
    (∀ (t : Dep) (mc : MC), nonEmpty t = true → mc ∈ toMultiple t → nonEmpty mc.body = true) ∧
      ∀ (cs : List Dep) (mc : MC), nonEmptyL cs = true → mc ∈ toMultipleL cs → nonEmpty mc.body = true := by
  apply Dep.induct₂
  case leaf =>
    intro k r mc h hm
    simp only [toMultiple, List.mem_singleton] at hm
    subst hm
    exact h
  case cond =>
    intro n f cs ih mc h hm
    simp only [toMultiple, List.mem_map] at hm
    obtain ⟨c, hc, rfl⟩ := hm
    simp only [nonEmpty, Bool.and_eq_true] at h
    exact ih c h.2 hc
  case grp =>
    intro kind cs ih mc h hm
    cases kind
    case and =>
      simp only [toMultiple] at hm
      simp only [nonEmpty, Bool.and_eq_true] at h
      exact ih mc h.2 hm
    all_goals
      simp only [toMultiple, List.mem_singleton] at hm
      subst hm
      exact h
  case nil => intro mc _ hm; simp at hm
  case cons =>
    intro c cs hc hcs mc h hm
    rw [toMultipleL_cons, List.mem_append] at hm
    simp only [nonEmptyL, Bool.and_eq_true] at h
    exact hm.elim (hc mc h.1) (hcs mc h.2)

theorem toMultiple_body_ne : ∀ (t : Dep) (mc : MC), nonEmpty t = true → mc ∈ toMultiple t → nonEmpty mc.body = true :=
  toMultiple_nonEmpty.1

theorem compiled_flags_ne_nil (ts : List Dep) (hne : nonEmptyL ts = true) (mc : MC) (hm : mc ∈ compiled ts) :
    mc.flags ≠ [] := by
  obtain ⟨x, hx⟩ := List.exists_mem_of_ne_nil _ (flagsOf_ne_nil mc.body (toMultiple_nonEmpty.2 ts mc hne hm))
  exact List.ne_nil_of_mem ((mc.mem_flags x).mpr (Or.inr hx))

theorem compiled_flags_sub (inp : Inputs) {ts : List Dep} {mc : MC} (hm : mc ∈ compiled ts) :
    ∀ x ∈ mc.flags, x ∈ variables inp ts := fun x hx => by
  rw [variables, mem_dedup, List.mem_append]
  exact Or.inr (toMultiple_flags.2 ts mc hm x hx)

theorem problem_keys (inp : Inputs) (ts : List Dep) : (problem inp ts).keys = variables inp ts := by
  simp [Solver.Problem.keys, problem, List.map_map, Function.comp_def]

/-- what a solution of the solver model looks like from `find_constraint_satisfaction`'s side -/
theorem render_of_is (inp : Inputs) (ts : List Dep) (s : Solver.Asg Tok Bool) (a : Tok → Bool)
    (h : (problem inp ts).Is s a) : render (variables inp ts) s = (variables inp ts).map fun v => (v, a v) := by
  unfold render
  apply List.map_congr_left
  intro v hv
  have := h v (by rw [problem_keys]; exact hv)
  unfold Solver.getVal
  rw [this]; rfl

theorem problem_wf (inp : Inputs) (ts : List Dep) : (problem inp ts).WF where
  keysNodup := by rw [problem_keys]; exact dedup_nodup _
  scopes := by
    intro c hc x hx
    obtain ⟨mc, hmc, rfl⟩ := List.mem_map.mp hc
    rw [problem_keys]
    exact compiled_flags_sub inp hmc x hx

theorem onOf_map (f : Tok → Bool) (vars : List Tok) : onOf (vars.map fun v => (v, f v)) = vars.filter f := by
  rw [onOf, List.filter_map, List.map_map]
  exact List.map_id _

theorem toConstraint_pred (mc : MC) (a : Tok → Bool) (vars : List Tok) (hsub : ∀ x ∈ mc.flags, x ∈ vars) :
    mc.toConstraint.pred (Solver.restr mc.flags a) = mc.eval (vars.filter a) := by
  apply MC.eval_congr
  intro x hx
  rw [Bool.eq_iff_iff]
  simp only [List.contains_iff_mem, List.mem_filter, hx, hsub x hx, true_and, Solver.restr, if_true]
  cases a x <;> simp

theorem problem_sat {inp : Inputs} {ts : List Dep} {a : Tok → Bool}
    (h : (compiled ts).all (·.eval ((variables inp ts).filter a)) = true) :
    ∀ c ∈ (problem inp ts).cons, c.pred (Solver.restr c.scope a) = true := by
  intro c hc
  obtain ⟨mc, hmc, rfl⟩ := List.mem_map.mp hc
  exact (toConstraint_pred mc a _ (compiled_flags_sub inp hmc)).trans (List.all_eq_true.mp h mc hmc)

end Pkgcore.C10
