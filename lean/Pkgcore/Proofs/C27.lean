import Pkgcore.Spec.C27
import Pkgcore.Proofs.C24Text
import Pkgcore.Proofs.C24Fs
import Pkgcore.Proofs.Lib
/-! # C27: what the cache round trip and the crash safety of a store rest on

The file format (`parseLines_fileLines_render`: sorted `key=value` lines read back), the two encoded values (the chf:
`deserChf_serChf`; `_eclasses_`: `reconstruct_deconstruct`), the stored dict (`storedItems_ok`) and from these
`parseEntry_render`.  Then the store as a `C24.fill` with a rename (`storeOps_eq`), the temporary name
(`tmpOf_not_listed`, `tmpOf_ne`), what the completed and the failed store touch, and `keys`.

`Spec.singleLine` has the body of `C24.Spec.noLineBreak`: C24's lemmas about the latter are used for it as they are. -/
namespace Pkgcore.C27
open Pkgcore.C24 Pkgcore.Generated.C27 Pkgcore.C27.Spec

theorem uniGo_line (l rest : Str) (h : singleLine l) : uniGo false (l ++ '\n' :: rest) = l :: uniGo false rest := by
  replace h := (noLineBreak_iff l).mp h
  induction l with
  | nil => simp [uniGo]
  | cons c cs ih =>
    obtain ⟨h1, h2⟩ := h c List.mem_cons_self
    simp only [List.cons_append, uniGo, if_neg h1, if_neg h2, ih fun x hx => h x (List.mem_cons_of_mem _ hx)]

theorem fileLines_render (lines : List Str) (h : ∀ l ∈ lines, singleLine l) :
    fileLines (lines.flatMap fun l => l ++ ['\n']) = lines := by
  rw [fileLines, lines_render (uniGo false) _ rfl uniGo_line lines h]
  simp

theorem splitFirst_render (sep : Char) (key v : Str) (h : sep ∉ key) :
    splitFirst sep (key ++ sep :: v) = some (key, v) := by
  induction key with
  | nil => simp [splitFirst]
  | cons c cs ih =>
    have hc : c ≠ sep := fun e => h (by simp [e])
    have := ih (fun m => h (by simp [m]))
    simp [splitFirst, hc, this]

/-- `_parse_data` on written lines assigns the known items in file order (whether or not keys repeat); `dictSet d k v`
is `Lib.putBy Prod.fst d (k, v)` by `rfl` -/
theorem parseLines_render (k : Kind) (items acc : List (Str × Str)) (hk : ∀ p ∈ items, '=' ∉ p.1) :
    parseLines k (items.map fun p => p.1 ++ '=' :: p.2) acc
      = .ok ((items.filter fun p => known k p.1).foldl (Lib.putBy Prod.fst) acc) := by
  induction items generalizing acc with
  | nil => rfl
  | cons p r ih =>
    rw [List.map_cons, parseLines, splitFirst_render '=' p.1 p.2 (hk p List.mem_cons_self)]
    simp only [ih _ fun q hq => hk q (List.mem_cons_of_mem _ hq), List.filter_cons]
    cases known k p.1 <;> rfl

/-- the file format alone: what `_parse_data` reads from a dict written as sorted `key=value` lines -/
theorem parseLines_fileLines_render (k : Kind) (items : List (Str × Str)) (hnd : (items.map (·.1)).Nodup)
    (hall : ∀ p ∈ items, '=' ∉ p.1 ∧ singleLine p.1 ∧ singleLine p.2) :
    ∃ d, parseLines k (fileLines (((sortItems items).map fun p => p.1 ++ '=' :: p.2).flatMap fun l => l ++ ['\n'])) []
        = .ok d ∧ d.Perm (items.filter fun p => known k p.1) ∧ (d.map (·.1)).Nodup := by
  have hperm : (sortItems items).Perm items := Lib.foldr_insert_perm insertItem (fun _ => rfl) (fun _ _ _ => rfl) _
  have hdnd : (((sortItems items).filter fun p => known k p.1).map (·.1)).Nodup :=
    ((List.filter_sublist (l := sortItems items)).map (fun p : Str × Str => p.1)).nodup
      ((hperm.map (·.1)).nodup_iff.mpr hnd)
  refine ⟨_, ?_, hperm.filter _, hdnd⟩
  rw [fileLines_render, parseLines_render k _ [] fun p hp => (hall p (hperm.mem_iff.mp hp)).1,
    Lib.foldl_fresh Prod.fst (Lib.putBy_fresh Prod.fst) _ [] hdnd]
  · rfl
  · intro l hl
    obtain ⟨p, hp, rfl⟩ := List.mem_map.mp hl
    obtain ⟨_, h2, h3⟩ := hall p (hperm.mem_iff.mp hp)
    exact noLineBreak_append _ _ h2 (noLineBreak_append ['='] _ ⟨by decide, by decide⟩ h3)

theorem deserChf_serChf (k : Kind) (v : Int) (h : k = .md5 → 0 ≤ v) : deserChf k (serChf k v) = some v := by
  cases k with
  | flat => exact parseInt_renderInt v
  | md5 =>
    have := h rfl
    simp only [serChf, deserChf, parseHex_hexPad, Option.map_some]
    congr 1; exact Int.toNat_of_nonneg this

theorem serChf_num (k : Kind) (v : Int) : IsNum (serChf k v) := by
  cases k
  · exact renderInt_num v
  · exact hexPad_num _

theorem numChars_not_space : ∀ c ∈ numChars, isSpace c = false := by decide +kernel

theorem serChf_not_space (k : Kind) (v : Int) (c : Char) (h : c ∈ serChf k v) : isSpace c = false :=
  numChars_not_space c ((serChf_num k v).2 c h)

theorem ne_sep_break_of_not_space (c : Char) (h : isSpace c = false) :
    c ≠ eclassSplitter ∧ c ≠ '\n' ∧ c ≠ '\r' := by
  have : isSpace eclassSplitter = true ∧ isSpace '\n' = true ∧ isSpace '\r' = true := by decide +kernel
  refine ⟨?_, ?_, ?_⟩ <;> (rintro rfl; simp [this] at h)

theorem dropWhile_eq_self (l : Str) (h : ∀ c, l.head? = some c → isSpace c = false) : l.dropWhile isSpace = l := by
  cases l with
  | nil => rfl
  | cons c t => exact List.dropWhile_cons_of_neg (by simp [h c rfl])

theorem stripSpace_id (s : Str) (h1 : ∀ c, s.head? = some c → isSpace c = false)
    (h2 : ∀ c, s.getLast? = some c → isSpace c = false) : stripSpace s = s := by
  rw [stripSpace, dropWhile_eq_self s h1, dropWhile_eq_self _ (by rwa [List.head?_reverse]), List.reverse_reverse]

/-- what `Spec.Dom.eclasses` asks of one eclass -/
abbrev GoodEclass (k : Kind) (c : Eclass) : Prop :=
  c.name ≠ [] ∧ (∀ ch ∈ c.name, isSpace ch = false) ∧ eclassSplitter ∉ c.dir ∧ singleLine c.dir ∧
    (k = .md5 → 0 ≤ c.chf)

theorem eclassFields_shape (k : Kind) (e : Eclass) :
    ∃ mid, eclassFields k e = e.name :: (mid ++ [serChf k e.chf]) := by
  cases k
  · exact ⟨[e.dir], rfl⟩
  · exact ⟨[], rfl⟩

theorem field_chars (k : Kind) (es : List Eclass) (h : ∀ c ∈ es, GoodEclass k c) :
    ∀ f ∈ es.flatMap (eclassFields k), ∀ c ∈ f, c ≠ eclassSplitter ∧ c ≠ '\n' ∧ c ≠ '\r' := by
  intro f hf c hc
  obtain ⟨e, he, hfe⟩ := List.mem_flatMap.mp hf
  obtain ⟨_, hname, hdir, hline, _⟩ := h e he
  cases k <;> simp only [eclassFields, List.mem_cons, List.not_mem_nil, or_false] at hfe
  · rcases hfe with rfl | rfl | rfl
    · exact ne_sep_break_of_not_space c (hname c hc)
    · exact ⟨fun e' => hdir (e' ▸ hc), fun e' => hline.1 (e' ▸ hc), fun e' => hline.2 (e' ▸ hc)⟩
    · exact ne_sep_break_of_not_space c (serChf_not_space _ _ c hc)
  · rcases hfe with rfl | rfl
    · exact ne_sep_break_of_not_space c (hname c hc)
    · exact ne_sep_break_of_not_space c (serChf_not_space _ _ c hc)

theorem deconstruct_singleLine (k : Kind) (es : List Eclass) (h : ∀ c ∈ es, GoodEclass k c) :
    singleLine (deconstruct k es) :=
  noLineBreak_joinWith eclassSplitter (by decide) _ fun f hf =>
    (noLineBreak_iff f).mpr fun c hc => (field_chars k es h f hf c hc).2

theorem regroup_fields (k : Kind) (es : List Eclass) (fuel : Nat) (hf : (es.flatMap (eclassFields k)).length ≤ fuel)
    (h : ∀ c ∈ es, k = .md5 → 0 ≤ c.chf) :
    regroup k fuel (es.flatMap (eclassFields k)) = some (es.map (expectedEclass k)) := by
  induction es generalizing fuel with
  | nil => cases fuel <;> simp [regroup]
  | cons e r ih =>
    cases fuel with
    | zero => cases k <;> simp [eclassFields] at hf
    | succ fuel =>
      have hr : (r.flatMap (eclassFields k)).length ≤ fuel := by
        cases k <;> simp [eclassFields] at hf ⊢ <;> omega
      have ih' := ih fuel hr (fun c hc => h c (by simp [hc]))
      have hd := deserChf_serChf k e.chf (h e (by simp))
      cases k
      all_goals
        simp only [List.flatMap_cons, eclassFields, List.cons_append, List.nil_append, regroup] at ih' ⊢
        simp only [hd, ih', List.map_cons, expectedEclass]
        rfl

theorem fields_length (k : Kind) (es : List Eclass) :
    (es.flatMap (eclassFields k)).length = (match k with | .flat => 3 | .md5 => 2) * es.length := by
  induction es with
  | nil => rfl
  | cons e r ih =>
    rw [List.flatMap_cons, List.length_append, ih, List.length_cons, Nat.mul_succ, Nat.add_comm]
    cases k <;> rfl

theorem fields_length_mod (k : Kind) (es : List Eclass) :
    (es.flatMap (eclassFields k)).length % (match k with | .flat => 3 | .md5 => 2) = 0 := by
  rw [fields_length]; exact Nat.mul_mod_right _ _

/-- `reconstruct_eclasses(deconstruct_eclasses(es))` gives the eclass data back (the md5 layout without the
directory), for both layouts -/
theorem reconstruct_deconstruct (k : Kind) (es : List Eclass) (h : ∀ c ∈ es, GoodEclass k c) :
    reconstruct k (deconstruct k es) = .ok (es.map (expectedEclass k)) := by
  rcases List.eq_nil_or_concat es with rfl | ⟨init, e, rfl⟩
  · simp [reconstruct, deconstruct, joinWith, stripSpace, splitOn]
  · rw [List.concat_eq_append] at h ⊢
    -- the first field is an eclass name, the last a serialised chf: `strip()` changes nothing
    obtain ⟨a, t, hat⟩ : ∃ a t, init ++ [e] = a :: t := by cases init <;> exact ⟨_, _, rfl⟩
    have ha := h a (by rw [hat]; exact List.mem_cons_self)
    obtain ⟨m₁, h₁⟩ := eclassFields_shape k a
    obtain ⟨m₂, h₂⟩ := eclassFields_shape k e
    have hfirst : (init ++ [e]).flatMap (eclassFields k)
        = a.name :: (m₁ ++ [serChf k a.chf] ++ t.flatMap (eclassFields k)) := by
      rw [hat, List.flatMap_cons, h₁]; rfl
    have hlast : (init ++ [e]).flatMap (eclassFields k)
        = (init.flatMap (eclassFields k) ++ e.name :: m₂) ++ [serChf k e.chf] := by
      simp [h₂]
    have hstrip : stripSpace (deconstruct k (init ++ [e])) = deconstruct k (init ++ [e]) :=
      stripSpace_id _
        (fun c hc => ha.2.1 c (List.mem_of_head? (by rwa [deconstruct, hfirst, joinWith_eq_core, Lib.head?_intercalate _ _ ha.1] at hc)))
        (fun c hc => serChf_not_space k e.chf c (List.mem_of_getLast?
          (by rwa [deconstruct, hlast, joinWith_eq_core, Lib.getLast?_intercalate _ _ (serChf_num k e.chf).1] at hc)))
    have hmod := fields_length_mod k (init ++ [e])
    have hre := regroup_fields k (init ++ [e]) _ (Nat.le_refl _) (fun c hc => (h c hc).2.2.2.2)
    unfold reconstruct
    rw [hstrip, deconstruct,
      splitOn_joinWith _ _ (by rw [hlast]; simp) (fun f hf m => (field_chars k _ h f hf _ m).1 rfl),
      if_neg (by rw [hfirst]; exact fun heq => ha.1 (List.cons.inj heq).1)]
    cases k
    all_goals
      simp only at hmod
      simp only [hmod, ne_eq, not_true_eq_false, if_false, hre]

theorem chfKey_ok (k : Kind) :
    '=' ∉ k.chfKey ∧ singleLine k.chfKey ∧ k.chfKey ≠ eclassesKey ∧ known k k.chfKey = true := by
  have h : '=' ∉ k.chfKey ∧ singleLine k.chfKey ∧ k.chfKey ≠ eclassesKey := by
    cases k <;> (unfold singleLine; decide +kernel)
  exact ⟨h.1, h.2.1, h.2.2, by simp [known]⟩

theorem eclassesKey_ok (k : Kind) : '=' ∉ eclassesKey ∧ singleLine eclassesKey ∧ known k eclassesKey = true := by
  have h : '=' ∉ eclassesKey ∧ singleLine eclassesKey ∧
      metadataKeys.any (fun s => s.toList == eclassesKey) = true := by
    unfold singleLine; decide +kernel
  exact ⟨h.1, h.2.1, by simp [known, h.2.2]⟩

theorem mem_storedItems (k : Kind) (e : Entry) (p : Str × Str) : p ∈ storedItems k e ↔
    p ∈ e.vals ∨ (∃ es, e.eclasses = some es ∧ p = (eclassesKey, deconstruct k es)) ∨
      p = (k.chfKey, serChf k e.chf) := by
  cases h : e.eclasses <;> simp [storedItems, h]

theorem storedItems_vals (k : Kind) (e : Entry) (hd : Dom k e) :
    (storedItems k e).filter (fun p => p.1 != k.chfKey && p.1 != eclassesKey) = e.vals := by
  have hkeep : e.vals.filter (fun p => p.1 != k.chfKey && p.1 != eclassesKey) = e.vals :=
    List.filter_eq_self.mpr fun p hp => by have := hd.keys p hp; simp [this.2.2.1, this.2.2.2]
  cases h : e.eclasses <;> simp [storedItems, h, List.filter_append, hkeep]

theorem storedItems_ok (k : Kind) (e : Entry) (hd : Dom k e) :
    ((storedItems k e).map (·.1)).Nodup ∧
    (∀ p ∈ storedItems k e, '=' ∉ p.1 ∧ singleLine p.1 ∧ singleLine p.2) := by
  obtain ⟨hchfEq, hchfLine, hne, -⟩ := chfKey_ok k
  obtain ⟨heclEq, heclLine, -⟩ := eclassesKey_ok k
  constructor
  · have hres : ∀ a ∈ e.vals.map (·.1), a ≠ eclassesKey ∧ a ≠ k.chfKey := fun a ha => by
      obtain ⟨p, hp, rfl⟩ := List.mem_map.mp ha
      exact ⟨(hd.keys p hp).2.2.2, (hd.keys p hp).2.2.1⟩
    unfold storedItems
    rw [List.append_assoc, List.map_append, List.nodup_append]
    refine ⟨hd.nodup, ?_, fun a ha b hb => ?_⟩
    · cases e.eclasses <;> simp [Ne.symm hne]
    · have : b = eclassesKey ∨ b = k.chfKey := by cases h : e.eclasses <;> simp [h] at hb <;> simp [hb]
      rcases this with rfl | rfl
      · exact (hres a ha).1
      · exact (hres a ha).2
  · intro p hp
    rcases (mem_storedItems k e p).mp hp with hp | ⟨es, hes, rfl⟩ | rfl
    · exact ⟨(hd.keys p hp).1, (hd.keys p hp).2.1, hd.values p hp⟩
    · exact ⟨heclEq, heclLine, deconstruct_singleLine k es (hd.eclasses es hes)⟩
    · exact ⟨hchfEq, hchfLine, (num_token_line (serChf_num k e.chf)).2⟩

/-- `cache[cpv]` on the text `cache[cpv] = values` writes: the statement of `cache_roundtrip` -/
theorem parseEntry_render (k : Kind) (e : Entry) (hd : Dom k e) :
    ∃ r, parseEntry k (renderEntry k e) = .ok r ∧ SameEntry r (expected k e) := by
  -- The stored dict is in the domain of `parseLines_fileLines_render`, so `_parse_data` builds `d`, its known items.
  -- Then the chf and `_eclasses_` are looked up in `d` and decoded by their round trips, and what is left of `d` is
  -- the known ordinary keys.
  obtain ⟨hnd, hall⟩ := storedItems_ok k e hd
  obtain ⟨-, -, hne, hkchf⟩ := chfKey_ok k
  obtain ⟨-, -, hkecl⟩ := eclassesKey_ok k
  obtain ⟨d, hparse, hperm, hdnd⟩ := parseLines_fileLines_render k (storedItems k e) hnd hall
  have hin : ∀ a b, (a, b) ∈ storedItems k e → known k a = true → d.lookup a = some b := fun a b hab hk =>
    Lib.lookup_eq_some_of_mem hdnd (hperm.mem_iff.mpr (List.mem_filter.mpr ⟨hab, by simpa using hk⟩))
  have hchf : d.lookup k.chfKey = some (serChf k e.chf) := hin _ _ (by simp [storedItems]) hkchf
  have hvals : (d.filter fun p => p.1 != k.chfKey && p.1 != eclassesKey).Perm (e.vals.filter fun p => known k p.1) := by
    refine (hperm.filter _).trans ?_
    rw [List.filter_filter, ← storedItems_vals k e hd, List.filter_filter]
    exact .of_eq (List.filter_congr fun _ _ => Bool.and_comm ..)
  unfold parseEntry
  rw [renderEntry, ← List.flatMap_map (f := fun p : Str × Str => p.1 ++ '=' :: p.2) (g := fun l => l ++ ['\n']),
    hparse]
  simp only [hchf, deserChf_serChf k e.chf hd.chf]
  cases hes : e.eclasses with
  | none =>
    have : d.lookup eclassesKey = none := List.lookup_eq_none_iff.mpr fun p hp => by
      rcases (mem_storedItems k e p).mp (List.mem_filter.mp (hperm.mem_iff.mp hp)).1 with hp' | ⟨es, h, _⟩ | rfl
      · simpa using Ne.symm (hd.keys p hp').2.2.2
      · rw [hes] at h; cases h
      · simpa using hne.symm
    simp only [this]
    exact ⟨_, rfl, hvals, rfl, by simp [expected, hes]⟩
  | some es =>
    have : d.lookup eclassesKey = some (deconstruct k es) := hin _ _ (by simp [storedItems, hes]) hkecl
    simp only [this, reconstruct_deconstruct k es (hd.eclasses es hes)]
    exact ⟨_, rfl, hvals, rfl, by simp [expected, hes]⟩

/-- the crash points of `C24.temp_rename`, under the name the checks know -/
theorem temp_rename_prefix (prep : List FsOp) (tmp target new : Str) (fs : Fs) (hne : tmp ≠ target)
    (hprep : prep.all (within tmp) = true) (htmp : (run prep fs).read tmp = some new) (k : Nat) :
    ((run ((prep ++ [FsOp.rename tmp target]).take k) fs).read target = fs.read target ∨
     (run ((prep ++ [FsOp.rename tmp target]).take k) fs).read target = some new) ∧
    (∀ q, q ≠ tmp → q ≠ target → (run ((prep ++ [FsOp.rename tmp target]).take k) fs).read q = fs.read q) :=
  have h := temp_rename prep tmp target new fs hne hprep htmp
  ⟨h.oldOrNew k, h.frame k⟩

theorem storeOps_eq (pid cpv : Str) (gid : Int) (mkdirs chunks : List Str) :
    storeOps pid cpv gid mkdirs chunks
      = fill (mkdirs.map .mkdir) []
          [.close (tmpOf pid cpv), .chown (tmpOf pid cpv) (-1) gid, .chmod (tmpOf pid cpv) entryPerms]
          (tmpOf pid cpv) chunks ++ [.rename (tmpOf pid cpv) cpv] := by
  simp [storeOps, fill]

theorem mkdirs_inert (ds : List Str) : (ds.map FsOp.mkdir).all inert = true := by simp [inert]

theorem okName_tmpBase (pid base : Str) : okName (tmpBase pid base) = false := by
  have : (tag ".update.").isPrefixOf (tmpBase pid base) = true := by
    unfold tmpBase
    rw [List.append_assoc]
    exact List.isPrefixOf_iff_prefix.mpr (List.prefix_append _ _)
  simp [okName, this]

theorem comps_tmpOf (pid cpv : Str) (hpid : '/' ∉ pid) :
    splitOn '/' (tmpOf pid cpv)
      = (splitOn '/' cpv).dropLast ++ [tmpBase pid ((splitOn '/' cpv).getLast?.getD [])] := by
  unfold tmpOf
  apply splitOn_joinWith
  · simp
  · intro f hf
    simp only [List.mem_append, List.mem_singleton] at hf
    rcases hf with hf | rfl
    · exact Lib.not_mem_of_mem_splitOn '/' (splitOn_eq_core '/' cpv ▸ List.dropLast_subset _ hf)
    · have hlast : '/' ∉ (splitOn '/' cpv).getLast?.getD [] := by
        cases hl : (splitOn '/' cpv).getLast? with
        | none => simp
        | some l => exact Lib.not_mem_of_mem_splitOn '/' (splitOn_eq_core '/' cpv ▸ List.mem_of_getLast? hl)
      simp only [tmpBase, List.mem_append, List.mem_cons, not_or]
      exact ⟨⟨by decide, hpid⟩, by decide, hlast⟩

/-- some path component of the temporary file starts with `.update.`, so `keys()` never yields it -/
theorem tmpOf_not_listed (pid cpv : Str) (hpid : '/' ∉ pid) : (splitOn '/' (tmpOf pid cpv)).all okName = false := by
  rw [comps_tmpOf pid cpv hpid]
  simp [okName_tmpBase]

theorem tmpOf_ne (pid cpv : Str) (hpid : '/' ∉ pid) : tmpOf pid cpv ≠ cpv := by
  intro h
  -- the last component of `cpv` would be its own temporary name, which is longer
  have h1 := congrArg List.getLast? (comps_tmpOf pid cpv hpid)
  rw [h, List.getLast?_concat] at h1
  cases hl : (splitOn '/' cpv).getLast? with
  | none => rw [hl] at h1; cases h1
  | some l =>
    rw [hl] at h1
    have := congrArg List.length (Option.some.inj h1)
    simp [tmpBase, tag] at this
    omega

theorem storeOps_atomic (fs : Fs) (pid cpv : Str) (gid : Int) (mkdirs chunks : List Str) (hpid : '/' ∉ pid) :
    Atomic (storeOps pid cpv gid mkdirs chunks) fs (tmpOf pid cpv) cpv chunks.flatten :=
  fill_rename (storeOps_eq pid cpv gid mkdirs chunks) (tmpOf_ne pid cpv hpid) (mkdirs_inert mkdirs) rfl rfl fs

theorem failedStoreOps_within (pid cpv : Str) (gid : Int) (mkdirs chunks : List Str) (k : Nat) (cleanup : Bool) :
    (failedStoreOps pid cpv gid mkdirs chunks k cleanup).all (within (tmpOf pid cpv)) = true := by
  rw [failedStoreOps, storeOps_eq, List.dropLast_concat, List.all_append, Bool.and_eq_true]
  exact ⟨List.all_eq_true.mpr fun op hop =>
    List.all_eq_true.mp (fill_spec _ _ _ _ chunks (mkdirs_inert mkdirs) rfl rfl).1 op (List.mem_of_mem_take hop),
    by cases cleanup <;> simp [within]⟩

theorem getItem_congr {kind : Kind} {fs fs' : Fs} {cpv : Str} (h : fs'.read cpv = fs.read cpv) :
    getItem kind fs' cpv = getItem kind fs cpv := by
  rw [getItem, getItem, h]

theorem getItem_of_read {kind : Kind} {fs : Fs} {cpv c : Str} (h : fs.read cpv = some c) :
    getItem kind fs cpv = parseEntry kind c := by
  rw [getItem, h]

theorem mem_keys (fs : Fs) (p : Str) :
    p ∈ keys fs ↔ (fs.read p).isSome = true ∧ (splitOn '/' p).all okName = true := by
  simp only [keys, List.mem_filter, Fs.read, List.lookup_isSome_iff, beq_iff_eq, List.mem_map]
  exact and_congr_left fun _ =>
    ⟨fun ⟨x, hx, e⟩ => ⟨x, hx, e.symm⟩, fun ⟨x, hx, e⟩ => ⟨x, hx, e.symm⟩⟩

end Pkgcore.C27
