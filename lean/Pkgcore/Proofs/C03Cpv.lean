import Pkgcore.Proofs.C03Ver
/-!
# C03 — `CPV(cpvstr, versioned)`: category, package name (`isvalid_pkg_name` = PMS 3.1.2), version, revision

After what the model's tests say of a rendered version and revision, `isvalid_pkg_name` is brought to the form of
`pkgOk`: `validPkgName_eq` isolates its version-tail test as `tailOk` (`tailOk_concat`: what it computes from the last
two chunks), `tailOk_eq_false_iff` says when that fails, `validPkgName_iff` puts the parts together.  Then
`parseCpv_iff` for the whole of `CPV`; `parseCpv_complete_versioned` is the versioned half of its completeness.
-/
namespace Pkgcore.C03
open Pkgcore.C01 Pkgcore.C01.Spec Pkgcore.C02 Pkgcore.C03.Spec

theorem hyphen_not_mem_verText {v : Ver} (h : WFfull v) : '-' ∉ C01.render v :=
  not_mem_of_nameChars (verText_chars h) (by decide) (by decide)

theorem isValidVer_iff {s : Str} : isValidVer s = true ↔ ∃ v, verOk lenient v = true ∧ s = C01.render v := by
  rw [isValidVer, Option.isSome_iff_exists]
  exact exists_congr fun v => by rw [lexVer_iff, verOk_lenient_iff, eq_comm]

theorem isValidRev_iff {s : Str} : isValidRev s = true ↔ ∃ d, s = 'r' :: d ∧ d ≠ [] ∧ digitsOk d = true := by
  constructor
  · intro h
    cases s with
    | nil => cases h
    | cons c d =>
      by_cases hc : c = 'r'
      · subst hc
        have h : (!d.isEmpty && digitsOk d) = true := h
        simp only [Bool.and_eq_true, Bool.not_eq_true', List.isEmpty_eq_false_iff] at h
        exact ⟨d, rfl, h.1, h.2⟩
      · unfold isValidRev at h
        split at h
        · rename_i heq
          exact absurd (List.cons.inj heq).1 hc
        · cases h
  · rintro ⟨d, rfl, hd, hr⟩
    show (!d.isEmpty && digitsOk d) = true
    rw [hr, List.isEmpty_eq_false_iff.mpr hd]
    rfl

/-- a version starts with a digit, not with `r` -/
theorem isValidRev_verText {v : Ver} (h : WFfull v) : isValidRev (C01.render v) = false :=
  Bool.eq_false_iff.mpr fun hr => by
    obtain ⟨d, e, _⟩ := isValidRev_iff.mp hr
    obtain ⟨c, t, e', hc⟩ := C01.render_head h.1
    cases e.symm.trans e'
    exact absurd hc (by decide)

theorem rev_chars {r : Str} (h : digitsOk r = true) : nameChars [] ('r' :: r) = true := by
  rw [nameChars_cons, nameChars_of_digits [] (List.all_eq_true.mp h)]
  rfl

theorem revText_chars {r : Str} (h : digitsOk r = true) : nameChars ['-'] (revText r) = true := by
  unfold revText
  split
  · rfl
  · rw [nameChars_cons, nameChars_mono (e := []) nofun (rev_chars h)]
    rfl

theorem splitOn_verText_revText {v : Ver} {r : Str} (hw : WFfull v) (hr : digitsOk r = true) :
    splitOn '-' (C01.render v ++ revText r) = C01.render v :: (if r.isEmpty then [] else ['r' :: r]) := by
  unfold revText
  split
  · rw [List.append_nil, splitOn_of_not_mem '-' _ (hyphen_not_mem_verText hw)]
  · rw [splitOn_append_sep, splitOn_of_not_mem '-' _ (hyphen_not_mem_verText hw),
      splitOn_of_not_mem '-' _ (not_mem_of_nameChars (rev_chars hr) (by decide) (by decide))]
    rfl

/-- the version-tail test of `isvalid_pkg_name`: the end of `validPkgName`'s chain of tests, as written there -/
def tailOk (P : List Str) : Bool :=
  if P.length == 1 then true
  else if isValidVer (P.getLast?.getD []) then false
  else if P.length ≥ 3 && isValidRev (P.getLast?.getD []) then !isValidVer (P.dropLast.getLast?.getD [])
  else true

theorem tailOk_concat (Q : List Str) (x last : Str) :
    tailOk (Q ++ [x, last]) =
      (!isValidVer last && (if !Q.isEmpty && isValidRev last then !isValidVer x else true)) := by
  rw [tailOk, show Q ++ [x, last] = Q ++ [x] ++ [last] by simp]
  simp only [List.length_append, List.length_cons, List.length_nil, List.getLast?_concat, Option.getD_some,
    List.dropLast_concat]
  cases isValidVer last <;> cases Q <;> simp

theorem validPkgName_eq (P : List Str) :
    validPkgName P =
      (!(P.headD []).isEmpty && !((P.headD []).head? == some '+') && P.all (fun c => c.all pkgChunkChar) &&
        tailOk P) := by
  cases P with
  | nil => rfl
  | cons c0 cs =>
    unfold validPkgName tailOk
    simp only [List.headD_cons]
    generalize c0 :: cs = P
    have hchars : P.all (fun s => s.isEmpty || validPkgChunk s) = P.all (fun c => c.all pkgChunkChar) := by
      congr 1
      funext s
      cases s <;> simp [validPkgChunk]
    rw [hchars]
    generalize c0.isEmpty = a, (c0.head? == some '+') = b, P.all (fun c => c.all pkgChunkChar) = c
    cases a <;> cases b <;> cases c <;> rfl

/-- PMS 3.1.2's rule on the end of a package name, with pkgcore's reading of "version syntax" -/
theorem tailOk_eq_false_iff (s : Str) :
    tailOk (splitOn '-' s) = false ↔ ∃ p t, s = p ++ '-' :: t ∧ VersionLike lenient t := by
  constructor
  · intro h
    have hs := joinSep_splitOn '-' s
    generalize hP : splitOn '-' s = P at h hs
    obtain ⟨init, last, rfl⟩ := Lib.exists_concat_of_ne_nil (hP ▸ splitOn_ne_nil '-' s)
    obtain ⟨Q, x, rfl⟩ := Lib.exists_concat_of_ne_nil (l := init) (by rintro rfl; cases h)
    rw [List.append_assoc] at h hs
    rw [show [x] ++ [last] = [x, last] from rfl, tailOk_concat] at h
    simp only [Bool.and_eq_false_iff, Bool.not_eq_false'] at h
    rcases h with h | h
    · -- the last chunk is a version
      obtain ⟨v, hv, rfl⟩ := isValidVer_iff.mp h
      refine ⟨joinSep '-' (Q ++ [x]), _, ?_, v, [], hv, rfl, (List.append_nil _).symm⟩
      rw [← hs, ← List.append_assoc, joinSep_append _ (by simp) (by simp)]
      rfl
    · -- `ver-rN`
      split at h
      · rename_i hc
        simp only [Bool.and_eq_true, Bool.not_eq_true', List.isEmpty_eq_false_iff] at hc
        simp only [Bool.not_eq_false'] at h
        obtain ⟨d, rfl, hd1, hd2⟩ := isValidRev_iff.mp hc.2
        obtain ⟨v, hv, rfl⟩ := isValidVer_iff.mp h
        refine ⟨joinSep '-' Q, C01.render v ++ '-' :: 'r' :: d, ?_, v, d, hv, hd2, ?_⟩
        · rw [← hs, joinSep_append _ hc.1 (by simp)]
          rfl
        · rw [revText, if_neg (by simpa using hd1)]
      · cases h
  · rintro ⟨p, t, rfl, h⟩
    obtain ⟨v, r, hv, hr, rfl⟩ := h
    have hw : WFfull v := (verOk_lenient_iff v).mp hv
    rw [splitOn_append_sep, splitOn_verText_revText hw hr]
    cases r with
    | nil =>
      obtain ⟨Q, x, hQ⟩ := Lib.exists_concat_of_ne_nil (splitOn_ne_nil '-' p)
      rw [hQ, List.append_assoc]
      show tailOk (Q ++ [x, C01.render v]) = false
      rw [tailOk_concat, isValidVer_iff.mpr ⟨v, hv, rfl⟩]
      rfl
    | cons c cs =>
      have : isValidRev ('r' :: c :: cs) = true := isValidRev_iff.mpr ⟨_, rfl, List.cons_ne_nil _ _, hr⟩
      show tailOk (splitOn '-' p ++ [C01.render v, 'r' :: c :: cs]) = false
      rw [tailOk_concat, this, isValidVer_iff.mpr ⟨v, hv, rfl⟩, List.isEmpty_eq_false_iff.mpr (splitOn_ne_nil _ _)]
      simp

theorem validPkgName_iff (s : Str) : validPkgName (splitOn '-' s) = true ↔ pkgOk lenient s := by
  have hchars : s.all (fun x => pkgChunkChar x || x == '-') = nameChars ['+', '_', '-'] s :=
    all_eq_nameChars (fun x => by
      simp only [pkgChunkChar, isAlnum, List.contains_cons, List.contains_nil, Bool.or_false, Bool.or_assoc]) s
  have hfirst : (!((splitOn '-' s).headD []).isEmpty && !(((splitOn '-' s).headD []).head? == some '+')) =
      (!s.isEmpty && !startsWithAny ['-', '+'] s) := by
    cases s with
    | nil => rfl
    | cons c cs =>
      rw [headD_splitOn_cons, startsWithAny_cons]
      by_cases hc : c = '-'
      · rw [if_pos hc, hc]
        rfl
      · rw [if_neg hc, List.contains_cons, beq_false_of_ne hc, List.contains_cons, List.contains_nil]
        simp only [List.isEmpty_cons, List.head?_cons, Option.some_beq_some, Bool.or_false, Bool.false_or]
  have htail : tailOk (splitOn '-' s) = true ↔
      ∀ p t, s = p ++ '-' :: t → ¬ VersionLike lenient t := by
    rw [← Bool.not_eq_false, tailOk_eq_false_iff]
    exact ⟨fun h p t e hv => h ⟨p, t, e, hv⟩, fun h ⟨p, t, e, hv⟩ => h p t e hv⟩
  rw [validPkgName_eq, splitOn_all, hchars, hfirst, Bool.and_eq_true, htail, Bool.and_right_comm]
  rfl

theorem ne_nil_of_validPkgName {Q : List Str} (hQ : validPkgName Q = true) : Q ≠ [] := by
  rintro rfl
  simp [validPkgName] at hQ

theorem pkgOk_of_validPkgName {Q : List Str} (hQ : validPkgName Q = true) (hsep : ∀ p ∈ Q, '-' ∉ p) :
    pkgOk lenient (joinSep '-' Q) := by
  rw [← validPkgName_iff, splitOn_joinSep '-' Q (ne_nil_of_validPkgName hQ) hsep]
  exact hQ

theorem pkgOk_chars {d : Dialect} {pkg : Str} (h : pkgOk d pkg) : nameChars ['+', '_', '-'] pkg = true :=
  have ⟨_, _, _, hc, _⟩ := nameOk_iff.mp h.1
  hc

/-- `-ver[-rN]`, or nothing: what `cpvstr` has after the package name -/
def verTail : Option (Ver × Str) → Str
  | none => []
  | some (v, r) => '-' :: C01.render v ++ revText r

theorem cpvText_eq (a : Atom) : cpvText a = a.cat ++ '/' :: a.pkg ++ verTail (a.vop.map (·.2)) := by
  unfold cpvText
  cases a.vop <;> rfl

theorem parseCpv_complete_versioned {cat pkg : Str} {v : Ver} {r : Str} (hc : catOk cat = true)
    (hp : pkgOk lenient pkg) (hv : verOk lenient v = true) (hr : digitsOk r = true) :
    parseCpv true (cat ++ '/' :: pkg ++ verTail (some (v, r))) = .ok (cat, pkg, some (v, r)) := by
  -- the last `/` is the one after the category, since none follows it; `split("-")` of the rest is the chunks `P` of
  -- the package name, then the version and, if there is one, `rN`; on that list `parseCpv` is evaluated
  have hw : WFfull v := (verOk_lenient_iff v).mp hv
  rw [verTail, show cat ++ '/' :: pkg ++ ('-' :: C01.render v ++ revText r) =
    cat ++ '/' :: (pkg ++ '-' :: C01.render v ++ revText r) by simp only [List.append_assoc, List.cons_append]]
  have hslash : '/' ∉ pkg ++ '-' :: C01.render v ++ revText r := by
    refine not_mem_of_nameChars (extra := ['+', '_', '-', '.']) ?_ (by decide) (by decide)
    rw [nameChars_append, nameChars_append, nameChars_cons, nameChars_mono (by decide) (pkgOk_chars hp),
      nameChars_mono (by decide) (verText_chars hw), nameChars_mono (by decide) (revText_chars hr)]
    rfl
  generalize hP : splitOn '-' pkg = P
  have hPne : P ≠ [] := hP ▸ splitOn_ne_nil _ _
  have hPlen : 1 ≤ P.length := by cases P with | nil => exact absurd rfl hPne | cons _ _ => simp
  have hvalid : validPkgName P = true := hP ▸ (validPkgName_iff pkg).mpr hp
  have hjoin : joinSep '-' P = pkg := hP ▸ joinSep_splitOn '-' pkg
  unfold parseCpv
  rw [breakOnLast_append cat hslash]
  simp only [(validCat_iff cat).mpr hc, Bool.not_true, Bool.false_eq_true, if_false, if_true]
  rw [List.append_assoc, List.cons_append, splitOn_append_sep, splitOn_verText_revText hw hr, hP]
  cases r with
  | nil =>
    have hlen : ((P ++ [C01.render v]).length == 1) = false := by
      simp only [List.length_append, List.length_cons, List.length_nil, beq_eq_false_iff_ne]
      omega
    simp only [List.isEmpty_nil, if_true, hlen, Bool.false_eq_true, if_false, List.getLast?_concat, Option.getD_some,
      isValidRev_verText hw, lexVer_render v hw, List.dropLast_concat, hvalid, Bool.not_true, hjoin]
  | cons d ds =>
    have hrev : isValidRev ('r' :: d :: ds) = true := isValidRev_iff.mpr ⟨_, rfl, List.cons_ne_nil _ _, hr⟩
    rw [show P ++ C01.render v :: (if (d :: ds).isEmpty then [] else ['r' :: d :: ds]) =
      P ++ [C01.render v] ++ ['r' :: d :: ds] by simp]
    have hlen : ((P ++ [C01.render v] ++ ['r' :: d :: ds]).length == 1) = false := by
      simp only [List.length_append, List.length_cons, List.length_nil, beq_eq_false_iff_ne]
      omega
    have hlen3 : ¬ (P ++ [C01.render v] ++ ['r' :: d :: ds]).length < 3 := by
      simp only [List.length_append, List.length_cons, List.length_nil]
      omega
    simp only [hlen, Bool.false_eq_true, if_false, List.getLast?_concat, Option.getD_some, hrev, if_true, hlen3,
      List.dropLast_concat, lexVer_render v hw, hvalid, Bool.not_true, hjoin, List.tail_cons]

/-- **`CPV(cpvstr, versioned)` accepts exactly `cat/pkg[-ver[-rN]]`**, the version part iff `versioned` -/
theorem parseCpv_iff {b : Bool} {s cat pkg : Str} {vr : Option (Ver × Str)} :
    parseCpv b s = .ok (cat, pkg, vr) ↔
      catOk cat = true ∧ pkgOk lenient pkg ∧ b = vr.isSome ∧ s = cat ++ '/' :: pkg ++ verTail vr ∧
        ∀ v r, vr = some (v, r) → verOk lenient v = true ∧ digitsOk r = true := by
  constructor
  · intro h
    unfold parseCpv at h
    cases hb : breakOnLast '/' s with
    | none => simp [hb] at h
    | some p =>
      obtain ⟨cat', pkgver⟩ := p
      obtain ⟨hs, _⟩ := breakOnLast_sound hb
      simp only [hb] at h
      cases hcat : validCat cat' with
      | false => simp [hcat] at h
      | true =>
        simp only [hcat, Bool.not_true, Bool.false_eq_true, if_false] at h
        have hsepC : ∀ p ∈ splitOn '-' pkgver, '-' ∉ p :=
          fun p hp => Lib.not_mem_of_mem_splitOn '-' (splitOn_eq_core _ _ ▸ hp)
        have hjoinC := joinSep_splitOn '-' pkgver
        generalize hC : splitOn '-' pkgver = C at h hsepC hjoinC
        -- both ways of finding the version end in the same test of a version chunk `x` and package chunks `Q`
        have fin : ∀ (Q T : List Str) (x r : Str), C = Q ++ x :: T → digitsOk r = true →
            joinSep '-' (x :: T) = x ++ revText r →
            (match lexVer x with
              | none => (.error .cpvVersion : Except Err (Str × Str × Option (Ver × Str)))
              | some v =>
                if (!validPkgName Q) = true then .error .cpvPkgName else .ok (cat', joinSep '-' Q, some (v, r))) =
              .ok (cat, pkg, vr) →
            catOk cat = true ∧ pkgOk lenient pkg ∧ true = vr.isSome ∧ s = cat ++ '/' :: pkg ++ verTail vr ∧
              ∀ v' r', vr = some (v', r') → verOk lenient v' = true ∧ digitsOk r' = true := by
          intro Q T x r hQT hr hj h
          cases hv : lexVer x with
          | none => simp [hv] at h
          | some v =>
            simp only [hv] at h
            cases hQ : validPkgName Q with
            | false => simp [hQ] at h
            | true =>
              simp only [hQ, Bool.not_true, Bool.false_eq_true, if_false, Except.ok.injEq, Prod.mk.injEq] at h
              obtain ⟨rfl, rfl, rfl⟩ := h
              obtain ⟨hw, hren⟩ := lexVer_sound hv
              have hpk := pkgOk_of_validPkgName hQ fun p hp => hsepC p (hQT ▸ List.mem_append_left _ hp)
              refine ⟨(validCat_iff _).mp hcat, hpk, rfl, ?_, fun v' r' e => ?_⟩
              · rw [hs, ← hjoinC, hQT, joinSep_append _ (ne_nil_of_validPkgName hQ) (List.cons_ne_nil _ _), hj, ← hren,
                  verTail, List.append_assoc]
                rfl
              · cases e
                exact ⟨(verOk_lenient_iff v).mpr hw, hr⟩
        cases b with
        | false =>
          simp only [Bool.false_eq_true, if_false] at h
          cases hv : validPkgName C with
          | false => simp [hv] at h
          | true =>
            simp only [hv, Bool.not_true, Bool.false_eq_true, if_false, Except.ok.injEq, Prod.mk.injEq] at h
            obtain ⟨rfl, rfl, rfl⟩ := h
            exact ⟨(validCat_iff _).mp hcat, pkgOk_of_validPkgName hv hsepC, rfl,
              by rw [hs, hjoinC]; exact (List.append_nil _).symm, fun _ _ e => nomatch e⟩
        | true =>
          simp only [if_true] at h
          by_cases hlen1 : (C.length == 1) = true
          · simp [hlen1] at h
          simp only [hlen1, Bool.false_eq_true, if_false] at h
          obtain ⟨init, last, rfl⟩ := Lib.exists_concat_of_ne_nil (hC ▸ splitOn_ne_nil '-' pkgver)
          simp only [List.getLast?_concat, Option.getD_some, List.dropLast_concat] at h
          cases hrev : isValidRev last with
          | true =>
            simp only [hrev, if_true] at h
            by_cases hlen3 : (init ++ [last]).length < 3
            · rw [if_pos hlen3] at h
              cases h
            rw [if_neg hlen3] at h
            obtain ⟨Q, x, rfl⟩ := Lib.exists_concat_of_ne_nil (l := init) (by rintro rfl; simp at hlen3)
            simp only [List.getLast?_concat, Option.getD_some, List.dropLast_concat] at h
            obtain ⟨d, rfl, hd1, hd2⟩ := isValidRev_iff.mp hrev
            refine fin Q ['r' :: d] x d (by simp) hd2 ?_ h
            rw [revText, if_neg (by simpa using hd1)]
            rfl
          | false =>
            simp only [hrev, Bool.false_eq_true, if_false, List.getLast?_concat, Option.getD_some,
              List.dropLast_concat] at h
            exact fin init [] last [] rfl rfl (List.append_nil _).symm h
  · rintro ⟨hc, hp, hb, rfl, hv⟩
    cases vr with
    | none =>
      rw [hb, verTail, List.append_nil]
      unfold parseCpv
      rw [breakOnLast_append cat (not_mem_of_nameChars (pkgOk_chars hp) (by decide) (by decide))]
      simp [(validCat_iff cat).mpr hc, (validPkgName_iff pkg).mpr hp, joinSep_splitOn]
    | some q =>
      rw [hb]
      exact parseCpv_complete_versioned hc hp (hv q.1 q.2 rfl).1 (hv q.1 q.2 rfl).2

end Pkgcore.C03
