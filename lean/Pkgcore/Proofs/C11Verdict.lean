import Pkgcore.Spec.C11
import Pkgcore.Proofs.Lib
/-!
# C11 — what a sequence of chunks says about a flag

All proofs of C11 are phrased per flag: a chunk is known by its `verdict` (`mem_applyChunk`), a sequence of chunks by
`lastV` (what its last applicable chunk speaking about a flag says), and two sequences with the same `lastV` render the
same sets (`render_congr`).  The rest is `covers` over lists of negatives, with and without wildcards.
-/
namespace Pkgcore.C11
open Pkgcore.C11.Spec

theorem orElse_assoc {α} (a b c : Option α) :
    ((a.orElse fun _ => b).orElse fun _ => c) = a.orElse fun _ => (b.orElse fun _ => c) := by
  cases a <;> rfl

/-- an alternative that only matters where `g` is undecided may be consulted before `g` (`g` the global verdict, `v` a
specific chunk's) -/
theorem orElse_guard {α} (a g v : Option α) :
    ((a.orElse fun _ => g).orElse fun _ => v) = (a.orElse fun _ => if g.isSome then none else v).orElse fun _ => g := by
  cases a <;> cases g <;> simp

theorem mem_sAdd (s : TSet) (x y : Tok) : y ∈ sAdd s x ↔ y ∈ s ∨ y = x :=
  Lib.mem_add_if_absent List.contains_iff_mem.mp y

theorem mem_foldl_sAdd (xs : List Tok) (s : TSet) (y : Tok) : y ∈ xs.foldl sAdd s ↔ y ∈ s ∨ y ∈ xs :=
  Lib.mem_foldl_add mem_sAdd xs s y

/-- the `PREFIX_*` part of `covers` -/
def prefCovers (negs : List Tok) (x : Tok) : Bool := negs.any fun n => endsUS n && (n.dropLast).isPrefixOf x

theorem covers_eq (negs : List Tok) (x : Tok) :
    covers negs x = (negs.contains star || prefCovers negs x || negs.contains x) := rfl

theorem mem_foldl_prefix_filter (negs : List Tok) (s : TSet) (x : Tok) :
    x ∈ negs.foldl (fun acc n => if endsUS n then acc.filter (fun f => !(n.dropLast).isPrefixOf f) else acc) s
      ↔ x ∈ s ∧ prefCovers negs x = false := by
  induction negs generalizing s with
  | nil => simp [prefCovers]
  | cons n ns ih =>
    rw [List.foldl_cons, ih]
    cases hn : endsUS n <;> simp [prefCovers, hn, and_assoc]

theorem verdict_eq_some_true {c : Chunk} {x : Tok} : verdict c x = some true ↔ x ∈ c.pos := by
  unfold verdict
  split
  · simp_all
  · split <;> simp_all

theorem verdict_eq_none {c : Chunk} {x : Tok} : verdict c x = none ↔ x ∉ c.pos ∧ covers c.neg x = false := by
  unfold verdict
  split
  · simp_all
  · split <;> simp_all

theorem mem_applyChunk (s : TSet) (c : Chunk) (x : Tok) :
    x ∈ applyChunk s c ↔ (verdict c x = some true ∨ (verdict c x = none ∧ x ∈ s)) := by
  rw [verdict_eq_some_true, verdict_eq_none, covers_eq]
  unfold applyChunk
  simp only [mem_foldl_sAdd, List.mem_filter, mem_foldl_prefix_filter]
  by_cases hp : x ∈ c.pos
  · simp only [hp, or_true, true_or]
  · cases hs : c.neg.contains star <;> simp [hp, and_comm, and_left_comm]

theorem holds_iff (m : Nat → Bool) (seq : List Chunk) (s : TSet) (x : Tok) :
    holds m seq s x = true ↔ (lastV m seq x = some true ∨ (lastV m seq x = none ∧ x ∈ s)) := by
  unfold holds
  cases lastV m seq x with
  | none => simp
  | some b => cases b <;> simp

theorem render_cons (m : Nat → Bool) (c : Chunk) (cs : List Chunk) (s : TSet) :
    render m (c :: cs) s = render m cs (if m c.kid then applyChunk s c else s) := by
  unfold render
  cases h : m c.kid <;> simp [h]

theorem mem_render (m : Nat → Bool) (seq : List Chunk) (s : TSet) (x : Tok) :
    x ∈ render m seq s ↔ holds m seq s x = true := by
  induction seq generalizing s with
  | nil => simp [render, holds, lastV]
  | cons c cs ih =>
      rw [render_cons, ih, holds_iff, holds_iff, lastV]
      cases lastV m cs x with
      | some b => simp
      | none =>
        cases m c.kid with
        | false => simp
        | true => simp [mem_applyChunk]

theorem lastV_nil (m : Nat → Bool) (x : Tok) : lastV m [] x = none := rfl

theorem lastV_append (m : Nat → Bool) (a b : List Chunk) (x : Tok) :
    lastV m (a ++ b) x = (lastV m b x).orElse fun _ => lastV m a x := by
  induction a with
  | nil => cases h : lastV m b x <;> simp [lastV, h]
  | cons c cs ih => simp only [List.cons_append, lastV, ih, orElse_assoc]

/-- the summand of `lastV` -/
abbrev said (m : Nat → Bool) (c : Chunk) (x : Tok) : Option Bool := if m c.kid then verdict c x else none

theorem lastV_snoc (m : Nat → Bool) (l : List Chunk) (c : Chunk) (x : Tok) :
    lastV m (l ++ [c]) x = (said m c x).orElse fun _ => lastV m l x := by
  rw [lastV_append]
  simp [lastV]

theorem render_congr (m : Nat → Bool) (a b : List Chunk) (h : ∀ x, lastV m a x = lastV m b x) (s : TSet) (x : Tok) :
    x ∈ render m a s ↔ x ∈ render m b s := by
  rw [mem_render, mem_render, holds_iff, holds_iff, h x]

theorem isWild_star : isWild star = true := by decide

theorem isWild_of_endsUS {n : Tok} (h : endsUS n = true) : isWild n = true := by simp [isWild, h]

theorem endsUS_of_wild_ne_star {n : Tok} (h : isWild n = true) (hs : n ≠ star) : endsUS n = true := by
  simp only [isWild, Bool.or_eq_true, beq_iff_eq] at h
  exact h.resolve_left hs

theorem covers_congr {a b : List Tok} (h : ∀ n, n ∈ a ↔ n ∈ b) (x : Tok) : covers a x = covers b x := by
  rw [Bool.eq_iff_iff]
  simp only [covers_eq, prefCovers, Bool.or_eq_true, List.contains_iff_mem, List.any_eq_true, h]

theorem covers_nil (x : Tok) : covers [] x = false := rfl

theorem covers_append (a b : List Tok) (x : Tok) : covers (a ++ b) x = (covers a x || covers b x) := by
  simp only [covers_eq, prefCovers, List.contains_append, List.any_append]
  ac_rfl

theorem covers_cons (n : Tok) (ns : List Tok) (x : Tok) : covers (n :: ns) x = (covers [n] x || covers ns x) :=
  covers_append [n] ns x

theorem covers_singleton (n x : Tok) :
    covers [n] x = true ↔ n = star ∨ (endsUS n = true ∧ (n.dropLast).isPrefixOf x = true) ∨ x = n := by
  simp only [covers_eq, prefCovers, List.contains_cons, List.contains_nil, List.any_cons, List.any_nil, Bool.or_false,
    Bool.or_eq_true, Bool.and_eq_true, beq_iff_eq, or_assoc]
  rw [eq_comm]

theorem prefCovers_filter_isWild (negs : List Tok) (x : Tok) :
    prefCovers (negs.filter isWild) x = prefCovers negs x := by
  simp only [prefCovers, List.any_filter]
  refine List.any_congr rfl fun n => ?_
  cases he : endsUS n
  · simp
  · simp [isWild_of_endsUS he]

/-- a negative is a wildcard (`*`, `PREFIX_*`), or removes just its own name -/
theorem covers_split_wild (negs : List Tok) (x : Tok) :
    covers negs x = (covers (negs.filter isWild) x || (negs.contains x && !isWild x)) := by
  have h1 : (negs.filter isWild).contains star = negs.contains star := by
    rw [Bool.eq_iff_iff]; simp [isWild_star]
  rw [covers_eq, covers_eq, h1, prefCovers_filter_isWild, Lib.contains_filter]
  cases negs.contains star <;> cases prefCovers negs x <;> cases negs.contains x <;> cases isWild x <;> rfl

theorem covers_noWild (negs : List Tok) (x : Tok) (h : ∀ n ∈ negs, isWild n = false) :
    covers negs x = negs.contains x := by
  have hf : negs.filter isWild = [] := List.filter_eq_nil_iff.mpr fun n hn => by simp [h n hn]
  rw [covers_split_wild, hf, covers_nil, Bool.false_or]
  cases hc : negs.contains x
  · rfl
  · simp [h x (List.contains_iff_mem.mp hc)]

theorem verdict_noWild (c : Chunk) (h : ∀ n ∈ c.neg, isWild n = false) (x : Tok) :
    verdict c x = if c.pos.contains x then some true else if c.neg.contains x then some false else none := by
  rw [verdict, covers_noWild _ x h]

/-- a chunk the code drops as empty says nothing -/
theorem verdict_none_of_empty {c : Chunk} (he : (c.neg.isEmpty && c.pos.isEmpty) = true) (x : Tok) :
    verdict c x = none := by
  rw [Bool.and_eq_true, List.isEmpty_iff, List.isEmpty_iff] at he
  simp [verdict, he.1, he.2, covers_nil]

theorem verdict_of_star {c : Chunk} (hst : c.neg.contains star = true) (x : Tok) :
    verdict c x = some (c.pos.contains x) := by
  rw [verdict, covers_eq, hst]
  cases c.pos.contains x <;> rfl

theorem lastV_append_clear {m : Nat → Bool} {c : Chunk} (hm : m c.kid = true) (hst : c.neg.contains star = true)
    (a P : List Chunk) (x : Tok) : lastV m (a ++ c :: P) x = lastV m (c :: P) x := by
  rw [lastV_append, lastV, hm, if_pos rfl, verdict_of_star hst]
  cases lastV m P x <;> rfl

end Pkgcore.C11
