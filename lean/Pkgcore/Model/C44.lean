import Pkgcore.Model.C01
import Pkgcore.Generated.C44Tables
/-!
# C44 model — `pkgcore.util.parserestrict` (`parse_match`, `convert_glob`, `collect_ops`,
`parse_globbed_version`) as written, after the two `fix:` commits (restrictions collected so far are kept by
the globbed-version branch; slot globs next to a glob-free `cat/pkg`).

Strings are `List Char`.  The Python string primitives used by the code are re-implemented with their edge
behaviour: `s.rsplit("::", 1)`, `s.rsplit(c, 1)`, `s.partition(c)`, `s.strip()`, `sub in s`, the `while` loop
of `collect_ops`, `max(x for x in valid_ops if text.startswith(x))`.

Regular expressions are re-expressed structurally and differential-tested by the correspondence run:
* `valid_globbing = ^(?:[\w+-.]+|(?<!\*)\*)+$` ↦ `validGlob` (ASCII: word chars, `+ , - .`, and `*` never doubled);
* the `StrRegex("^" + re.escape(token).replace("\\*", ".*") + "$", match=True)` built by `convert_glob` ↦ the item
  list `compileGlob token` (escaped literal / `.*`) with the backtracking matcher `matchItems`;
* `cpv.isvalid_version_re` ↦ `lexVer`, which also produces the lexed version used by the C01 order.

The atom parser and atom matching are parameters (`AtomEnv`): `parse`, `isMatch`, and `isMatchNoCat` = the
conjunction of the atom's restrictions that do not look at the category (what
`collect_package_restrictions(atom.restrictions, attrs=("category",), invert=True)` keeps).
A restriction is compared only through what it matches; `AndRestriction(*rs)` with one element and the bare
element are therefore not distinguished.
-/
namespace Pkgcore.C44
open Pkgcore.C01 (Ver Suf)

abbrev Str := List Char

/-! ## Python string primitives -/

/-- `s.rsplit(c, 1)` for a single character: `some (before, after)` of the last `c`, `none` if `c not in s` -/
def rsplit1 (c : Char) : Str → Option (Str × Str)
  | [] => none
  | x :: xs =>
    match rsplit1 c xs with
    | some (a, b) => some (x :: a, b)
    | none => if x = c then some ([], xs) else none

/-- `s.startswith("::")`, returning the rest -/
def startsColons : Str → Option Str
  | ':' :: ':' :: r => some r
  | _ => none

/-- `s.rsplit("::", 1)`: split at the last occurrence of `::` -/
def rsplit2 : Str → Option (Str × Str)
  | [] => none
  | x :: xs =>
    match rsplit2 xs with
    | some (a, b) => some (x :: a, b)
    | none => (startsColons (x :: xs)).map fun r => ([], r)

/-- `s.partition(c)` without the separator: `(before, after)`; `(s, "")` if `c not in s` -/
def partition1 (c : Char) : Str → Str × Str
  | [] => ([], [])
  | x :: xs => if x = c then ([], xs) else ((x :: (partition1 c xs).1), (partition1 c xs).2)

def isWs (c : Char) : Bool := c = ' ' || c = '\t' || c = '\n' || c = '\r' || c = '\x0b' || c = '\x0c'

/-- `s.strip()` (ASCII white space) -/
def strip (s : Str) : Str := ((s.dropWhile isWs).reverse.dropWhile isWs).reverse

def isOpChar (c : Char) : Bool := c = '<' || c = '=' || c = '>' || c = '~'

/-- `collect_ops` -/
def collectOps (s : Str) : Str × Str := (s.takeWhile isOpChar, s.dropWhile isOpChar)

/-- `max(x for x in atom.valid_ops if text.startswith(x))` and the rest of the text
(`valid_ops` is the generated table; see `ops_table` in the property file) -/
def longestOp : Str → Option (Str × Str)
  | '<' :: '=' :: r => some (['<', '='], r)
  | '>' :: '=' :: r => some (['>', '='], r)
  | '<' :: r => some (['<'], r)
  | '>' :: r => some (['>'], r)
  | '=' :: r => some (['='], r)
  | '~' :: r => some (['~'], r)
  | _ => none

/-! ## globs -/

def isWordChar (c : Char) : Bool := c.isAlphanum || c = '_'

/-- the character class `[\w+-.]` (the range `+-.` is `+ , - .`) -/
def isGlobChar (c : Char) : Bool := isWordChar c || Generated.C44.globExtra.contains c

/-- `valid_globbing(token)` -/
def validGlob : Str → Bool
  | [] => false
  | s => s.all (fun c => isGlobChar c || c = '*') && !hasDoubleStar s
where
  hasDoubleStar : Str → Bool
    | '*' :: '*' :: _ => true
    | _ :: r => hasDoubleStar r
    | [] => false

inductive Item
  | lit (c : Char)     -- an escaped literal character
  | any                -- `.*`
  deriving DecidableEq, Repr

/-- the regular expression `"^" + re.escape(token).replace("\\*", ".*") + "$"` as items -/
def compileGlob (token : Str) : List Item := token.map fun c => if c = '*' then .any else .lit c

def tails : Str → List Str
  | [] => [[]]
  | x :: s => (x :: s) :: tails s

/-- `re.match` of the anchored item list against the whole string -/
def matchItems : List Item → Str → Bool
  | [], s => s.isEmpty
  | .lit c :: r, s =>
    match s with
    | [] => false
    | x :: s' => x = c && matchItems r s'
  | .any :: r, s => (tails s).any (matchItems r)

/-- `values.StrExactMatch(s)` / `values.StrRegex(pattern, match=True)` -/
inductive VMatch
  | exact (s : Str)
  | regex (items : List Item)
  deriving DecidableEq, Repr

def VMatch.test : VMatch → Str → Bool
  | .exact s, x => x = s
  | .regex items, x => matchItems items x

inductive Err
  | parse           -- ParseError
  deriving DecidableEq, Repr

/-- `convert_glob` -/
def convertGlob (token : Str) : Except Err (Option VMatch) :=
  if token = ['*'] ∨ token = [] then .ok none
  else if '*' ∉ token then .ok (some (.exact token))
  else if !validGlob token then .error .parse
  else .ok (some (.regex (compileGlob token)))

/-! ## versions: `cpv.isvalid_version_re` -/

def allDigits (s : Str) : Bool := s.all Char.isDigit

/-- split at every `c` (`s.split(c)`) -/
def splitOn (c : Char) : Str → List Str
  | [] => [[]]
  | x :: xs =>
    if x = c then [] :: splitOn c xs
    else match splitOn c xs with
      | [] => [[x]]
      | h :: t => (x :: h) :: t

def lexSuffix (s : Str) : Option (Suf × Str) :=
  let try_ (name : Str) (k : Suf) : Option (Suf × Str) :=
    if name.isPrefixOf s ∧ allDigits (s.drop name.length) then some (k, s.drop name.length) else none
  (try_ "pre".toList .pre).orElse fun _ =>
  (try_ "p".toList .p).orElse fun _ =>
  (try_ "beta".toList .beta).orElse fun _ =>
  (try_ "alpha".toList .alpha).orElse fun _ =>
  (try_ "rc".toList .rc)

/-- last dotted component: digits with an optional trailing ASCII letter -/
def lexLast (s : Str) : Option (Str × Option Char) :=
  match s.reverse with
  | [] => none
  | c :: r =>
    if c.isAlpha then (if r ≠ [] ∧ allDigits r then some (r.reverse, some c) else none)
    else if allDigits s then some (s, none) else none

def lexDotted (parts : List Str) : Option (List Str × Option Char) :=
  match parts with
  | [] => none
  | [l] => (lexLast l).map fun (d, c) => ([d], c)
  | p :: rest =>
    if p ≠ [] ∧ allDigits p then (lexDotted rest).map fun (ds, c) => (p :: ds, c) else none

/-- `isvalid_version_re.match(s)`, returning the lexed version -/
def lexVer (s : Str) : Option Ver :=
  match splitOn '_' s with
  | [] => none
  | d :: sufs =>
    match lexDotted (splitOn '.' d), sufs.mapM lexSuffix with
    | some (comps, letter), some ss => some ⟨comps, letter, ss⟩
    | _, _ => none

/-! ## restrictions -/

structure Pkg where
  category : Str
  package : Str
  ver : Ver
  rev : Str          -- digits of the revision, `""` when there is none
  slot : Str
  subslot : Str
  repo : Str         -- `pkg.repo.repo_id`
  deriving Repr

inductive Attr | category | package | slot | subslot
  deriving DecidableEq, Repr

def Pkg.get (p : Pkg) : Attr → Str
  | .category => p.category
  | .package => p.package
  | .slot => p.slot
  | .subslot => p.subslot

structure AtomEnv (A : Type) where
  parse : Str → Option A             -- `atom.atom(text)`; `none` = MalformedAtom
  isMatch : A → Pkg → Bool           -- `a.match(pkg)`
  isMatchNoCat : A → Pkg → Bool      -- all restrictions of `a` that do not read the category

inductive R (A : Type)
  | always                                   -- packages.AlwaysTrue
  | field (a : Attr) (m : VMatch)            -- PackageRestriction(attr, m); SlotDep / SubSlotDep are `exact`
  | repo (id : Str)                          -- restricts.RepositoryDep
  | version (op : Str) (v : Ver)             -- restricts.VersionMatch(op, ver)   (rev=None)
  | atom (a : A)
  | atomNoCat (a : A)
  | and (rs : List (R A))                    -- packages.AndRestriction(*rs)

/-- `_VersionMatch(op, ver, rev=None).match(pkg)`; `None` and `Revision("")` compare alike, both are revision 0 -/
def versionTest (op : Str) (v : Ver) (p : Pkg) : Bool :=
  match C01.opVals (String.ofList op) with
  | some (vals, droprev) => C01.versionMatch vals droprev false v (some []) p.ver (some p.rev)
  | none => false

mutual
def R.eval {A : Type} (env : AtomEnv A) (p : Pkg) : R A → Bool
  | .always => true
  | .field a m => m.test (p.get a)
  | .repo id => p.repo = id
  | .version op v => versionTest op v p
  | .atom a => env.isMatch a p
  | .atomNoCat a => env.isMatchNoCat a p
  | .and rs => R.evalAll env p rs
def R.evalAll {A : Type} (env : AtomEnv A) (p : Pkg) : List (R A) → Bool
  | [] => true
  | r :: rs => R.eval env p r && R.evalAll env p rs
end

/-! ## `parse_match` -/

/-- what the first part of `parse_match` leaves: the text in front of the slot/repository parts, the restrictions
collected so far, and whether the slot part contains a `*` -/
structure Prep (A : Type) where
  orig : Str
  text : Str
  restrictions : List (R A)
  globbedSlot : Bool

/-- `if slot: …` / `if subslot: …` -/
def slotRestr {A : Type} (attr : Attr) (s : Str) : Except Err (List (R A)) :=
  if s = [] then .ok []
  else if '*' ∈ s then
    match convertGlob s with
    | .error e => .error e
    | .ok none => .ok []
    | .ok (some m) => .ok [.field attr m]
  else .ok [.field attr (.exact s)]

/-- lines 92–118: strip, refuse `!`, split off `::repo` and `:slot/subslot` -/
def prep {A : Type} (s : Str) : Except Err (Prep A) :=
  let orig := strip s
  if '!' ∈ orig then .error .parse
  else
    let (text, r0) : Str × List (R A) := match rsplit2 orig with
      | some (t, repo) => (t, [.repo repo])
      | none => (orig, [])
    match rsplit1 ':' text with
    | none => .ok ⟨orig, text, r0, false⟩
    | some (t, slotTxt) =>
      let (slot, subslot) := partition1 '/' slotTxt
      match slotRestr (A := A) .slot slot with
      | .error e => .error e
      | .ok r1 =>
        match slotRestr (A := A) .subslot subslot with
        | .error e => .error e
        | .ok r2 => .ok ⟨orig, t, r0 ++ r1 ++ r2, decide ('*' ∈ slotTxt)⟩

/-- `if len(restrictions) == 1: return restrictions[0]; return AndRestriction(*restrictions)` -/
def mkAnd {A : Type} (rs : List (R A)) : R A :=
  match rs with
  | [r] => r
  | rs => .and rs

/-- the `len(tsplit) == 1` branch -/
def noCategory {A : Type} (env : AtomEnv A) (p : Prep A) : Except Err (R A) :=
  let (ops, text) := collectOps p.text
  if ops = [] ∧ '*' ∈ text then
    match convertGlob text with
    | .error e => .error e
    | .ok (some m) => .ok (mkAnd (p.restrictions ++ [.field .package m]))
    | .ok none => .ok (mkAnd (p.restrictions ++ [.always]))
  else if ops ≠ [] ∧ text.head? = some '*' then .error .parse
  else
    match env.parse (ops ++ "category/".toList ++ text) with
    | none => .error .parse
    | some a => .ok (.and (p.restrictions ++ [.atomNoCat a]))

/-- the code after the atom branch: `r = list(map(convert_glob, tsplit))` … -/
def generic {A : Type} (p : Prep A) (cat pkg : Str) : Except Err (R A) :=
  match convertGlob cat, convertGlob pkg with
  | .error e, _ => .error e
  | _, .error e => .error e
  | .ok none, .ok none => .ok (mkAnd (p.restrictions ++ [.always]))
  | .ok none, .ok (some m) => .ok (mkAnd (p.restrictions ++ [.field .package m]))
  | .ok (some c), .ok none => .ok (mkAnd (p.restrictions ++ [.field .category c]))
  | .ok (some c), .ok (some m) => .ok (mkAnd (p.restrictions ++ [.field .category c, .field .package m]))

/-- the first half of `parse_globbed_version`: operator, version, remaining chunk -/
def globbedSplit (text : Str) : Except Err (Str × Ver × Str) :=
  match longestOp text with
  | none => .error .parse              -- unreachable: `max()` of an empty sequence
  | some (op, rest) =>
    match rsplit1 '-' rest with
    | none => .error .parse            -- missing valid package version
    | some (chunk, vtxt) =>
      match lexVer vtxt with
      | none => .error .parse          -- invalid / globbed version
      | some v => .ok (op, v, chunk)

theorem rsplit1_length {c : Char} {s a b : Str} (h : rsplit1 c s = some (a, b)) : a.length < s.length := by
  induction s generalizing a with
  | nil => cases h
  | cons x xs ih =>
    rw [rsplit1] at h
    split at h
    next a' b' hr => cases h; exact Nat.succ_lt_succ (ih hr)
    next =>
      split at h
      · cases h; exact Nat.zero_lt_succ _
      · cases h

theorem rsplit2_length {s a b : Str} (h : rsplit2 s = some (a, b)) : a.length < s.length := by
  induction s generalizing a with
  | nil => cases h
  | cons x xs ih =>
    rw [rsplit2] at h
    split at h
    next a' b' hr => cases h; exact Nat.succ_lt_succ (ih hr)
    next =>
      obtain ⟨r, -, hr⟩ := Option.map_eq_some_iff.1 h
      cases hr; exact Nat.zero_lt_succ _

theorem strip_length (s : Str) : (strip s).length ≤ s.length := by
  unfold strip
  rw [List.length_reverse]
  have h1 := (List.dropWhile_sublist isWs (l := (s.dropWhile isWs).reverse)).length_le
  have h2 := (List.dropWhile_sublist isWs (l := s)).length_le
  rw [List.length_reverse] at h1
  omega

theorem longestOp_length {s op rest : Str} (h : longestOp s = some (op, rest)) : rest.length < s.length := by
  unfold longestOp at h
  split at h <;> cases h <;> simp <;> omega

/-- the slot part of `prep`, a copy of the model text after the repository part is split off; `prep_eq` says so -/
def prepSlot {A : Type} (orig text : Str) (r0 : List (R A)) : Except Err (Prep A) :=
  match rsplit1 ':' text with
  | none => .ok ⟨orig, text, r0, false⟩
  | some (t, slotTxt) =>
    let (slot, subslot) := partition1 '/' slotTxt
    match slotRestr (A := A) .slot slot with
    | .error e => .error e
    | .ok r1 =>
      match slotRestr (A := A) .subslot subslot with
      | .error e => .error e
      | .ok r2 => .ok ⟨orig, t, r0 ++ r1 ++ r2, decide ('*' ∈ slotTxt)⟩

theorem prep_eq {A : Type} (s : Str) : prep (A := A) s =
    if '!' ∈ strip s then .error .parse
    else match rsplit2 (strip s) with
      | some (t, repo) => prepSlot (strip s) t [.repo repo]
      | none => prepSlot (strip s) (strip s) [] := by
  unfold prep prepSlot
  dsimp only
  by_cases h : '!' ∈ strip s
  · rw [if_pos h, if_pos h]
  · rw [if_neg h, if_neg h]
    cases rsplit2 (strip s) <;> rfl

theorem prepSlot_ok {A : Type} {orig text : Str} {r0 : List (R A)} {p : Prep A} (h : prepSlot orig text r0 = .ok p) :
    p.orig = orig ∧ p.text.length ≤ text.length := by
  unfold prepSlot at h
  split at h
  · cases h; exact ⟨rfl, Nat.le_refl _⟩
  next h1 =>
    split at h
    split at h
    · cases h
    · split at h
      · cases h
      · cases h; exact ⟨rfl, Nat.le_of_lt (rsplit1_length h1)⟩

theorem prep_ok {A : Type} {s : Str} {p : Prep A} (h : prep s = .ok p) :
    p.orig = strip s ∧ p.text.length ≤ (strip s).length := by
  rw [prep_eq] at h
  split at h
  · cases h
  · split at h
    next h2 => exact ⟨(prepSlot_ok h).1, Nat.le_trans (prepSlot_ok h).2 (Nat.le_of_lt (rsplit2_length h2))⟩
    · exact prepSlot_ok h

theorem prep_length {A : Type} {s : Str} {p : Prep A} (h : prep s = .ok p) : p.text.length ≤ s.length :=
  Nat.le_trans (prep_ok h).2 (strip_length s)

theorem globbedSplit_length {text op chunk : Str} {v : Ver} (h : globbedSplit text = .ok (op, v, chunk)) :
    chunk.length < text.length := by
  unfold globbedSplit at h
  split at h
  · cases h
  next op' rest h1 =>
    split at h
    · cases h
    next c vt h2 =>
      split at h
      · cases h
      · cases h; exact Nat.lt_trans (rsplit1_length h2) (longestOp_length h1)

/-- `prep` together with the fact that makes the recursion of `parseMatch` terminate -/
def prepL {A : Type} (s : Str) : Except Err {p : Prep A // p.text.length ≤ s.length} :=
  match h : prep (A := A) s with
  | .ok p => .ok ⟨p, prep_length h⟩
  | .error e => .error e

def globbedSplitL (text : Str) : Except Err {r : Str × Ver × Str // r.2.2.length < text.length} :=
  match h : globbedSplit text with
  | .ok (op, v, chunk) => .ok ⟨(op, v, chunk), globbedSplit_length h⟩
  | .error e => .error e

/-- `parse_match(text)` -/
def parseMatch {A : Type} (env : AtomEnv A) (s : Str) : Except Err (R A) :=
  match prepL (A := A) s with
  | .error e => .error e
  | .ok ⟨p, _hp⟩ =>
    match rsplit1 '/' p.text with
    | none => noCategory env p
    | some (cat, pkg) =>
      if (p.text.head?.map isOpChar).getD false ∨ '*' ∉ p.text then
        -- possibly a valid atom object
        match env.parse p.orig with
        | some a => .ok (.atom a)
        | none =>
          if '*' ∈ p.text then
            -- support globbed targets with version restrictions
            match globbedSplitL p.text with
            | .error e => .error e
            | .ok ⟨(op, v, chunk), _hg⟩ =>
              match parseMatch env chunk with
              | .error e => .error e
              | .ok inner => .ok (.and (p.restrictions ++ [.version op v, inner]))
          else if !p.globbedSlot then .error .parse
          else
            -- slot globs are no atom syntax, what is left of the text can still be an atom
            match env.parse p.text with
            | some a => .ok (.and (p.restrictions ++ [.atom a]))
            | none => .error .parse
      else generic p cat pkg
termination_by s.length
decreasing_by
  simp only at _hg
  omega

end Pkgcore.C44
