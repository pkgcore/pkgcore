import Pkgcore.Proofs.C15
/-!
# C15 — successful resolutions are dependency-closed and slot-consistent

The search of `merge_plan` is not modelled; every plan the real resolver reports is
decided by the checker `planOk` (run by the harness through the compiled driver), and the theorems below say
what an accepted plan is guaranteed to be.  `Good` (`Spec/C15.lean`) is the property's own statement.
The last section proves the part of the guarantee that already follows from the planner's state layer
(model of C17) for *every* history of unforced planner operations and rollbacks that runs through.
-/
namespace Pkgcore.C15

/-- **Soundness of the certificate checker**: a plan accepted by `planOk` satisfies the property — every
target matched by a present package, every clause of all five dependency classes of every merged package
has a satisfied alternative, at most one present package per key and slot, no present package matched by a
mandatory blocker of another merged package.  No bound on the repository, the targets or the plan. -/
theorem planOk_sound (U : List Pkg) (targets : List Atom) (plan : List Op)
    (h : planOk U targets plan = true) : Good U targets plan :=
  ((planOk_iff U targets plan).mp h).2.2

/-- **Completeness on well-formed plans**: the checker rejects a plan it can walk only if the plan is not `Good`
(so a rejection is never an artefact of the checker) -/
theorem planOk_complete (U : List Pkg) (targets : List Atom) (plan : List Op) (hU : idsOk U = true)
    (st : List Pkg × List Pkg) (hr : runPlan U (U.filter (·.livefs), []) plan = some st)
    (g : Good U targets plan) : planOk U targets plan = true :=
  (planOk_iff U targets plan).mpr ⟨hU, by rw [hr]; rfl, g⟩

/-! a non-trivial accepted plan: upgrade of an installed package whose new version needs a further package
through an any-of clause, with a blocker on an old version of that package, and a rejected variant -/

def v (n : Nat) : Pkgcore.C01.Ver := ⟨[(toString n).toList], none, []⟩
def exU : List Pkg :=
  [ ⟨0, 0, v 1, some [], 0, true, [[], [], [], [], []]⟩,                                        -- installed a-1
    ⟨1, 0, v 2, some [], 0, false,
      [[], [], [[⟨false, 1, some (">=", v 2, some []), none⟩, ⟨false, 2, none, none⟩],           -- RDEPEND || ( >=b-2 c )
                [⟨true, 1, some ("<", v 2, some []), none⟩]], [], []]⟩,                             --         !<b-2
    ⟨2, 1, v 1, some [], 0, false, [[], [], [], [], []]⟩,                                         -- b-1
    ⟨3, 1, v 2, some [], 0, false, [[], [], [], [], []]⟩ ]                                        -- b-2

example : planOk exU [⟨false, 0, none, none⟩] [.add 0, .replace 0 1, .add 3] = true := by decide +kernel
example : planOk exU [⟨false, 0, none, none⟩] [.add 0, .replace 0 1, .add 2] = false := by decide +kernel
example : planOk exU [⟨false, 0, none, none⟩] [.replace 0 1, .add 3, .add 2] = false := by decide +kernel

/-- **The reorder strategy only reorders**: what `default_depset_reorder_strategy` hands to the search for a
clause is a permutation of the clause's alternatives — none dropped, none invented, whatever is already
provided and whichever alternatives are blockers. -/
theorem reorder_perm {α : Type} (blocks pref : α → Bool) (cl : List α) :
    (reorderClause blocks pref cl).Perm cl := by
  unfold reorderClause
  split
  · exact .refl _
  · simp only
    split
    · exact .refl _
    · exact List.filter_append_perm _ _

/-- hence a clause is satisfied by a package set exactly when the reordered clause is, and a non-empty clause
never reaches the search empty (an empty clause would be read as "nothing failed") -/
theorem reorder_keeps_clause (F : List Pkg) (p : Pkg) (blocks pref : Atom → Bool) (cl : List Atom) :
    clauseOk F p (reorderClause blocks pref cl) = clauseOk F p cl ∧
    (cl ≠ [] → reorderClause blocks pref cl ≠ []) := by
  have hp := reorder_perm blocks pref cl
  refine ⟨?_, ?_⟩
  · rw [Bool.eq_iff_iff]
    simp only [clauseOk, List.any_eq_true]
    exact ⟨fun ⟨a, ha, h⟩ => ⟨a, hp.mem_iff.mp ha, h⟩, fun ⟨a, ha, h⟩ => ⟨a, hp.mem_iff.mpr ha, h⟩⟩
  · intro hne h
    rw [h] at hp
    exact hne hp.symm.eq_nil

/-- three alternatives, the second one already provided, the third a blocker that is "provided" too -/
example : reorderClause (fun a : Nat => a == 3) (fun a => a != 1) [1, 2, 3] = [2, 1, 3] := by decide +kernel
example : reorderClause (fun _ : Nat => false) (fun _ => false) [1, 2, 3] = [1, 2, 3] := by decide +kernel

/-! `SlotUnique`, `UnforcedCmd`, `UnforcedStep` are defined in the second half of `Proofs/C15.lean`. -/

open Pkgcore.C17 in
/-- **An unforced insertion never lands on a limiter**: if an active limiter (blocker) matches the package,
`add_op(force=False)` returns the conflict and leaves the planner exactly as it was. -/
theorem limiter_refuses_blocked (U : Univ) (s s' : State) (c p b : Nat) (out : List Conf)
    (hb : b ∈ s.limiters) (hm : limits U p b = true) (h : applyCmd U s (.add c p false) = some (s', out)) :
    s' = s ∧ Conf.blk b ∈ out := by
  have hmem : Conf.blk b ∈ conflicts U s p :=
    List.mem_append_left _ (List.mem_map_of_mem (List.mem_filter.mpr ⟨hb, hm⟩))
  have hr : refused U s p false = true := by
    cases hc : conflicts U s p with
    | nil => rw [hc] at hmem; cases hmem
    | cons _ _ => simp [refused, hc]
  rw [applyCmd_add, hr] at h
  obtain ⟨rfl, rfl⟩ := Prod.mk.inj (Option.some.inj h)
  exact ⟨rfl, hmem⟩

open Pkgcore.C17 in
/-- **Without forced operations the planner never holds two packages in one slot**: for every history of
planner operations and rollbacks in which no `add_op`/`replace_op` is forced, the reached state has at most one
slotted package per key and slot (the resolver forces only the loading of installed packages). -/
theorem unforced_slot_unique (U : Univ) (h : List Step) (r : Run) (hr : exec U Run.init h = .ok r)
    (hu : ∀ st ∈ h, UnforcedStep st) : SlotUnique U r.st :=
  ((exec_stable (stable_slotUnique U) (fun _ _ hp => nomatch hp) fun _ hc => hu _ hc).1 r hr).2.1

open Pkgcore.C17 in
example : ∃ U h r, exec U Run.init h = .ok r ∧ (∀ st ∈ h, UnforcedStep st) ∧ r.st.slots = [1, 2] :=
  ⟨⟨fun p => p % 2, fun _ => 0, fun _ => 0, fun _ _ => false⟩,
   [.op (.add 0 1 false), .op (.add 0 3 false), .op (.add 0 2 false), .rollback 1, .op (.add 0 2 false)], _, rfl,
   by
     intro st hst
     simp at hst
     rcases hst with rfl | rfl | rfl | rfl | rfl <;> simp [UnforcedStep, UnforcedCmd],
   by decide⟩

end Pkgcore.C15
