import Pkgcore.Proofs.C28
/-!
# C28 — Manifest generation is deterministic, idempotent, parseable and atomic

The property theorems (and `read_after_update`, which two of them share), the two counterexamples and test vectors.
`manifestText` mirrors the assembly in `Manifest.update` (scan loop, buckets, ordering, `_manifest_line`),
`parseManifest` mirrors `parse_manifest`, `updateOps` the file operations of `update` after the `fix:` commit
(`Model/C28.lean`); `Spec.expected` says component-wise what a Manifest covers (`Spec/C28.lean`).
-/
namespace Pkgcore.C28
open Pkgcore.C24 Pkgcore.C28.Spec

/-- **parse ∘ generate**: the generated text parses back to exactly the sizes and checksums of the
files and distfiles it covers (as dicts: up to order), for every listing/distfile set of the domain, thick
and thin. -/
theorem manifest_parse_render (thin : Bool) (scan : List ScanObj) (fetch : List Fetchable) (hd : Dom scan fetch) :
    ∃ text r, manifestText thin scan fetch = some text ∧ parseManifest text = some r ∧
      r.dist.Perm (expected thin scan fetch).dist ∧ r.aux.Perm (expected thin scan fetch).aux ∧
      r.ebuild.Perm (expected thin scan fetch).ebuild ∧ r.misc.Perm (expected thin scan fetch).misc := by
  obtain ⟨text, r, ht, hp, h⟩ := parse_render_buckets thin scan fetch hd
  exact ⟨text, r, ht, hp, h .dist, h .aux, h .ebuild, h .misc⟩

/-- **order independence**: the text does not depend on the order of the directory listing nor on the
order of the fetchables. -/
theorem manifest_order_independent (thin : Bool) (scan scan' : List ScanObj) (fetch fetch' : List Fetchable)
    (hd : Dom scan fetch) (hs : scan'.Perm scan) (hf : fetch'.Perm fetch) :
    manifestText thin scan' fetch' = manifestText thin scan fetch := by
  have hp' : (scan'.map (·.path)).Nodup := (hs.map (·.path)).nodup_iff.mpr hd.paths
  have hfn : (fetch'.map (·.filename)).Nodup := by
    have h := (hf.map fun f => baseName f.filename).nodup_iff.mpr hd.dist
    rw [show (fetch'.map fun f => baseName f.filename) = (fetch'.map (·.filename)).map baseName by
      simp [List.map_map]] at h
    exact Lib.nodup_of_nodup_map h
  have hsort : sortBy (·.filename) fetch' = sortBy (·.filename) fetch := sortBy_eq_of_perm _ _ _ hf hfn
  have hb : ∀ t, sortBy (·.1) (scan'.filterMap (pick t)) = sortBy (·.1) (scan.filterMap (pick t)) := fun t =>
    sortBy_eq_of_perm _ _ _ (hs.filterMap _) (picked_names_nodup t scan' hp')
  have hi : itemsOf thin scan' fetch' = itemsOf thin scan fetch := funext fun t => by
    cases t <;> simp only [itemsOf, hsort, hb]
  rw [manifestText_lines thin scan' fetch' (fun o ho => hd.layout o (hs.mem_iff.mp ho)) hp',
    manifestText_lines thin scan fetch hd.layout hd.paths, hi]

/-- **atomic write**: whenever `update` writes, at every crash point the Manifest is the complete old
file or the complete new one, no other file is touched, and afterwards it is the new one. -/
theorem manifest_write_atomic (thin nofetch : Bool) (fs : Fs) (dir text : Str) (chunks : List Str)
    (hc : chunks.flatten = text) (k : Nat) :
    let target := targetName dir (tag "Manifest")
    let ops := updateOps thin nofetch (fs.read target) text dir chunks
    ((run (ops.take k) fs).read target = fs.read target ∨ (run (ops.take k) fs).read target = some text) ∧
    (∀ q, q ≠ tmpName dir (tag "Manifest") → q ≠ target → (run (ops.take k) fs).read q = fs.read q) ∧
    (ops ≠ [] → (run ops fs).read target = some text ∧ (run ops fs).read (tmpName dir (tag "Manifest")) = none) := by
  intro target ops
  have hnil : ∀ l : List FsOp, l = [] → ((run (l.take k) fs).read target = fs.read target ∨
      (run (l.take k) fs).read target = some text) ∧
      (∀ q, q ≠ tmpName dir (tag "Manifest") → q ≠ target → (run (l.take k) fs).read q = fs.read q) ∧
      (l ≠ [] → (run l fs).read target = some text ∧ (run l fs).read (tmpName dir (tag "Manifest")) = none) :=
    fun l hl => by subst hl; exact ⟨Or.inl (by simp [run]), fun _ _ _ => by simp [run], fun h => absurd rfl h⟩
  show (_ ∧ _ ∧ _)
  by_cases h1 : (thin && nofetch) = true
  · exact hnil ops (by simp [ops, updateOps, h1])
  · by_cases h2 : fs.read target = some text
    · exact hnil ops (by simp [ops, updateOps, h2])
    · have hops : ops = writeOps dir chunks := by simp [ops, updateOps, h1, h2]
      have h := fill_rename (writeOps_eq dir chunks) (tmp_ne_target dir (tag "Manifest")) rfl rfl rfl fs
      rw [hops, ← hc]
      exact ⟨h.oldOrNew k, h.frame k, fun _ => ⟨h.final, h.gone⟩⟩

/-- unless it is the thin no-distfiles no-op, `update` leaves the text in the Manifest -/
theorem read_after_update (thin nofetch : Bool) (fs : Fs) (dir text : Str) (chunks : List Str)
    (hc : chunks.flatten = text) (h : (thin && nofetch) = false) :
    (run (updateOps thin nofetch (fs.read (targetName dir (tag "Manifest"))) text dir chunks) fs).read
      (targetName dir (tag "Manifest")) = some text := by
  by_cases h2 : fs.read (targetName dir (tag "Manifest")) = some text
  · simpa [updateOps, h2, run] using h2
  · exact ((manifest_write_atomic thin nofetch fs dir text chunks hc 0).2.2 (by simp [updateOps, h, h2, writeOps])).1

/-- **a failing write keeps the old Manifest**: if the write is aborted by an error or an exception after any
amount of text reached the temp file, the Manifest and every other file are unchanged at every step of the
clean-up, and the temp file is removed. -/
theorem manifest_failed_write_keeps_old (fs : Fs) (dir : Str) (written : List Str) (k : Nat) :
    (∀ q, q ≠ tmpName dir (tag "Manifest") → (run ((abortWriteOps dir written).take k) fs).read q = fs.read q) ∧
    (run (abortWriteOps dir written) fs).read (tmpName dir (tag "Manifest")) = none := by
  have h := fill_unlink (abortWriteOps_eq dir written) rfl rfl rfl fs
  exact ⟨h.1 k, h.2⟩

/-- **idempotence**: after a completed `update`, regenerating from the same package (listing and
fetchables in any order) performs no file operation at all. -/
theorem manifest_idempotent (thin : Bool) (scan scan' : List ScanObj) (fetch fetch' : List Fetchable)
    (hd : Dom scan fetch) (hs : scan'.Perm scan) (hf : fetch'.Perm fetch)
    (fs : Fs) (dir text text' : Str) (chunks chunks' : List Str) (hc : chunks.flatten = text)
    (ht : manifestText thin scan fetch = some text) (ht' : manifestText thin scan' fetch' = some text') :
    let target := targetName dir (tag "Manifest")
    let fs' := run (updateOps thin fetch.isEmpty (fs.read target) text dir chunks) fs
    updateOps thin fetch'.isEmpty (fs'.read target) text' dir chunks' = [] := by
  intro target fs'
  have hte : text' = text := by
    have := manifest_order_independent thin scan scan' fetch fetch' hd hs hf
    rw [ht, ht'] at this
    exact Option.some.inj this
  subst hte
  have hemp : fetch'.isEmpty = fetch.isEmpty := by
    have := hf.length_eq
    cases fetch <;> cases fetch' <;> simp_all
  by_cases h1 : (thin && fetch.isEmpty) = true
  · simp [updateOps, hemp, h1]
  · simp [updateOps, show fs'.read target = some text' from
      read_after_update thin _ fs dir text' chunks hc (by simpa using h1)]

/-- **regeneration describes the package as it is now**: whatever Manifest was there to begin with and
whatever states the package went through before (files replaced by others of the same size, entries added
or dropped, …), after regenerating for the current state the Manifest is exactly the text of the current
state, and it parses back to exactly the current files' sizes and checksums: no entry of an earlier state
survives. -/
theorem manifest_regen_describes_current (thin : Bool) (dir : Str) (fs : Fs)
    (hist : List (List ScanObj × List Fetchable)) (scan : List ScanObj) (fetch : List Fetchable)
    (hd : Dom scan fetch) (hne : thin = false ∨ fetch ≠ []) :
    ∃ text r, manifestText thin scan fetch = some text ∧
      (regen thin dir fs (hist ++ [(scan, fetch)])).read (targetName dir (tag "Manifest")) = some text ∧
      parseManifest text = some r ∧
      r.dist.Perm (expected thin scan fetch).dist ∧ r.aux.Perm (expected thin scan fetch).aux ∧
      r.ebuild.Perm (expected thin scan fetch).ebuild ∧ r.misc.Perm (expected thin scan fetch).misc := by
  obtain ⟨text, r, ht, hp, h1, h2, h3, h4⟩ := manifest_parse_render thin scan fetch hd
  refine ⟨text, r, ht, ?_, hp, h1, h2, h3, h4⟩
  have hn : (thin && fetch.isEmpty) = false := by
    rcases hne with h | h
    · simp [h]
    · cases fetch <;> simp_all
  simp only [regen, List.foldl_append, List.foldl_cons, List.foldl_nil, regenStep, ht]
  exact read_after_update thin _ _ dir text [text] (by simp) hn

/-- **no dependence on the past**: two package directories that are in the same state now carry the same
Manifest after regeneration, whatever their earlier states and earlier Manifests were -/
theorem manifest_regen_history_independent (thin : Bool) (dir : Str) (fs fs' : Fs)
    (hist hist' : List (List ScanObj × List Fetchable)) (scan : List ScanObj) (fetch : List Fetchable)
    (hd : Dom scan fetch) (hne : thin = false ∨ fetch ≠ []) :
    (regen thin dir fs (hist ++ [(scan, fetch)])).read (targetName dir (tag "Manifest")) =
      (regen thin dir fs' (hist' ++ [(scan, fetch)])).read (targetName dir (tag "Manifest")) := by
  obtain ⟨t, _, ht, h, _⟩ := manifest_regen_describes_current thin dir fs hist scan fetch hd hne
  obtain ⟨t', _, ht', h', _⟩ := manifest_regen_describes_current thin dir fs' hist' scan fetch hd hne
  rw [h, h', Option.some.inj (ht.symm.trans ht')]

/-- the write as it was before the fix (`open(path, "w")`; `write`) is not atomic: after its first
operation the Manifest is empty — neither the old nor the new file -/
theorem manifest_inplace_write_counterexample :
    ∃ (fs : Fs) (dir : Str) (chunks : List Str) (k : Nat),
      (run ((inplaceOps dir chunks).take k) fs).read (targetName dir (tag "Manifest")) ≠ fs.read (targetName dir (tag "Manifest")) ∧
      (run ((inplaceOps dir chunks).take k) fs).read (targetName dir (tag "Manifest")) ≠ some chunks.flatten :=
  ⟨[("/p/Manifest".toList, "DIST old 1\n".toList)], "/p".toList, ["DIST new 2\n".toList], 1,
    by decide +kernel, by decide +kernel⟩

/-- a file name containing white space cannot be represented: the generated Manifest does not parse
(recorded as an open finding; `Dom.names` excludes it) -/
theorem manifest_whitespace_name_counterexample :
    ∃ scan text, manifestText false scan [] = some text ∧ parseManifest text = none ∧
      scan = [⟨"/files/my patch".toList, true, ⟨1, []⟩⟩] :=
  ⟨_, "AUX my patch 1\n".toList, by decide +kernel, by decide +kernel, rfl⟩

def exampleScan : List ScanObj :=
  [⟨"/p-1.ebuild".toList, true, ⟨7, [("md5".toList, 5)]⟩⟩,
   ⟨"/files".toList, false, ⟨0, []⟩⟩,
   ⟨"/files/s/b".toList, true, ⟨0, []⟩⟩,
   ⟨"/Manifest".toList, true, ⟨3, []⟩⟩,
   ⟨"/m.xml".toList, true, ⟨4, []⟩⟩]

def exampleFetch : List Fetchable := [⟨"p.tgz".toList, ⟨10, []⟩⟩]

example : manifestText false exampleScan exampleFetch = some
    ("AUX s/b 0\nDIST p.tgz 10\nEBUILD p-1.ebuild 7 MD5 00000000000000000000000000000005\nMISC m.xml 4\n").toList := by
  -- the kernel's `toList` on a literal is quadratic in its length; `toList_ofList` reads the characters off
  rw [String.toList_ofList]
  decide +kernel

/-- a history in which a covered file is replaced by other content of the same size: the stale checksum is gone -/
example : (regen false "/p".toList [("/p/Manifest".toList, "EBUILD p-1.ebuild 7 MD5 00000000000000000000000000000004\n".toList)]
      [([⟨"/p-1.ebuild".toList, true, ⟨7, [("md5".toList, 4)]⟩⟩], []), ([⟨"/p-1.ebuild".toList, true, ⟨7, [("md5".toList, 5)]⟩⟩], [])]).read
        "/p/Manifest".toList = some "EBUILD p-1.ebuild 7 MD5 00000000000000000000000000000005\n".toList := by
  repeat rw [String.toList_ofList]
  decide +kernel

example : Dom exampleScan exampleFetch := by
  refine ⟨by decide +kernel, by decide +kernel, fun o ho _ t n hk => ?_, ?_, by decide +kernel, ?_⟩
  · have h : ∀ o ∈ exampleScan, ∀ x ∈ kindOf o.path, noSpace x.2 := by unfold noSpace; decide +kernel
    exact h o ho (t, n) hk
  · unfold goodSums; decide +kernel
  · unfold noSpace goodSums; decide +kernel

end Pkgcore.C28
