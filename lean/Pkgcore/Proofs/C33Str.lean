import Pkgcore.Spec.C33
import Pkgcore.Proofs.Lib
/-!
Strings and lexical paths.  `splitOn`/`joinWith` are core's `List.splitOn`/`List.intercalate [sep]`; `basename`,
`hasStem`, `splitext`, `rsplit1Head` at the last occurrence of the separator (`last_sep`), `pjoin` by `pjoin_cases`,
`toPath` through `splitOn_append_sep`.  Then `normpath` and the components of `relpath` against lexical resolution: on a
stack of `Ordinary` components `normpath`'s step is `resolve`'s (`foldl_normStep`), and `foldl_step_rel` is the way from
one stack to another.
-/
namespace Pkgcore.C33
open Pkgcore.C33.Spec

theorem splitOn_eq_core : @splitOn = @List.splitOn Char _ := by
  funext sep s
  induction s with
  | nil => rfl
  | cons c cs ih =>
    rw [splitOn, List.splitOn_cons_eq_if_modifyHead, ih]
    simp only [beq_iff_eq]
    split
    · rfl
    · cases h : cs.splitOn sep with
      | nil => exact absurd h (List.splitOn_ne_nil sep cs)
      | cons => rfl

theorem joinWith_eq_core : @joinWith = fun sep => [sep].intercalate := by
  funext sep l
  induction l with
  | nil => rfl
  | cons c cs ih => cases cs with
    | nil => exact List.intercalate_singleton.symm
    | cons d ds => simp only [joinWith, Lib.intercalate_cons_cons, ih]

theorem splitOn_ne_nil (sep : Char) (s : Str) : splitOn sep s ≠ [] := splitOn_eq_core ▸ List.splitOn_ne_nil sep s

theorem splitOn_cons_sep (sep : Char) (s : Str) : splitOn sep (sep :: s) = [] :: splitOn sep s :=
  splitOn_eq_core ▸ Lib.splitOn_cons_self sep s

theorem splitOn_cons_ne (sep : Char) {c : Char} (h : c ≠ sep) {s a : Str} {t : List Str}
    (hs : splitOn sep s = a :: t) : splitOn sep (c :: s) = (c :: a) :: t := by
  rw [splitOn_eq_core] at hs ⊢; exact Lib.splitOn_cons_ne sep h hs

theorem splitOn_append_sep (sep : Char) (a b : Str) :
    splitOn sep (a ++ sep :: b) = splitOn sep a ++ splitOn sep b := splitOn_eq_core ▸ List.splitOn_append_cons_self a b

theorem splitOn_replicate_sep (sep : Char) (k : Nat) (s : Str) :
    splitOn sep (List.replicate k sep ++ s) = List.replicate k [] ++ splitOn sep s := by
  induction k with
  | zero => simp
  | succ k ih => simp [List.replicate_succ, splitOn_cons_sep, ih]

theorem splitOn_of_not_mem (sep : Char) (s : Str) (h : sep ∉ s) : splitOn sep s = [s] :=
  splitOn_eq_core ▸ List.splitOn_eq_singleton h

theorem not_mem_of_mem_splitOn (sep : Char) (s : Str) : ∀ c ∈ splitOn sep s, sep ∉ c :=
  splitOn_eq_core ▸ fun _ h => Lib.not_mem_of_mem_splitOn sep h

theorem splitOn_joinWith (sep : Char) (cs : List Str) (hne : cs ≠ []) (h : ∀ c ∈ cs, sep ∉ c) :
    splitOn sep (joinWith sep cs) = cs := splitOn_eq_core ▸ joinWith_eq_core ▸ List.splitOn_intercalate sep h hne

theorem joinWith_splitOn (sep : Char) (s : Str) : joinWith sep (splitOn sep s) = s :=
  splitOn_eq_core ▸ joinWith_eq_core ▸ List.intercalate_splitOn sep

theorem mem_joinWith (sep : Char) (l : List Str) : ∀ x ∈ joinWith sep l, x = sep ∨ ∃ c ∈ l, x ∈ c :=
  joinWith_eq_core ▸ fun _ h => Lib.mem_intercalate sep h

theorem mem_joinWith_of_mem (sep : Char) {x : Char} {c : Str} {l : List Str} (hc : c ∈ l) (hx : x ∈ c) :
    x ∈ joinWith sep l := by
  induction l with
  | nil => nomatch hc
  | cons d l ih =>
    cases l with
    | nil => exact List.mem_singleton.1 hc ▸ hx
    | cons e l =>
      simp only [joinWith]
      rcases List.mem_cons.1 hc with rfl | hc
      · exact List.mem_append_left _ hx
      · exact List.mem_append_right _ (List.mem_cons_of_mem _ (ih hc))

theorem mem_of_mem_splitOn (sep : Char) (s : Str) : ∀ c ∈ splitOn sep s, ∀ x ∈ c, x ∈ s :=
  fun _ hc _ hx => joinWith_splitOn sep s ▸ mem_joinWith_of_mem sep hc hx

/-- the case split of the string lemmas: `sep` does not occur (their `_of_not_mem` case) or has a last occurrence
(`_decomp`) -/
theorem last_sep (sep : Char) (s : Str) :
    sep ∉ s ∨ ∃ r e, s = r ++ sep :: e ∧ sep ∉ e :=
  (Decidable.em (sep ∈ s)).symm.imp_right Lib.eq_append_cons_of_mem_last

theorem ne_sep_of_not_mem {sep : Char} {s : Str} (h : sep ∉ s) : ∀ x ∈ s.reverse, decide (x ≠ sep) = true := by
  intro x hx
  simpa using fun (e : x = sep) => h (e ▸ List.mem_reverse.1 hx)

theorem reverse_decomp (sep : Char) (r e : Str) : (r ++ sep :: e).reverse = e.reverse ++ sep :: r.reverse := by simp

theorem rev_takeWhile_of_decomp (sep : Char) (r e : Str) (he : sep ∉ e) :
    ((r ++ sep :: e).reverse.takeWhile (· ≠ sep)).reverse = e := by
  rw [reverse_decomp, Lib.takeWhile_append_stop _ (ne_sep_of_not_mem he) (by simp), List.reverse_reverse]

theorem rev_dropWhile_of_decomp (sep : Char) (r e : Str) (he : sep ∉ e) :
    (r ++ sep :: e).reverse.dropWhile (· ≠ sep) = sep :: r.reverse := by
  rw [reverse_decomp, Lib.dropWhile_append_stop _ (ne_sep_of_not_mem he) (by simp)]

theorem rev_takeWhile_of_not_mem (sep : Char) (s : Str) (h : sep ∉ s) :
    (s.reverse.takeWhile (· ≠ sep)).reverse = s := by
  rw [Lib.takeWhile_all (ne_sep_of_not_mem h), List.reverse_reverse]

theorem rev_dropWhile_of_not_mem (sep : Char) (s : Str) (h : sep ∉ s) :
    s.reverse.dropWhile (· ≠ sep) = [] :=
  Lib.dropWhile_all (ne_sep_of_not_mem h)

theorem rsplit1Head_of_not_mem (sep : Char) (b : Str) (h : sep ∉ b) : rsplit1Head sep b = b := by
  unfold rsplit1Head
  rw [rev_dropWhile_of_not_mem sep b h]

theorem rsplit1Head_decomp (sep : Char) (r e : Str) (he : sep ∉ e) : rsplit1Head sep (r ++ sep :: e) = r := by
  unfold rsplit1Head
  rw [rev_dropWhile_of_decomp sep r e he]
  simp

theorem splitOn_decomp (sep : Char) (r e : Str) (he : sep ∉ e) :
    splitOn sep (r ++ sep :: e) = splitOn sep r ++ [e] := by
  rw [splitOn_append_sep, splitOn_of_not_mem sep e he]

theorem basename_eq_lastComp (p : Str) : basename p = lastComp p := by
  unfold basename lastComp
  rcases last_sep '/' p with h | ⟨r, e, rfl, he⟩
  · rw [rev_takeWhile_of_not_mem '/' p h, splitOn_of_not_mem '/' p h]; simp
  · rw [rev_takeWhile_of_decomp '/' r e he, splitOn_decomp '/' r e he]; simp

theorem lastComp_no_slash (p : Str) : '/' ∉ lastComp p := by
  unfold lastComp
  cases h : (splitOn '/' p).getLast? with
  | none => simp
  | some x =>
    simp only [Option.getD_some]
    exact not_mem_of_mem_splitOn '/' p x (List.mem_of_getLast? h)

theorem basename_no_slash (n : Str) (hn : '/' ∉ n) : basename n = n := by
  unfold basename; exact rev_takeWhile_of_not_mem '/' n hn

theorem isAbs_false_of_no_slash (n : Str) (hn : '/' ∉ n) : isAbs n = false := by
  unfold isAbs
  cases n with
  | nil => rfl
  | cons x xs =>
    have : x ≠ '/' := fun e => hn (by simp [e])
    simp [this]

theorem pjoin_cases (a b : Str) (hb : isAbs b = false) :
    (a = [] ∧ pjoin a b = b) ∨ ∃ a', (a = a' ∨ a = a' ++ ['/']) ∧ pjoin a b = a' ++ '/' :: b := by
  unfold pjoin
  rw [if_neg (by rw [hb]; exact Bool.false_ne_true)]
  by_cases h : a = [] ∨ a.getLast? = some '/'
  · rw [if_pos h]
    rcases h with rfl | h
    · exact .inl ⟨rfl, rfl⟩
    · obtain ⟨a', rfl⟩ := List.getLast?_eq_some_iff.1 h
      exact .inr ⟨a', .inr rfl, List.append_assoc ..⟩
  · rw [if_neg h]; exact .inr ⟨a, .inl rfl, rfl⟩

theorem basename_pjoin (a n : Str) (hn : '/' ∉ n) : basename (pjoin a n) = n := by
  rcases pjoin_cases a n (isAbs_false_of_no_slash n hn) with ⟨-, h⟩ | ⟨a', -, h⟩
  · rw [h]; exact basename_no_slash n hn
  · rw [h]; exact rev_takeWhile_of_decomp '/' a' n hn

theorem isAbs_pjoin_root (d : Str) : isAbs (pjoin ['/'] d) = true := by
  unfold pjoin
  split
  · assumption
  · simp [isAbs]

theorem any_parts_eq_not_all_dots (r : Str) :
    (splitOn '.' r).any (· ≠ []) = !(r.all (· = '.')) := by
  induction r with
  | nil => simp [splitOn]
  | cons c cs ih =>
    by_cases h : c = '.'
    · subst h
      rw [splitOn_cons_sep]
      simpa using ih
    · cases hs : splitOn '.' cs with
      | nil => exact absurd hs (splitOn_ne_nil '.' cs)
      | cons a t => rw [splitOn_cons_ne '.' h hs]; simp [h]

theorem hasStem_of_not_mem (b : Str) (h : '.' ∉ b) : hasStem (splitOn '.' b) = false := by
  rw [splitOn_of_not_mem '.' b h]; simp [hasStem]

theorem hasStem_decomp (r e : Str) (he : '.' ∉ e) :
    hasStem (splitOn '.' (r ++ '.' :: e)) = !(r.all (· = '.')) := by
  rw [splitOn_decomp '.' r e he]
  simp only [hasStem, List.dropLast_concat]
  exact any_parts_eq_not_all_dots r

theorem splitext_of_not_mem (b : Str) (h : '.' ∉ b) : splitext b = (b, []) := by
  unfold splitext
  rw [rev_dropWhile_of_not_mem '.' b h]

theorem splitext_decomp (r e : Str) (he : '.' ∉ e) :
    splitext (r ++ '.' :: e) = if r.all (· = '.') then (r ++ '.' :: e, []) else (r, '.' :: e) := by
  unfold splitext
  rw [rev_dropWhile_of_decomp '.' r e he, rev_takeWhile_of_decomp '.' r e he]
  simp only [List.all_reverse, List.reverse_reverse]

theorem splitext_eq (b : Str) :
    splitext b = if hasStem (splitOn '.' b)
      then (joinWith '.' (splitOn '.' b).dropLast, '.' :: (splitOn '.' b).getLast?.getD []) else (b, []) := by
  rcases last_sep '.' b with h | ⟨r, e, rfl, he⟩
  · rw [splitext_of_not_mem b h, hasStem_of_not_mem b h]; rfl
  · rw [splitext_decomp r e he, hasStem_decomp r e he, splitOn_decomp '.' r e he, List.dropLast_concat,
      List.getLast?_concat, joinWith_splitOn]
    cases r.all (· = '.') <;> rfl

theorem splitext_snd (b : Str) :
    (splitext b).2 = if hasStem (splitOn '.' b) then '.' :: ((splitOn '.' b).getLast?.getD []) else [] := by
  rw [splitext_eq]; cases hasStem (splitOn '.' b) <;> rfl

theorem splitext_fst (b : Str) : (splitext b).1 = stemOf b := by
  rw [splitext_eq, stemOf]; cases hasStem (splitOn '.' b) <;> rfl

theorem toPath_nil : toPath [] = [] := by simp [toPath, splitOn]

theorem toPath_append_sep (a b : Str) : toPath (a ++ '/' :: b) = toPath a ++ toPath b := by
  unfold toPath; rw [splitOn_append_sep, List.filter_append]

theorem toPath_no_slash (e : Str) (he : '/' ∉ e) (hne : e ≠ []) : toPath e = [e] := by
  unfold toPath; rw [splitOn_of_not_mem '/' e he]; simp [hne]

theorem toPath_snoc_slash (a : Str) : toPath (a ++ ['/']) = toPath a := by
  have : a ++ ['/'] = a ++ '/' :: [] := rfl
  rw [this, toPath_append_sep, toPath_nil, List.append_nil]

theorem toPath_pjoin (a b : Str) (hb : isAbs b = false) : toPath (pjoin a b) = toPath a ++ toPath b := by
  rcases pjoin_cases a b hb with ⟨rfl, h⟩ | ⟨a', ha, h⟩
  · rw [h, toPath_nil]; rfl
  · rw [h, toPath_append_sep]
    rcases ha with rfl | rfl
    · rfl
    · rw [toPath_snoc_slash]

theorem toPath_append_slashes (x t : Str) (h : ∀ y ∈ t, y = '/') : toPath (x ++ t) = toPath x := by
  induction t generalizing x with
  | nil => rw [List.append_nil]
  | cons y t ih =>
    rw [h y List.mem_cons_self, List.append_cons, ih _ fun z hz => h z (List.mem_cons_of_mem _ hz), toPath_snoc_slash]

theorem rstripSlash_spec (a : Str) :
    ∃ t, a = rstripSlash a ++ t ∧ (∀ y ∈ t, y = '/') ∧ (rstripSlash a).getLast? ≠ some '/' := by
  refine ⟨(a.reverse.takeWhile (· = '/')).reverse, ?_, ?_, ?_⟩
  · unfold rstripSlash
    rw [← List.reverse_append, List.takeWhile_append_dropWhile, List.reverse_reverse]
  · intro y hy
    simpa using List.all_eq_true.1 List.all_takeWhile y (List.mem_reverse.1 hy)
  · unfold rstripSlash
    rw [List.getLast?_reverse]
    intro h
    have := List.head?_dropWhile_not (· = '/') a.reverse
    rw [h] at this
    simp at this

theorem toPath_basename_eq_lastName (a : Str) : toPath (basename (rstripSlash a)) = lastName a := by
  -- the stripped slashes contribute no component; then split what is left at its last slash
  obtain ⟨t, hsplit, htw, hend⟩ := rstripSlash_spec a
  have hp : toPath a = toPath (rstripSlash a) := by
    conv => lhs; rw [hsplit]
    exact toPath_append_slashes _ _ htw
  unfold lastName
  rw [hp]
  generalize rstripSlash a = a' at hend
  rcases last_sep '/' a' with h | ⟨r, e, rfl, he⟩
  · rw [basename_no_slash a' h]
    by_cases hne : a' = []
    · subst hne; rfl
    · rw [toPath_no_slash a' h hne]; rfl
  · have hne : e ≠ [] := by intro h; subst h; simp at hend
    rw [basename, rev_takeWhile_of_decomp '/' r e he, toPath_append_sep, toPath_no_slash e he hne, List.getLast?_concat]
    rfl

theorem topDir_eq_dirName (a : Str) : topDir a = dirName a := by
  unfold topDir dirName
  simp only [toPath_basename_eq_lastName]

/-- a component that `resolve` keeps on its stack; slash-free for `splitOn_joinWith` -/
def Ordinary (c : Str) : Prop := c ≠ [] ∧ c ≠ ['.'] ∧ c ≠ ['.', '.'] ∧ '/' ∉ c

theorem step_ordinary (st : List Str) (c : Str) (hst : ∀ x ∈ st, Ordinary x) (hc : '/' ∉ c) :
    ∀ x ∈ step st c, Ordinary x := by
  unfold step
  split
  · exact hst
  · split
    · intro x hx; exact hst x (List.dropLast_subset _ hx)
    · rename_i h1 h2
      intro x hx
      simp only [List.mem_append, List.mem_singleton] at hx
      rcases hx with hx | rfl
      · exact hst x hx
      · simp only [not_or] at h1
        exact ⟨h1.1, h1.2, h2, hc⟩

theorem foldl_step_ords (cs st : List Str) (h : ∀ c ∈ cs, Ordinary c) : cs.foldl step st = st ++ cs := by
  induction cs generalizing st with
  | nil => simp
  | cons c cs ih =>
    have hc := h c (by simp)
    have : step st c = st ++ [c] := by
      unfold step
      simp [hc.1, hc.2.1, hc.2.2.1]
    simp only [List.foldl_cons, this]
    rw [ih _ (fun x hx => h x (by simp [hx]))]
    simp

theorem step_dotdot (st : List Str) : step st ['.', '.'] = st.dropLast := by
  unfold step
  rw [if_neg (by decide), if_pos rfl]

theorem foldl_step_dotdots (k : Nat) (a b : List Str) (hb : b.length = k) :
    (List.replicate k ['.', '.']).foldl step (a ++ b) = a := by
  induction k generalizing b with
  | zero => rw [List.length_eq_zero_iff.1 hb]; exact List.append_nil a
  | succ k ih =>
    have hne : b ≠ [] := fun h => Nat.succ_ne_zero k (h ▸ hb).symm
    rw [← List.dropLast_concat_getLast hne, List.replicate_succ, List.foldl_cons, step_dotdot, ← List.append_assoc,
      List.dropLast_concat]
    exact ih _ (by rw [List.length_dropLast, hb]; rfl)

theorem normStep_eq_step (st : List Str) (c : Str) (hst : ∀ x ∈ st, x ≠ ['.', '.']) :
    normStep true st c = step st c := by
  unfold normStep step
  by_cases h1 : c = [] ∨ c = ['.']
  · simp [h1]
  · simp only [h1, if_false]
    by_cases h2 : c = ['.', '.']
    · have : ¬ (st ≠ [] ∧ st.getLast? = some ['.', '.']) := by
        rintro ⟨_, hl⟩
        exact hst _ (List.mem_of_getLast? hl) rfl
      simp [h2, this]
    · simp [h2]

/-- `normpath`'s step pushes a `..` that finds `..` on top of the stack, `resolve`'s pops whatever is there; on a stack
of `Ordinary` components the two agree, and the stack stays so: one induction for both -/
theorem foldl_normStep (cs st : List Str) (hst : ∀ x ∈ st, Ordinary x) (hcs : ∀ c ∈ cs, '/' ∉ c) :
    cs.foldl (normStep true) st = cs.foldl step st ∧ ∀ x ∈ cs.foldl step st, Ordinary x := by
  induction cs generalizing st with
  | nil => exact ⟨rfl, hst⟩
  | cons c cs ih =>
    rw [List.foldl_cons, List.foldl_cons, normStep_eq_step st c fun x hx => (hst x hx).2.2.1]
    exact ih _ (step_ordinary st c hst (hcs c List.mem_cons_self)) fun x hx => hcs x (List.mem_cons_of_mem _ hx)

theorem resolve_ordinary (p : Str) : ∀ x ∈ resolve p, Ordinary x :=
  (foldl_normStep _ [] (fun _ h => nomatch h) (not_mem_of_mem_splitOn '/' p)).2

theorem resolve_append_sep (a b : Str) :
    resolve (a ++ '/' :: b) = (splitOn '/' b).foldl step (resolve a) := by
  unfold resolve
  rw [splitOn_append_sep, List.foldl_append]

theorem comps_normpath (p : Str) (hp : isAbs p = true) :
    (splitOn '/' (normpath p)).filter (· ≠ []) = resolve p := by
  -- `normpath p` is `k` ≥ 1 slashes before the `/`-joined stack of its fold; the fold is `resolve p`
  -- (`foldl_normStep`), the slashes split into empty parts, which the filter drops, and the joined stack into itself
  have hne : p ≠ [] := by intro h; simp [h, isAbs] at hp
  unfold normpath
  simp only [hne, if_false, hp, if_true]
  generalize hk : (if p.take 2 = ['/', '/'] ∧ p.take 3 ≠ ['/', '/', '/'] then 2 else 1 : Nat) = k
  have hkpos : k > 0 := by rw [← hk]; split <;> omega
  have hfold : (splitOn '/' p).foldl (normStep (decide (k > 0))) [] = resolve p := by
    simp only [hkpos, decide_true]
    exact (foldl_normStep _ [] (fun _ h => nomatch h) (not_mem_of_mem_splitOn '/' p)).1
  simp only [hfold]
  have hout : List.replicate k '/' ++ joinWith '/' (resolve p) ≠ [] := by
    cases k with
    | zero => omega
    | succ k => simp [List.replicate_succ]
  simp only [hout, if_false]
  rw [splitOn_replicate_sep, List.filter_append, List.filter_replicate, if_neg (by simp), List.nil_append]
  by_cases hr : resolve p = []
  · simp [hr, joinWith, splitOn]
  · rw [splitOn_joinWith '/' _ hr (fun c hc => (resolve_ordinary p c hc).2.2.2)]
    exact List.filter_eq_self.2 fun c hc => by simpa using (resolve_ordinary p c hc).1

theorem take_commonLen (a b : List Str) : a.take (commonLen a b) = b.take (commonLen a b) := by
  induction a generalizing b with
  | nil => simp [commonLen]
  | cons x xs ih =>
    cases b with
    | nil => simp [commonLen]
    | cons y ys =>
      simp only [commonLen]
      split
      · rename_i h; subst h; simp [ih ys]
      · simp

/-- from `S` up to the common prefix, then down along `P`: what the components of `relpath` do to the stack -/
theorem foldl_step_rel (S P : List Str) (i : Nat) (h : S.take i = P.take i) (hP : ∀ x ∈ P, Ordinary x) :
    (List.replicate (S.length - i) ['.', '.'] ++ P.drop i).foldl step S = P := by
  have hup := foldl_step_dotdots _ (S.take i) (S.drop i) List.length_drop
  rw [List.take_append_drop] at hup
  rw [List.foldl_append, hup, foldl_step_ords _ _ fun c hc => hP c (List.mem_of_mem_drop hc), h, List.take_append_drop]

end Pkgcore.C33
