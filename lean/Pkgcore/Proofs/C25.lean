import Pkgcore.Proofs.C25Tar
import Pkgcore.Proofs.C25Reloc
import Pkgcore.Proofs.C25Dirs
/-! # C25: the tar round trip and `convert_archive`

The final order of `convert_archive` (`sort3`) and its assembly along the order of the passes (`convert_core`); the
hypothesis `Relocatable` of the relocation theorems, under which that order does not matter (`LocNorm`,
`ancestor_sym_unique`), and the assembly in the terms of `Spec/C25.lean` (`convert_flat`, `convert_flat_full`,
`relocatable_of_check`); last `PathOK`/`LocNorm` of normalised locations. -/
namespace Pkgcore.C25
open Pkgcore.C24 Pkgcore.C25.Spec

theorem sortByNat_perm (key : Obj → Nat) (l : List Obj) : (sortByNat key l).Perm l :=
  Lib.foldr_insert_perm (insertByNat key) (fun _ => rfl) (fun _ _ _ => rfl) l

theorem sortByNat_pairwise (key : Obj → Nat) (l : List Obj) : (sortByNat key l).Pairwise fun a b => key a ≤ key b :=
  Lib.foldr_insert_pairwise (insertByNat key) (fun _ => rfl) (fun _ _ _ => rfl) (r := fun a b => key a ≤ key b)
    Nat.le_trans id Nat.le_of_not_le l

/-- the final ordering of `convert_archive`: directories, then symlinks/fifos/devices (both by location), then
the regular files in the order of their data sources in the archive -/
def sort3 (t : List Obj) : List Obj :=
  C28.sortBy Obj.loc (t.filter Obj.isDir) ++ C28.sortBy Obj.loc (t.filter fun o => !o.isDir && !o.isReg)
    ++ sortByNat srcOf (t.filter Obj.isReg)

theorem sort3_perm (t : List Obj) : (sort3 t).Perm t := by
  have hreg : (t.filter fun o => !o.isDir).filter Obj.isReg = t.filter Obj.isReg := by
    rw [List.filter_filter]; exact List.filter_congr fun o _ => by cases o <;> rfl
  have hoth : (t.filter fun o => !o.isDir).filter (fun o => !o.isReg) = t.filter (fun o => !o.isDir && !o.isReg) := by
    rw [List.filter_filter]; exact List.filter_congr fun o _ => Bool.and_comm _ _
  have h := List.filter_append_perm Obj.isReg (t.filter fun o => !o.isDir)
  rw [hreg, hoth] at h
  refine (((C28.sortBy_perm _ _).append (C28.sortBy_perm _ _)).append (sortByNat_perm _ _)).trans ?_
  rw [List.append_assoc]
  exact ((List.perm_append_comm.trans h).append_left _).trans (List.filter_append_perm Obj.isDir t)

/-- the symlinks of the archive in the order in which a relocation pass visits them -/
def passOrder (raw : List Obj) : List Obj := (C28.sortBy Obj.loc (symsOf raw)).reverse

theorem passOrder_perm (raw : List Obj) : (passOrder raw).Perm (symsOf raw) :=
  (List.reverse_perm _).trans (C28.sortBy_perm Obj.loc _)

/-- `convert_archive` as the resolution along the symlinks in the order the passes visit them; `n + 1` steps: `n` the
number of symlinks, `n + 1` the number of passes -/
theorem convert_core (raw : List Obj)
    (hflat : ∀ a ∈ symsOf raw, ∀ b ∈ symsOf raw, isChild a.loc b.loc = false)
    (hnd : ((raw.map (moveBy (resolveDir ((passOrder raw).length + 1) (passOrder raw)))).map Obj.loc).Nodup) :
    ∃ t1, t1.Perm (raw.map (moveBy (resolveDir ((passOrder raw).length + 1) (passOrder raw)))) ∧
      ((t1 ++ (addedDirs t1).map newDir).map Obj.loc).Nodup ∧
      convertArchive raw = some (sort3 (t1 ++ (addedDirs t1).map newDir)) := by
  have hlocs : (raw.map Obj.loc).Nodup := by rw [map_loc_moveBy] at hnd; exact Lib.nodup_of_nodup_map hnd
  unfold passOrder at hnd ⊢
  unfold symsOf at hnd hflat ⊢
  have hsyms : setOf (raw.filter Obj.isSym) = raw.filter Obj.isSym :=
    setOf_fresh _ ((List.filter_sublist.map Obj.loc).nodup hlocs)
  have hperm : (raw.filter (fun o => !o.isSym) ++ raw.filter Obj.isSym).Perm raw :=
    List.perm_append_comm.trans (List.filter_append_perm Obj.isSym raw)
  have hpass := (relocatePasses_perm _ _ _ (((hperm.map _).map _).nodup_iff.mpr hnd)).trans (hperm.map _)
  unfold convertArchive
  simp only [setOf_fresh raw hlocs, hsyms, symLoop_of_flat _ _ hflat, setRemove_syms raw hlocs,
    setUpdate_fresh _ _ ((hperm.map Obj.loc).nodup_iff.mpr hlocs)]
  generalize relocatePasses _ _ _ = t1 at hpass ⊢
  have hfreshlocs : ((t1 ++ (addedDirs t1).map newDir).map Obj.loc).Nodup := by
    rw [List.map_append, List.nodup_append, List.map_map,
      show (Obj.loc ∘ newDir) = id from rfl, List.map_id]
    refine ⟨(hpass.map Obj.loc).nodup_iff.mpr hnd, nodup_addedDirs _, fun a ha b hb e => ?_⟩
    exact ((missingDirs_spec t1 b).mp hb).1 (e ▸ ha)
  refine ⟨t1, hpass, hfreshlocs, ?_⟩
  exact congrArg (fun t => some (sort3 t)) (setUpdate_fresh _ _ hfreshlocs)

theorem convertArchive_none_iff (raw : List Obj) :
    convertArchive raw = none ↔
      symLoop (((setOf raw).filter Obj.isSym).length * ((setOf raw).filter Obj.isSym).length
        + ((setOf raw).filter Obj.isSym).length + 2) (setOf ((setOf raw).filter Obj.isSym)) = none := by
  unfold convertArchive
  simp only
  split
  · rename_i h; simp [h]
  · rename_i h; simp [h]

/-- the location of a symlinked directory is normalised: `child_nodes` tests the location followed by a slash -/
abbrev LocNorm (l : Str) : Prop := cnPrefix l = l ++ ['/']

/-- at most one symlink lies above `p`, so `stepLoc` picks it whatever the order of `F` -/
theorem ancestor_sym_unique (F : List Obj) (hn : ∀ s ∈ F, LocNorm s.loc)
    (hflat : ∀ a ∈ F, ∀ b ∈ F, isChild a.loc b.loc = false)
    (hlocs : ∀ a ∈ F, ∀ b ∈ F, a.loc = b.loc → a = b)
    (p : Str) (a b : Obj) (ha : a ∈ F) (hb : b ∈ F) (hpa : isChild a.loc p = true)
    (hpb : isChild b.loc p = true) : a = b := by
  -- of two symlinks above `p` the one with the shorter location is the other one or lies above it
  have shorter : ∀ a ∈ F, ∀ b ∈ F, isChild a.loc p = true → isChild b.loc p = true →
      a.loc.length ≤ b.loc.length → a = b := by
    intro a ha b hb hpa hpb hl
    have hab := hflat a ha b hb
    unfold isChild at hpa hpb hab
    rw [hn a ha] at hpa hab
    rw [hn b hb] at hpb
    rw [List.isPrefixOf_iff_prefix] at hpa hpb
    have h1 : (a.loc ++ ['/']) <+: (b.loc ++ ['/']) := List.prefix_of_prefix_length_le hpa hpb (by simp; exact hl)
    by_cases he : a.loc.length = b.loc.length
    · exact hlocs a ha b hb (List.append_cancel_right (h1.eq_of_length (by simp [he])))
    · rw [List.isPrefixOf_iff_prefix.mpr
        (List.prefix_of_prefix_length_le h1 (List.prefix_append b.loc ['/']) (by simp; omega))] at hab
      cases hab
  rcases Nat.le_total a.loc.length b.loc.length with hl | hl
  · exact shorter a ha b hb hpa hpb hl
  · exact (shorter b hb a ha hpb hpa hl).symm

theorem find?_perm_unique {α : Type} (p : α → Bool) (l1 l2 : List α) (hp : l1.Perm l2)
    (hu : ∀ a ∈ l1, ∀ b ∈ l1, p a = true → p b = true → a = b) : l1.find? p = l2.find? p := by
  cases h1 : l1.find? p with
  | none =>
    rw [List.find?_eq_none] at h1
    symm
    rw [List.find?_eq_none]
    exact fun x hx => h1 x (hp.mem_iff.mpr hx)
  | some a =>
    have ha := List.mem_of_find?_eq_some h1
    have hpa := List.find?_some h1
    cases h2 : l2.find? p with
    | none =>
      rw [List.find?_eq_none] at h2
      exact absurd hpa (h2 a (hp.mem_iff.mp ha))
    | some b =>
      have hb := hp.mem_iff.mpr (List.mem_of_find?_eq_some h2)
      rw [hu a ha b hb hpa (List.find?_some h2)]

/-- the archives `convert_relocates_partial` and `convert_adds_missing_dirs_partial` speak about: distinct locations;
the symlinks sit at normalised locations and none of them is recorded below another one; `symsOf raw`.length
resolution steps settle every location (no cycle: a chain that follows every symlink once is that long); different
entries resolve to different places -/
structure Relocatable (raw : List Obj) : Prop where
  locs : (raw.map Obj.loc).Nodup
  norm : ∀ s ∈ symsOf raw, LocNorm s.loc
  flat : ∀ a ∈ symsOf raw, ∀ b ∈ symsOf raw, isChild a.loc b.loc = false
  depth : ∀ e ∈ raw, stepLoc (symsOf raw) (resolveDir (symsOf raw).length (symsOf raw) e.loc) = none
  inj : ∀ a ∈ raw, ∀ b ∈ raw,
    resolveDir (symsOf raw).length (symsOf raw) a.loc = resolveDir (symsOf raw).length (symsOf raw) b.loc → a = b

/-- `convert_core` in the terms of `Spec/C25.lean`, `symsOf`/`placeOf` for `passOrder` and its `n + 1` steps: `norm`,
`flat` and `locs` make the order of the symlinks immaterial, `depth` the last step idle, `inj` keeps the places apart -/
theorem convert_flat (raw : List Obj) (h : Relocatable raw) :
    ∃ t1, t1.Perm (raw.map (placeOf raw)) ∧ ((t1 ++ (addedDirs t1).map newDir).map Obj.loc).Nodup ∧
      convertArchive raw = some (sort3 (t1 ++ (addedDirs t1).map newDir)) := by
  have hsub : ∀ x ∈ symsOf raw, x ∈ raw := fun x hx => (List.mem_filter.mp hx).1
  have hstep : ∀ p, stepLoc (symsOf raw) p = stepLoc (passOrder raw) p := fun p => by
    unfold stepLoc
    rw [find?_perm_unique _ _ _ (passOrder_perm raw).symm (fun a ha b hb pa pb =>
      ancestor_sym_unique (symsOf raw) h.norm h.flat
        (fun a ha b hb e => Lib.inj_of_nodup_map h.locs (hsub a ha) (hsub b hb) e) p a b ha hb pa pb)]
  have hplace : ∀ e ∈ raw, moveBy (resolveDir ((passOrder raw).length + 1) (passOrder raw)) e = placeOf raw e :=
    fun e he => by
      unfold moveBy placeOf
      rw [resolveDir_add, (passOrder_perm raw).length_eq, ← resolveDir_congr _ _ _ hstep e.loc,
        resolveDir_settled 1 _ _ (by rw [← hstep]; exact h.depth e he)]
  rw [← List.map_congr_left hplace]
  refine convert_core raw h.flat ?_
  rw [List.map_congr_left hplace, List.map_map]
  exact Lib.nodup_map_on (Lib.nodup_of_nodup_map h.locs) fun a ha b hb e =>
    h.inj a ha b hb (by simpa only [Function.comp, placeOf, withLoc_loc] using e)

theorem isChild_mono (s p q : Str) (h : isChild s p = true) (hpq : p <+: q) : isChild s q = true := by
  unfold isChild at h ⊢
  rw [List.isPrefixOf_iff_prefix] at h ⊢
  exact h.trans hpq

/-- everything the relocation theorems state, in one piece -/
theorem convert_flat_full (raw : List Obj) (h : Relocatable raw) :
    ∃ (R : List Obj) (added : List Str), convertArchive raw = some R ∧
      R.Perm (raw.map (placeOf raw) ++ added.map newDir) ∧
      (R.map Obj.loc).Nodup ∧ added.Nodup ∧
      (∀ p, p ∈ added ↔ p ∉ (raw.map (placeOf raw)).map Obj.loc ∧ p ≠ ['/'] ∧ p ≠ [] ∧
        ∃ e ∈ raw, p ∈ ancestors (placeOf raw e).loc) ∧
      (∀ e ∈ raw, stepLoc (symsOf raw) e.loc = none → e ∈ R) ∧
      (∀ s ∈ R, s.isSym = true → ∀ o ∈ R, isChild s.loc o.loc = false) := by
  obtain ⟨t1, ht1, hnd2, hconv⟩ := convert_flat raw h
  have hR : (sort3 (t1 ++ (addedDirs t1).map newDir)).Perm (t1 ++ (addedDirs t1).map newDir) := sort3_perm _
  have hmem : ∀ o, o ∈ t1 ↔ ∃ e ∈ raw, placeOf raw e = o := fun o => ht1.mem_iff.trans List.mem_map
  have hplace_id : ∀ e, stepLoc (symsOf raw) e.loc = none → placeOf raw e = e := fun e he => by
    unfold placeOf
    rw [resolveDir_settled _ _ _ he, withLoc_self]
  have hsettled : ∀ o ∈ t1, ∀ s ∈ symsOf raw, isChild s.loc o.loc = false := by
    intro o ho s hs
    obtain ⟨e, he, rfl⟩ := (hmem o).mp ho
    unfold placeOf
    rw [withLoc_loc]
    exact (stepLoc_eq_none _ _).mp (h.depth e he) s hs
  refine ⟨_, addedDirs t1, hconv, hR.trans (List.Perm.append_right _ ht1), (hR.map Obj.loc).nodup_iff.mpr hnd2,
    nodup_addedDirs _, fun p => ?_, fun e he hs => ?_, fun s hs hsym o ho => ?_⟩
  · rw [missingDirs_spec, (ht1.map Obj.loc).mem_iff]
    exact and_congr_right fun _ => and_congr_right fun _ => and_congr_right fun _ =>
      ⟨fun ⟨o, ho, ha⟩ => by obtain ⟨e, he, rfl⟩ := (hmem o).mp ho; exact ⟨e, he, ha⟩,
        fun ⟨e, he, ha⟩ => ⟨_, (hmem _).mpr ⟨e, he, rfl⟩, ha⟩⟩
  · exact hR.mem_iff.mpr (List.mem_append_left _ ((hmem e).mpr ⟨e, he, hplace_id e hs⟩))
  · -- the symlinks of the result are the symlinks of the archive, where they were
    have hsF : s ∈ symsOf raw := by
      rcases List.mem_append.mp (hR.mem_iff.mp hs) with hs' | hs'
      · obtain ⟨e, he, rfl⟩ := (hmem s).mp hs'
        unfold placeOf at hsym
        rw [withLoc_isSym] at hsym
        have heF : e ∈ symsOf raw := List.mem_filter.mpr ⟨he, hsym⟩
        rw [hplace_id e ((stepLoc_eq_none _ _).mpr fun a ha => h.flat a ha e heF)]
        exact heF
      · obtain ⟨p, _, rfl⟩ := List.mem_map.mp hs'
        cases hsym
    rcases List.mem_append.mp (hR.mem_iff.mp ho) with ho | ho
    · exact hsettled o ho s hsF
    · -- a created directory is an initial piece of an entry: below `s` it would put the entry below `s`
      obtain ⟨p, hp, rfl⟩ := List.mem_map.mp ho
      obtain ⟨-, -, -, e1, he1, ha⟩ := (missingDirs_spec t1 p).mp hp
      refine Bool.eq_false_iff.mpr fun hc => ?_
      have := isChild_mono _ _ _ hc (show (newDir p).loc <+: e1.loc from ancestors_prefix ha)
      rw [hsettled e1 he1 s hsF] at this
      cases this

/-- the executable check of `Spec/C25.lean` establishes the hypotheses -/
theorem relocatable_of_check (raw : List Obj) (h : relocatableB raw = true) : Relocatable raw := by
  unfold relocatableB at h
  simp only [Bool.and_eq_true, decide_eq_true_eq, List.all_eq_true, beq_iff_eq, Bool.not_eq_true',
    Bool.or_eq_true, Option.isNone_iff_eq_none] at h
  obtain ⟨⟨⟨⟨h1, h2⟩, h3⟩, h4⟩, h5⟩ := h
  refine ⟨h1, h2, h3, h4, ?_⟩
  intro a ha b hb e
  rcases h5 a ha b hb with h | h
  · exact absurd e (by simpa using h)
  · exact h

/-- a component of a normalised location -/
def GoodComp (c : Str) : Prop := c ≠ [] ∧ '/' ∉ c ∧ c ≠ ['.'] ∧ c ≠ ['.', '.']

theorem joinWith_ends_no_slash (comps : List Str) (hne : comps ≠ []) (h : ∀ c ∈ comps, c ≠ [] ∧ '/' ∉ c) :
    ∃ a c, joinWith '/' comps = a ++ [c] ∧ c ≠ '/' :=
  joinWith_eq_core '/' comps ▸ Lib.intercalate_eq_concat '/' hne h

theorem joinWith_begins_no_slash (comps : List Str) (hne : comps ≠ []) (h : ∀ c ∈ comps, c ≠ [] ∧ '/' ∉ c) :
    ∃ c rest, joinWith '/' comps = c :: rest ∧ c ≠ '/' := by
  cases comps with
  | nil => exact absurd rfl hne
  | cons x r =>
    obtain ⟨hx, hs⟩ := h x (by simp)
    cases x with
    | nil => exact absurd rfl hx
    | cons c cs =>
      refine ⟨c, (joinWith '/' (cs :: r)), joinWith_cons_head _ _ _ _, ?_⟩
      intro e; exact hs (by simp [e])

/-- the fold inside `C24.normpath` (`initial` is its number of leading slashes to keep) skips `dots`, the empty piece
before the leading slash and the `.` of `./name`, and appends the good components -/
theorem normFold_good (initial : Nat) (acc dots comps : List Str) (hd : ∀ c ∈ dots, c = [] ∨ c = ['.'])
    (h : ∀ c ∈ comps, GoodComp c) :
    (dots ++ comps).foldl (fun (acc : List Str) comp =>
      if comp = [] ∨ comp = ['.'] then acc
      else if comp ≠ ['.', '.'] ∨ (initial = 0 ∧ acc = []) ∨ acc.getLast? = some ['.', '.'] then acc ++ [comp]
      else acc.dropLast) acc = acc ++ comps := by
  induction dots with
  | cons c r ih => rw [List.cons_append, List.foldl_cons, if_pos (hd c (.head _)), ih fun c hc => hd c (.tail _ hc)]
  | nil =>
    induction comps generalizing acc with
    | nil => simp
    | cons c r ih =>
      obtain ⟨h1, _, h3, h4⟩ := h c (.head _)
      rw [List.nil_append] at ih ⊢
      rw [List.foldl_cons, if_neg (by simp [h1, h3]), if_pos (Or.inl h4), ih _ (fun c hc => h c (.tail _ hc))]
      simp

theorem normpath_abs (dots comps : List Str) (hd : ∀ c ∈ dots, c = ['.']) (hne : comps ≠ [])
    (h : ∀ c ∈ comps, GoodComp c) :
    normpath ('/' :: joinWith '/' (dots ++ comps)) = '/' :: joinWith '/' comps := by
  have hg : ∀ c ∈ dots ++ comps, c ≠ [] ∧ '/' ∉ c := fun c hc => by
    rcases List.mem_append.mp hc with hc | hc
    · rw [hd c hc]; decide
    · exact ⟨(h c hc).1, (h c hc).2.1⟩
  have hne' : dots ++ comps ≠ [] := fun e => hne (List.append_eq_nil_iff.mp e).2
  obtain ⟨c0, rest, hj, hc0⟩ := joinWith_begins_no_slash _ hne' hg
  have hs : splitOn '/' ('/' :: joinWith '/' (dots ++ comps)) = ([] :: dots) ++ comps := by
    rw [show '/' :: joinWith '/' (dots ++ comps) = [] ++ '/' :: joinWith '/' (dots ++ comps) from rfl,
      splitOn_append_sep, splitOn_joinWith '/' _ hne' (fun c hc => (hg c hc).2)]
    rfl
  unfold normpath
  simp only [hs]
  rw [normFold_good _ [] ([] :: dots) comps (fun c hc => (List.mem_cons.mp hc).imp id (hd c)) h, hj]
  -- one leading slash is kept, as the next character `c0` is no slash; with it the result is not empty
  simp [hc0]

theorem pathOK_of_normal (comps : List Str) (hne : comps ≠ []) (h : ∀ c ∈ comps, GoodComp c) :
    PathOK ('/' :: joinWith '/' comps) := by
  have hg : ∀ c ∈ comps, c ≠ [] ∧ '/' ∉ c := fun c hc => ⟨(h c hc).1, (h c hc).2.1⟩
  obtain ⟨c0, rest, hj, hc0⟩ := joinWith_begins_no_slash comps hne hg
  obtain ⟨a, cl, hl, hcl⟩ := joinWith_ends_no_slash comps hne hg
  have hrel : relName ('/' :: joinWith '/' comps) = '.' :: '/' :: joinWith '/' comps := by
    unfold relName lstripSlash
    rw [hj]
    simp [List.dropWhile, hc0]
  have hstrip : stripSlash ('.' :: '/' :: joinWith '/' comps) = '.' :: '/' :: joinWith '/' comps := by
    rw [hl]
    exact Lib.rstrip_concat ('.' :: '/' :: a) (decide_eq_false hcl)
  have hdot : normpath ('/' :: '.' :: '/' :: joinWith '/' comps) = '/' :: joinWith '/' comps := by
    have := normpath_abs [['.']] comps (fun c hc => List.mem_singleton.mp hc) hne h
    -- `joinWith '/' (['.'] :: comps)` is `'.' :: '/' :: joinWith '/' comps` by unfolding, once `comps` is a cons
    cases comps with
    | nil => exact absurd rfl hne
    | cons c r => exact this
  refine ⟨?_, ?_, ?_⟩
  · unfold absLoc
    rw [hrel, hstrip, hdot]
  · unfold absLink
    rw [hrel, if_neg (by simp), hdot]
  · rw [hj]; simp

theorem locNorm_of_normal (comps : List Str) (hne : comps ≠ []) (h : ∀ c ∈ comps, GoodComp c) :
    LocNorm ('/' :: joinWith '/' comps) := by
  obtain ⟨a, cl, hl, hcl⟩ := joinWith_ends_no_slash comps hne fun c hc => ⟨(h c hc).1, (h c hc).2.1⟩
  unfold LocNorm cnPrefix
  rw [show normpath ('/' :: joinWith '/' comps) = _ from normpath_abs [] comps (fun _ hc => nomatch hc) hne h, hl]
  exact congrArg (· ++ ['/']) (Lib.rstrip_concat ('/' :: a) (decide_eq_false hcl))

end Pkgcore.C25
