import Pkgcore.Proofs.C26
/-!
# C26 — XPAK metadata segments round-trip and rewrites preserve the archive

`writeXpak`, `items`, `startOf` mirror `Xpak.write_xpak`, `list(Xpak(path).items())` and the `start` computation of
`write_xpak`; `getDataFd`, `readHistory` are `_get_data` on the file object all reads of one `Xpak(fileobj)` share;
`Spec.segment`, `Spec.expected`, `Spec.Pkg` are the format and the property.  Files are arbitrary byte lists, mappings
arbitrary association lists in `Spec.Dom` (ASCII keys, no duplicate key, text under ordinary keys, sizes inside the
32-bit fields); `Map` and the guard `NotRewritten` are defined in `Proofs/C26.lean`.
-/
namespace Pkgcore.C26
open Pkgcore.Generated.C26

/-- with the table generated from the code the guard is exactly "the key is not `repo`" -/
theorem notRewritten_iff (k : List Char) : rewriteKey k = k ↔ k ≠ "repo".toList := by
  unfold rewriteKey keyRewrites
  simp only [List.lookup]
  constructor
  · intro h hk
    subst hk
    revert h
    decide
  · intro h
    have : (String.ofList k == "repo") = false := by
      rw [beq_eq_false_iff_ne]
      intro e
      apply h
      rw [← e, String.toList_ofList]
    simp [this]

/-- **the writer produces the documented format**: whatever the old content `f`, `write_xpak` keeps the
first `s` bytes (`s` = start of the recognised old segment, or the file length when there is none),
writes exactly the XPAK segment of `m` after them and nothing else. -/
theorem write_xpak_format (f : Bytes) (m : Map) (s : Nat)
    (hfit : (Spec.index m).length + (Spec.data m).length + 24 < 4294967296) (hs : startOf f = .ok s) :
    s ≤ f.length ∧ writeXpak f m = .ok (f.take s ++ Spec.segment m) := by
  have hle := startOf_le f s hs
  refine ⟨hle, ?_⟩
  have hb := fits_bound m hfit
  have hi : (idxFrom m 0).length < 4294967296 := by omega
  have hd : (Spec.data m).length < 4294967296 := by omega
  have ho : (idxFrom m 0).length + (Spec.data m).length + trailerSize + 8 < 4294967296 := by
    show _ + 16 + 8 < _; omega
  unfold writeXpak
  simp only [hs, encodeLoop_ok m 0 (by omega), pack32_ok _ hi, pack32_ok _ hd, pack32_ok _ ho, bind, Except.bind,
    pure, Except.pure]
  rw [write_sequence f s _ _ _ hle, segment_eq_layout]
  simp only [layout, header, trailer, trailerSize, Nat.add_assoc, Nat.reduceAdd, List.append_assoc]

/-- **round trip** (`xpak_roundtrip`, guarded by `NotRewritten`): for every leading content `pre`
and every mapping of the property's domain, reading `pre ++ segment m` returns the same keys in the
same order, text values decoded, `environment*` values as bytes.

Full statement (false of the code, see `xpak_roundtrip_counterexample`):
`∀ pre m, Spec.Dom m → items (pre ++ Spec.segment m) = .ok (Spec.expected m)`; what the code returns in general is
`readBack m`, the keys rewritten (`items_segment`). -/
theorem xpak_roundtrip_partial (pre : Bytes) (m : Map) (hd : Spec.Dom m) (hn : NotRewritten m) :
    items (pre ++ Spec.segment m) = .ok (Spec.expected m) := by
  rw [← readBack_eq m hn]
  refine items_segment pre m hd.fits hd.ascii ?_ fun p hp he => hd.typed p hp (hn p hp ▸ he)
  rw [List.map_congr_left hn]
  exact hd.nodup

-- not in core; the `decide`s below compare results of `items`
deriving instance DecidableEq for Except

/-- the key `repo` comes back as `REPO` (`Xpak._reading_key_rewrites`) -/
theorem xpak_roundtrip_counterexample :
    ∃ m, Spec.Dom m ∧ items (Spec.segment m) ≠ .ok (Spec.expected m) := by
  refine ⟨[("repo".toList, .text "x")], ⟨?_, by decide +kernel, fun p hp _ => ?_, by decide +kernel⟩,
    by decide +kernel⟩
  · unfold Spec.asciiKey; decide +kernel
  · cases List.mem_singleton.mp hp; exact ⟨"x", rfl⟩

/-- written then read: `write_xpak` followed by `items` gives the mapping back, on any old content -/
theorem write_then_read (f : Bytes) (m : Map) (s : Nat) (hd : Spec.Dom m) (hn : NotRewritten m)
    (hs : startOf f = .ok s) :
    ∃ g, writeXpak f m = .ok g ∧ items g = .ok (Spec.expected m) :=
  ⟨_, (write_xpak_format f m s hd.fits hs).2, xpak_roundtrip_partial _ m hd hn⟩

theorem start_of_segment (pre : Bytes) (m0 : Map) (ha : ∀ p ∈ m0, Spec.asciiKey p.1)
    (hfit : (Spec.index m0).length + (Spec.data m0).length + 24 < 4294967296) :
    startOf (pre ++ Spec.segment m0) = .ok pre.length := by
  have hb := fits_bound m0 hfit
  rw [segment_eq_layout]
  unfold startOf
  rw [keysDict_layout pre m0 hb ha, checkMagic_layout pre _ _ hb]
  rfl

/-- **rewriting leaves the bytes before the old segment unchanged and replaces the old segment
entirely** (growing or shrinking): the new file is the old prefix followed by the new segment, and
nothing of the old segment or after it survives. -/
theorem rewrite_preserves_prefix (pre : Bytes) (m0 m : Map) (ha : ∀ p ∈ m0, Spec.asciiKey p.1)
    (hfit0 : (Spec.index m0).length + (Spec.data m0).length + 24 < 4294967296)
    (hfit : (Spec.index m).length + (Spec.data m).length + 24 < 4294967296) :
    writeXpak (pre ++ Spec.segment m0) m = .ok (pre ++ Spec.segment m) := by
  have h := (write_xpak_format (pre ++ Spec.segment m0) m pre.length hfit (start_of_segment pre m0 ha hfit0)).2
  rwa [List.take_left' rfl] at h

/-- a file in which no segment is recognised gets the segment appended -/
theorem write_fresh (f : Bytes) (m : Map) (hfit : (Spec.index m).length + (Spec.data m).length + 24 < 4294967296)
    (hs : startOf f = .ok f.length) : writeXpak f m = .ok (f ++ Spec.segment m) := by
  have h := (write_xpak_format f m f.length hfit hs).2
  rwa [List.take_length] at h

def Represents (f : Bytes) (p : Spec.Pkg) : Prop :=
  f = p.bytes ∧ match p.seg with
    | none => startOf p.pre = .ok p.pre.length
    | some m0 => (∀ q ∈ m0, Spec.asciiKey q.1) ∧ (Spec.index m0).length + (Spec.data m0).length + 24 < 4294967296

theorem rewrite_refines (f : Bytes) (p : Spec.Pkg) (m : Map) (hr : Represents f p) (hd : Spec.Dom m) :
    ∃ g, writeXpak f m = .ok g ∧ Represents g (p.rewrite m) := by
  obtain ⟨hf, hp⟩ := hr
  refine ⟨(p.rewrite m).bytes, ?_, rfl, hd.ascii, hd.fits⟩
  subst hf
  cases hseg : p.seg with
  | none =>
    simp only [hseg] at hp
    simp only [Spec.Pkg.bytes, hseg, List.append_nil, Spec.Pkg.rewrite]
    exact write_fresh p.pre m hd.fits hp
  | some m0 =>
    simp only [hseg] at hp
    simp only [Spec.Pkg.bytes, hseg, Spec.Pkg.rewrite]
    exact rewrite_preserves_prefix p.pre m0 m hp.1 hp.2 hd.fits

def writeAll (f : Bytes) : List Map → Except Err Bytes
  | [] => .ok f
  | m :: ms => match writeXpak f m with
    | .ok g => writeAll g ms
    | .error e => .error e

/-- **any sequence of rewrites** (growing and shrinking payloads, starting with or without a
segment) keeps the leading bytes and ends with exactly the segment of the last mapping, which then
reads back. -/
theorem rewrite_replaces_segment (f : Bytes) (p : Spec.Pkg) (ms : List Map) (hr : Represents f p)
    (hd : ∀ m ∈ ms, Spec.Dom m) :
    ∃ g, writeAll f ms = .ok g ∧ Represents g (ms.foldl Spec.Pkg.rewrite p) ∧
      (ms.foldl Spec.Pkg.rewrite p).pre = p.pre ∧
      (∀ m, ms.getLast? = some m → g = p.pre ++ Spec.segment m ∧
        (NotRewritten m → items g = .ok (Spec.expected m))) := by
  induction ms generalizing f p with
  | nil => exact ⟨f, rfl, hr, rfl, by simp⟩
  | cons m ms ih =>
    obtain ⟨g, hg, hrg⟩ := rewrite_refines f p m hr (hd m (by simp))
    obtain ⟨g', hg', hr', hpre, hlast⟩ := ih g (p.rewrite m) hrg (fun x hx => hd x (by simp [hx]))
    refine ⟨g', by simp only [writeAll, hg, hg'], hr', hpre, ?_⟩
    intro x hx
    cases ms with
    | nil =>
      simp only [List.getLast?_singleton, Option.some.injEq] at hx
      subst hx
      simp only [writeAll, Except.ok.injEq] at hg'
      subst hg'
      have : g = p.pre ++ Spec.segment m := hrg.1
      exact ⟨this, fun hn => this ▸ xpak_roundtrip_partial p.pre m (hd m (by simp)) hn⟩
    | cons m' ms' =>
      exact hlast x (by simpa [List.getLast?_cons_cons] using hx)

/-- **one read on a shared file object**: whatever position the previous reads left the file object at,
`_get_data` returns what a read on a fresh handle returns, and the content is untouched. -/
theorem getDataFd_pos_independent (f : Bytes) (p : Nat) (s : Slot) :
    (getDataFd ⟨f, p⟩ s).1 = getData f s ∧ (getDataFd ⟨f, p⟩ s).2.content = f := by
  rw [getDataFd_eq]; exact ⟨rfl, rfl⟩

/-- **any history of reads on one shared file object** (entries of several `items()`/`values()` generators
advanced in any interleaving, keyed lookups in between, starting at any position) returns, step by step,
what independent reads return: the result of read k does not depend on the reads before it. -/
theorem readHistory_independent (f : Bytes) (p : Nat) (ss : List Slot) :
    readHistory ⟨f, p⟩ ss = ss.map (getData f) := by
  induction ss generalizing p with
  | nil => rfl
  | cons s rest ih => simp only [readHistory, getDataFd_eq, List.map_cons, ih]

/-- `xpak_roundtrip_shared_fd` on any file whose `items()` succeeds: each step returns the value `items()` lists for
its key -/
theorem shared_fd_reads_listed (f : Bytes) (d : List (List Char × Slot)) (l : Map) (hk : keysDict f = .ok d)
    (hit : items f = .ok l) (hist : List (List Char × Slot)) (hsub : ∀ ks ∈ hist, ks ∈ d) (p : Nat) :
    ∃ vs : List Val, readHistory ⟨f, p⟩ (hist.map (·.2)) = vs.map .ok ∧
      vs.length = hist.length ∧ ∀ i (hi : i < hist.length) (hv : i < vs.length), (hist[i].1, vs[i]) ∈ l := by
  have hl := keysDict_reads_listed f d l hk hit
  rw [readHistory_independent]
  clear hit hk
  induction hist with
  | nil => exact ⟨[], rfl, rfl, fun i hi => absurd hi (Nat.not_lt_zero _)⟩
  | cons a rest ih =>
    obtain ⟨v, hv, hm⟩ := hl a (hsub a List.mem_cons_self)
    obtain ⟨vs, h1, h2, h3⟩ := ih (fun ks hks => hsub ks (List.mem_cons_of_mem _ hks))
    refine ⟨v :: vs, ?_, ?_, ?_⟩
    · simp only [List.map_cons, hv, h1]
    · simp [h2]
    · intro i hi hvi
      cases i with
      | zero => exact hm
      | succ j => exact h3 j (by simpa using hi) (by simpa using hvi)

/-- **the round trip through a shared file object**: on `pre ++ segment m` every history of reads of
index entries (`hist` ⊆ `keys_dict`, any order, repetitions, any starting position) returns for each
step the value the property demands for that key (an entry of `Spec.expected m`). -/
theorem xpak_roundtrip_shared_fd (pre : Bytes) (m : Map) (hd : Spec.Dom m) (hn : NotRewritten m)
    (d : List (List Char × Slot)) (hk : keysDict (pre ++ Spec.segment m) = .ok d)
    (hist : List (List Char × Slot)) (hsub : ∀ ks ∈ hist, ks ∈ d) (p : Nat) :
    ∃ vs : List Val, readHistory ⟨pre ++ Spec.segment m, p⟩ (hist.map (·.2)) = vs.map .ok ∧
      vs.length = hist.length ∧ ∀ i (hi : i < hist.length) (hv : i < vs.length),
        (hist[i].1, vs[i]) ∈ Spec.expected m :=
  shared_fd_reads_listed _ d _ hk (xpak_roundtrip_partial pre m hd hn) hist hsub p

def exampleMap : Map :=
  [("CATEGORY".toList, .text "dev-lang\n"), ("environment.bz2".toList, .bytes [0xff, 0x00]), ("DESCRIPTION".toList, .text "é")]

example : Spec.Dom exampleMap ∧ NotRewritten exampleMap := by
  refine ⟨⟨?_, by decide +kernel, ?_, by decide +kernel⟩, ?_⟩
  · unfold Spec.asciiKey; decide +kernel
  · intro p hp he
    simp only [exampleMap, List.mem_cons, List.not_mem_nil, or_false] at hp
    rcases hp with rfl | rfl | rfl
    · exact ⟨_, rfl⟩
    · exact absurd he (by decide +kernel)
    · exact ⟨_, rfl⟩
  · unfold NotRewritten; decide +kernel

/-- a package without a segment: 3 bytes cannot hold a trailer -/
example : Represents [1, 2, 3] ⟨[1, 2, 3], none⟩ := ⟨rfl, by decide +kernel⟩

example : items ([7, 7] ++ Spec.segment exampleMap) = .ok
    [("CATEGORY".toList, .text "dev-lang\n"), ("environment.bz2".toList, .bytes [0xff, 0x00]), ("DESCRIPTION".toList, .text "é")] := by
  decide +kernel

/-- an interleaved history on one shared file object: every step returns its own key's value -/
example : (match keysDict ([7, 7] ++ Spec.segment exampleMap) with
    | .ok d => readHistory ⟨[7, 7] ++ Spec.segment exampleMap, 3⟩ ([d[0]!, d[2]!, d[1]!, d[2]!].map (·.2))
    | .error _ => []) =
    [.ok (.text "dev-lang\n"), .ok (.text "é"), .ok (.bytes [0xff, 0x00]), .ok (.text "é")] := by
  decide +kernel

end Pkgcore.C26
