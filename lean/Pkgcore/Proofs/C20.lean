import Pkgcore.Proofs.C18Frag
import Pkgcore.Proofs.C18Sort
import Pkgcore.Proofs.Lib
import Pkgcore.Spec.C20
/-!
# C20 — unmerge

The two loops of `unmerge_contents` (`unmergeNonDirs_ok`, `unmergeDirs_ok`), the order of the directory loop, the whole
unmerge (`unmergeFrom_ok`); then the engines' csets against the specification (`replaced_of_unmerged`,
`uninstalled_of_unmerged`), the frame clause on the keys for the bounded evaluation of the driver (`unlisted_bounded`), `keptNames`.
The property says nothing of a crash or an exception half-way, so the statements are about a run that returned
normally (`… = (s', .ok ()) → …Post s s' …`), not contracts in the `Frag` form of C18.
-/
namespace Pkgcore.C20
open Pkgcore.C18 Pkgcore.C18.Spec Pkgcore.C20.Spec

def OnlyRemovals (ls : List Path) (ops : List (Op × Option Errno)) : Prop :=
  ∀ ev ∈ ops, ∃ p ∈ ls, ev.1 = .unlink p ∨ ev.1 = .rmdir p

theorem OnlyRemovals.mono {ls ls' : List Path} {ops : List (Op × Option Errno)} (h : OnlyRemovals ls ops)
    (hs : ∀ p ∈ ls, p ∈ ls') : OnlyRemovals ls' ops := by
  intro ev hev
  obtain ⟨p, hp, h1⟩ := h ev hev
  exact ⟨p, hs p hp, h1⟩

theorem OnlyRemovals.append {ls : List Path} {a b : List (Op × Option Errno)} (ha : OnlyRemovals ls a)
    (hb : OnlyRemovals ls b) : OnlyRemovals ls (a ++ b) := by
  intro ev hev
  rcases List.mem_append.mp hev with h | h
  · exact ha ev h
  · exact hb ev h

theorem OnlyRemovals.cons {ls : List Path} {ops : List (Op × Option Errno)} {p : Path} {op : Op} (e : Option Errno)
    (hop : op = .unlink p ∨ op = .rmdir p) (h : OnlyRemovals ls ops) : OnlyRemovals (p :: ls) ((op, e) :: ops) := by
  intro ev hev
  rcases List.mem_cons.mp hev with rfl | h1
  · exact ⟨p, List.mem_cons_self, hop⟩
  · obtain ⟨q, hq, h2⟩ := h ev h1
    exact ⟨q, List.mem_cons_of_mem _ hq, h2⟩

/-- after the first loop of `unmerge_contents` on `xs` -/
structure NonDirsPost (s s' : St) (xs : List Entry) : Prop where
  view : ∀ q, s'.fs.view q = if q ∈ locs xs then none else s.fs.view q
  log : ∃ ops, s'.log = s.log ++ ops ∧ OnlyRemovals (locs xs) ops

theorem unmergeNonDirs_ok {env : Env} {xs : List Entry} {s s' : St}
    (h : unmergeNonDirs env s xs = (s', .ok ())) : NonDirsPost s s' xs := by
  induction xs generalizing s with
  | nil =>
    simp only [unmergeNonDirs, Prod.mk.injEq, and_true] at h
    subst h
    exact ⟨(fun q => by simp [locs]), [], (by simp), (fun ev hev => by cases hev)⟩
  | cons x xs ih =>
    simp only [unmergeNonDirs] at h
    generalize hu : unlinkIfExists env s x.loc = r at h
    obtain ⟨s1, r1⟩ := r
    cases r1 with
    | error e => simp at h
    | ok u =>
      simp only at h
      obtain ⟨u1, -, e, hl⟩ := unlinkIfExists_spec.post hu
      obtain ⟨iv, ops, il, io⟩ := ih h
      refine ⟨fun q => ?_, (.unlink x.loc, e) :: ops, by rw [il, hl]; simp, io.cons e (Or.inl rfl)⟩
      rw [iv q, u1 q]
      simp only [locs, List.map_cons, List.mem_cons]
      by_cases h1 : q ∈ List.map (fun x => x.loc) xs
      · simp [h1]
      · by_cases h2 : q = x.loc <;> simp [h1, h2]

/-- after one tolerated `os.rmdir(p)` -/
structure RmdirPost (s s' : St) (p : Path) : Prop where
  off : ∀ q, q ≠ p → s'.fs.view q = s.fs.view q
  here : s'.fs.view p = s.fs.view p ∨ (s'.fs.view p = none ∧ IsDirAt s.fs p ∧ s.fs.hasChild p = false)
  nonempty : IsDirAt s'.fs p → s.fs.hasChild p = true ∨ p = []
  log : ∃ e, s'.log = s.log ++ [(.rmdir p, e)]

theorem rmdirQuiet_ok {env : Env} {s s' : St} {p : Path} (h : rmdirQuiet env s p = (s', .ok ())) :
    RmdirPost s s' p := by
  unfold rmdirQuiet at h
  generalize hs : s.sys env (.rmdir p) = x at h
  obtain ⟨s1, e⟩ := x
  cases e with
  | none =>
    obtain ⟨rfl, -⟩ := Prod.mk.inj h
    obtain ⟨h1, hl⟩ := St.sys_ok hs
    obtain ⟨i, nd, hv, hk, -, hch, e1⟩ := step_rmdir_ok h1
    have hv1 : ∀ q, s1.fs.view q = if q = p then none else s.fs.view q := by intro q; rw [e1]; simp
    refine ⟨fun q hq => by rw [hv1, if_neg hq], Or.inr ⟨by rw [hv1]; simp, ⟨i, nd, hv, hk⟩, hch⟩, ?_, _, hl⟩
    rintro ⟨j, nd', h1, _⟩
    rw [hv1, if_pos rfl] at h1; cases h1
  | some e =>
    obtain ⟨e1, e2, hl⟩ := St.sys_err hs
    have hs' : s1 = s' := by
      simp only at h
      split at h
      · exact (Prod.mk.inj h).1
      · cases (Prod.mk.inj h).2
    subst hs'
    refine ⟨fun q _ => by rw [e2], Or.inl (by rw [e2]), ?_, _, hl⟩
    rintro ⟨j, nd, h1, h2⟩
    exact step_rmdir_dir_error e1 (e2 ▸ h1) h2

theorem dirRemovedOrKept_base_congr {b b' fin : Fs} {p : Path} (h : b.view p = b'.view p)
    (hd : DirRemovedOrKept b fin p) : DirRemovedOrKept b' fin p := by
  unfold DirRemovedOrKept IsDirAt at *
  rw [← h]; exact hd

/-- after the second loop of `unmerge_contents` on the directory objects `ds` -/
structure DirsPost (s s' : St) (ds : List Entry) : Prop where
  off : ∀ q, q ∉ locs ds → s'.fs.view q = s.fs.view q
  shrink : ∀ q, s'.fs.view q = s.fs.view q ∨ s'.fs.view q = none
  here : ∀ d ∈ ds, DirRemovedOrKept s.fs s'.fs d.loc
  log : ∃ ops, s'.log = s.log ++ ops ∧ OnlyRemovals (locs ds) ops

/-- under an order that visits a directory after everything listed below it, a listed directory that is still there
is not empty -/
theorem unmergeDirs_ok {env : Env} {ds : List Entry} {s s' : St} (hnd : (locs ds).Nodup)
    (h : unmergeDirs env s ds = (s', .ok ())) :
    DirsPost s s' ds ∧ (ds.Pairwise (fun a b => ¬ ProperAnc a.loc b.loc) →
      ∀ d ∈ ds, IsDirAt s'.fs d.loc → s'.fs.hasChild d.loc = true ∨ d.loc = []) := by
  induction ds generalizing s with
  | nil =>
    obtain ⟨rfl, -⟩ := Prod.mk.inj h
    exact ⟨⟨(fun _ _ => rfl), (fun _ => Or.inl rfl), (fun d hd => by cases hd), [], (by simp),
      (fun ev hev => by cases hev)⟩, fun _ d hd => by cases hd⟩
  | cons x xs ih =>
    simp only [unmergeDirs] at h
    generalize hu : rmdirQuiet env s x.loc = r at h
    obtain ⟨s1, r1⟩ := r
    cases r1 with
    | error e => simp at h
    | ok u =>
      simp only at h
      simp only [locs, List.map_cons, List.nodup_cons] at hnd
      obtain ⟨hx, hnd'⟩ := hnd
      have p1 := rmdirQuiet_ok hu
      obtain ⟨p2, f2⟩ := ih hnd' h
      -- head `p1`, tail `p2`, `f2`; the tail only removes (`shrink`), so a directory removed as empty stays childless
      have shrink1 : ∀ q, s1.fs.view q = s.fs.view q ∨ s1.fs.view q = none := by
        intro q
        by_cases hq : q = x.loc
        · rcases p1.here with h1 | ⟨h1, _⟩
          · exact Or.inl (hq ▸ h1)
          · exact Or.inr (hq ▸ h1)
        · exact Or.inl (p1.off q hq)
      have shrink : ∀ q, s'.fs.view q = s.fs.view q ∨ s'.fs.view q = none := by
        intro q
        rcases p2.shrink q with h1 | h1
        · rw [h1]; exact shrink1 q
        · exact Or.inr h1
      have hsame : s'.fs.view x.loc = s1.fs.view x.loc := p2.off _ hx
      obtain ⟨e, hl1⟩ := p1.log
      obtain ⟨ops, hl2, ho⟩ := p2.log
      refine ⟨⟨?_, shrink, ?_, (.rmdir x.loc, e) :: ops, by rw [hl2, hl1]; simp, ho.cons e (Or.inr rfl)⟩,
        fun hord d hd hdir => ?_⟩
      · intro q hq
        simp only [locs, List.map_cons, List.mem_cons, not_or] at hq
        rw [p2.off q hq.2, p1.off q hq.1]
      · intro d hd
        rcases List.mem_cons.mp hd with hd | hd
        · subst hd
          unfold DirRemovedOrKept
          rcases p1.here with h1 | ⟨h1, h2, h3⟩
          · left; rw [hsame, h1]
          · right
            refine ⟨by rw [hsame, h1], h2, ?_⟩
            cases hc : s'.fs.hasChild d.loc with
            | false => rfl
            | true => rw [hasChild_of_shrunk shrink hc] at h3; cases h3
        · have hne : d.loc ≠ x.loc := fun e0 => hx (e0 ▸ List.mem_map_of_mem hd)
          exact dirRemovedOrKept_base_congr (p1.off _ hne) (p2.here d hd)
      · rw [List.pairwise_cons] at hord
        rcases List.mem_cons.mp hd with hd | hd
        · subst hd
          have hdir1 : IsDirAt s1.fs d.loc := by unfold IsDirAt at hdir ⊢; rw [← hsame]; exact hdir
          refine (p1.nonempty hdir1).imp_left fun hc => ?_
          -- the child that kept `rmdir` from removing `d` is not listed after `d`, so it is still there
          obtain ⟨n, hn⟩ := hasChild_iff.mp hc
          refine hasChild_iff.mpr ⟨n, ?_⟩
          have hne : n :: d.loc ≠ d.loc := by
            intro e0; have := congrArg List.length e0; simp at this
          have hnl : n :: d.loc ∉ locs xs := by
            intro hm
            obtain ⟨b, hb, hbl⟩ := mem_locs.mp hm
            exact hord.1 b hb ⟨by rw [hbl]; exact hne.symm, by rw [hbl]; exact List.suffix_cons n d.loc⟩
          rw [p2.off _ hnl, p1.off _ hne]; exact hn
        · exact f2 hord.2 d hd hdir

theorem sortDirsDesc_order (l : List Entry) :
    (sortDirsDesc l).Pairwise (fun a b => ¬ ProperAnc a.loc b.loc) := by
  unfold sortDirsDesc
  rw [List.pairwise_reverse]
  refine (sortDirs_sorted l).imp ?_
  intro a b hab hanc
  exact (List.not_le.mpr (pathKey_lt_of_properAnc hanc)) hab

theorem sortDirsDesc_perm (l : List Entry) : (sortDirsDesc l).Perm l :=
  (List.reverse_perm _).trans (sortDirs_perm l)

theorem locs_filter_nodup {es : List Entry} (hd : DistinctLocs es) (p : Entry → Bool) : (locs (es.filter p)).Nodup :=
  List.Nodup.sublist (List.Sublist.map _ List.filter_sublist) hd

/-- `unmerge_contents(es)` returned normally: the specification, its converse for directories (a listed directory that
is still there is not empty, or is the root), and the shape of the log -/
structure UnmergePost (s s' : St) (es : List Entry) : Prop where
  spec : Unmerged s.fs es s'.fs
  emptiedGone : EmptiedDirsGone es s'.fs
  log : ∃ ops, s'.log = s.log ++ ops ∧ OnlyRemovals (locs es) ops

theorem unmergeFrom_ok {env : Env} {es : List Entry} {s s' : St} (hd : DistinctLocs es)
    (h : unmergeFrom env s es = (s', .ok ())) : UnmergePost s s' es := by
  unfold unmergeFrom at h
  generalize hn : unmergeNonDirs env s (es.filter (fun e => !e.isDir)) = r at h
  obtain ⟨s1, r1⟩ := r
  cases r1 with
  | error e => simp at h
  | ok u =>
    simp only at h
    have p1 := unmergeNonDirs_ok hn
    have hperm := sortDirsDesc_perm (es.filter (·.isDir))
    have hndD : (locs (sortDirsDesc (es.filter (·.isDir)))).Nodup :=
      ((hperm.map _).nodup_iff).mpr (locs_filter_nodup hd (·.isDir))
    obtain ⟨p2, pf⟩ := unmergeDirs_ok hndD h
    have pf := pf (sortDirsDesc_order _)
    have memN : ∀ e, e ∈ es → e.isDir = false → e ∈ es.filter (fun e => !e.isDir) :=
      fun e he hk => List.mem_filter.mpr ⟨he, by simp [hk]⟩
    have memD : ∀ e, e ∈ es → e.isDir = true → e ∈ sortDirsDesc (es.filter (·.isDir)) :=
      fun e he hk => (hperm.mem_iff).mpr (List.mem_filter.mpr ⟨he, hk⟩)
    have subN : ∀ q, q ∈ locs (es.filter (fun e => !e.isDir)) → q ∈ locs es :=
      fun q hq => (List.Sublist.map _ List.filter_sublist).subset hq
    have subD : ∀ q, q ∈ locs (sortDirsDesc (es.filter (·.isDir))) → q ∈ locs es :=
      fun q hq => (List.Sublist.map _ List.filter_sublist).subset ((hperm.map _).subset hq)
    have dirFirst : ∀ e, e ∈ es → e.isDir = true → s1.fs.view e.loc = s.fs.view e.loc := by
      intro e he hk
      rw [p1.view, if_neg]
      intro hm
      obtain ⟨n, hn', hl⟩ := mem_locs.mp hm
      have hnes := (List.mem_filter.mp hn').1
      have := Lib.inj_of_nodup_map hd hnes he hl
      subst this
      have := (List.mem_filter.mp hn').2
      simp [hk] at this
    refine ⟨⟨?_, ?_, ?_⟩, ?_, ?_⟩
    · intro e he hk
      have h1 : s1.fs.view e.loc = none := by
        rw [p1.view, if_pos (mem_locs.mpr ⟨e, memN e he hk, rfl⟩)]
      rcases p2.shrink e.loc with h2 | h2
      · rw [h2, h1]
      · exact h2
    · intro e he hk
      exact dirRemovedOrKept_base_congr (dirFirst e he hk) (p2.here e (memD e he hk))
    · intro q hq
      rw [p2.off q (fun h1 => hq (subD q h1)), p1.view, if_neg (fun h1 => hq (subN q h1))]
    · intro e he hk hdir
      exact pf e (memD e he hk) hdir
    · obtain ⟨o1, l1, r1⟩ := p1.log
      obtain ⟨o2, l2, r2⟩ := p2.log
      exact ⟨o1 ++ o2, by rw [l2, l1, List.append_assoc], (r1.mono subN).append (r2.mono subD)⟩

theorem locs_liveIntersect_sublist (fs : Fs) (old : List Entry) : (locs (liveIntersect fs old)).Sublist (locs old) := by
  unfold liveIntersect locs
  induction old with
  | nil => simp
  | cons x xs ih =>
    simp only [List.filterMap_cons, List.map_cons]
    cases hv : fs.view x.loc with
    | none => simp only; exact List.Sublist.cons _ ih
    | some v => obtain ⟨i, nd⟩ := v; simp only [List.map_cons]; exact List.Sublist.cons_cons _ ih

theorem liveKind_isDir (k : Kind) (loc : Path) (m u g t : Nat) :
    (⟨loc, liveKind k, m, u, g, t⟩ : Entry).isDir = decide (k = .dir) := by
  cases k <;> simp [liveKind, Entry.isDir]

theorem mem_liveIntersect {fs : Fs} {old : List Entry} {e0 : Entry} (he : e0 ∈ old) {i : Nat} {nd : Inode}
    (hv : fs.view e0.loc = some (i, nd)) :
    ∃ l ∈ liveIntersect fs old, l.loc = e0.loc ∧ l.isDir = decide (nd.kind = .dir) := by
  refine ⟨⟨e0.loc, liveKind nd.kind, nd.mode, nd.uid, nd.gid, nd.mtime⟩, ?_, rfl, ?_⟩
  · unfold liveIntersect
    rw [List.mem_filterMap]
    exact ⟨e0, he, by simp [hv]⟩
  · exact liveKind_isDir ..

theorem locs_removePlan_sublist (fs : Fs) (old new : List Entry) : (locs (removePlan fs old new)).Sublist (locs old) :=
  ((List.Sublist.map _ List.filter_sublist).trans (List.Sublist.map _ List.filter_sublist)).trans
    (locs_liveIntersect_sublist fs old)

theorem mem_removePlan {fs : Fs} {old new : List Entry} {l : Entry} :
    l ∈ removePlan fs old new ↔ l ∈ liveIntersect fs old ∧ l.loc ∉ locs new ∧ l.loc ∉ protectedPaths := by
  simp only [removePlan, locs, List.mem_filter, decide_eq_true_eq, and_assoc]

theorem replaced_of_unmerged {mid fin : Fs} {old new : List Entry}
    (h : Unmerged mid (removePlan mid old new) fin) : Replaced mid old new fin := by
  have planned : ∀ q, q ∈ locs (removePlan mid old new) → q ∉ locs new ∧ q ∉ protectedPaths := by
    intro q hq
    obtain ⟨l, hl, rfl⟩ := mem_locs.mp hq
    exact (mem_removePlan.mp hl).2
  have listed : ∀ e ∈ old, e.loc ∉ locs new → e.loc ∉ protectedPaths → ∀ j nd, mid.view e.loc = some (j, nd) →
      ∃ l ∈ removePlan mid old new, l.loc = e.loc ∧ l.isDir = decide (nd.kind = .dir) := by
    intro e he hn hp j nd hv
    obtain ⟨l, hl, hloc, hdir⟩ := mem_liveIntersect he hv
    exact ⟨l, mem_removePlan.mpr ⟨hl, hloc ▸ hn, hloc ▸ hp⟩, hloc, hdir⟩
  refine ⟨?_, ?_, ?_, ?_, ?_⟩
  · intro e he
    exact h.unlisted _ fun h1 => (planned _ h1).1 (mem_locs.mpr ⟨e, he, rfl⟩)
  · rintro e he hn hp ⟨j, nd, hv, hk⟩
    obtain ⟨l, hl, hloc, hdir⟩ := listed e he hn hp j nd hv
    exact hloc ▸ h.nondirs l hl (by rw [hdir]; simpa using hk)
  · rintro e he hn hp ⟨j, nd, hv, hk⟩
    obtain ⟨l, hl, hloc, hdir⟩ := listed e he hn hp j nd hv
    exact hloc ▸ h.dirs l hl (by rw [hdir]; simpa using hk)
  · intro q hq
    exact h.unlisted q (fun h1 => hq ((locs_removePlan_sublist mid old new).subset h1))
  · intro q hq
    exact h.unlisted q fun h1 => (planned q h1).2 hq

theorem uninstallPlan_eq_removePlan (fs : Fs) (old : List Entry) : uninstallPlan fs old = removePlan fs old [] := by
  unfold uninstallPlan removePlan
  congr 1
  exact (List.filter_eq_self.mpr fun e _ => by simp).symm

theorem locs_uninstallPlan_sublist (fs : Fs) (old : List Entry) : (locs (uninstallPlan fs old)).Sublist (locs old) :=
  uninstallPlan_eq_removePlan fs old ▸ locs_removePlan_sublist fs old []

theorem uninstalled_of_unmerged {pre fin : Fs} {old : List Entry}
    (h : Unmerged pre (uninstallPlan pre old) fin) : Uninstalled pre old fin := by
  rw [uninstallPlan_eq_removePlan] at h
  have r := replaced_of_unmerged h
  exact ⟨fun e he => r.gone e he (by simp [locs]), fun e he => r.dirs e he (by simp [locs]), r.unlisted, r.base⟩

theorem unlisted_bounded {pre fin : Fs} {ls : List Path} :
    (∀ q : Path, q ∉ ls → fin.view q = pre.view q) ↔ UnlistedOn (keys pre ++ keys fin) pre ls fin :=
  forall_path_iff_keys₂ fun q h1 h2 _ => by rw [h1, h2]

theorem mem_keptNames {resP resF : Path → Path} {new : List Entry} {q : Path} :
    q ∈ keptNames resP resF new ↔ ∃ x ∈ new, q = resP x.loc ∨ (x.isDir = true ∧ q = resF x.loc) := by
  simp only [keptNames, List.mem_flatMap, List.mem_cons]
  refine exists_congr fun x => and_congr_right fun _ => or_congr_right ?_
  split <;> simp [*]

theorem removeCsetOf_id (live new : List Entry) :
    removeCsetOf id id live new = live.filter (fun e => decide (e.loc ∉ new.map (·.loc))) := by
  unfold removeCsetOf
  rw [List.filter_filter]
  apply List.filter_congr
  intro e _
  by_cases h : e.loc ∈ new.map (·.loc)
  · simp [h]
  · have : e.loc ∉ keptNames id id new := by
      rw [mem_keptNames]
      rintro ⟨x, hx, h1 | ⟨_, h1⟩⟩ <;> exact h (List.mem_map.mpr ⟨x, hx, h1.symm⟩)
    simp [h, this]

/-! ## a concrete root and contents used by the non-vacuity examples -/

def exPre : Fs :=
  ⟨[([], 1, ⟨.dir, 0o755, 0, 0, 0⟩), (["opt"], 2, ⟨.dir, 0o755, 0, 0, 0⟩), (["a", "opt"], 3, ⟨.dir, 0o755, 0, 0, 0⟩),
    (["f", "a", "opt"], 4, ⟨.file "78", 0o644, 0, 0, 5⟩), (["t"], 5, ⟨.dir, 0o755, 0, 0, 0⟩),
    (["keep", "t"], 6, ⟨.file "6b", 0o644, 0, 0, 5⟩), (["l"], 7, ⟨.sym "t", 0o777, 0, 0, 5⟩),
    (["usr"], 8, ⟨.dir, 0o755, 0, 0, 0⟩), (["x", "usr"], 9, ⟨.file "79", 0o644, 0, 0, 5⟩)], 10⟩
def exEs : List Entry :=
  [⟨["opt"], .dir, 0o755, 0, 0, 7⟩, ⟨["l"], .sym "t", 0o777, 0, 0, 7⟩,
   ⟨["f", "a", "opt"], .reg "78" none, 0o644, 0, 0, 7⟩, ⟨["a", "opt"], .dir, 0o755, 0, 0, 7⟩,
   ⟨["usr"], .dir, 0o755, 0, 0, 7⟩, ⟨["gone"], .fifo, 0o644, 0, 0, 7⟩]
def exEnv : Env := ⟨0o022, 0, 0⟩

def exNew : List Entry :=
  [⟨["opt"], .dir, 0o755, 0, 0, 9⟩, ⟨["f", "a", "opt"], .reg "6e6577" none, 0o644, 0, 0, 9⟩,
   ⟨["a", "opt"], .dir, 0o755, 0, 0, 9⟩, ⟨["n", "opt"], .reg "6e" none, 0o644, 0, 0, 9⟩]

end Pkgcore.C20
