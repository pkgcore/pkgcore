import Pkgcore.Proofs.C12
/-!
# C12 — incremental token expansion is left to right; the condensed forms agree

`expand` mirrors `incremental_expansion`, `optimize` `optimize_incrementals`, `splitNegations` snakeoil's
`split_negations`, `expandLic` `incremental_expansion_license`, `collapse`/`pullData`/`iterPullData`
`collapsed_restrict_to_data`.
"On" below always refers to flags (`isFlag`: non-empty, not starting with `-`); sets are lists up to membership.
-/
namespace Pkgcore.C12
open Pkgcore.C12.Spec

/-- **Expansion is sequential**: expanding `a ++ b` is expanding `a` and then `b` from its result, with the first
error winning — for both modes, every stream and every initial set. -/
theorem expansion_is_fold (fin : Bool) (a b : List Tok) (s : TSet) :
    expand fin (a ++ b) s = (match expand fin a s with | .error e => .error e | .ok s' => expand fin b s') :=
  expand_append fin a b s

/-- **Left-to-right semantics, per flag**: every well-formed stream is accepted, and afterwards a flag is on
iff the last token speaking about it (`f`, `-f`, `-*`) switches it on, or no token does and it was on
initially. -/
theorem expansion_last_writer (toks : List Tok) (orig : TSet) (h : wellFormed toks = true) :
    ∃ s, expand true toks orig = .ok s ∧ ∀ f, isFlag f = true → (f ∈ s ↔ holds f toks orig = true) :=
  expand_holds toks orig h

example : wellFormed ["a".toList, "-*".toList, "b".toList, "-b".toList, "c".toList] = true := by decide +kernel
example : expand true ["a".toList, "-*".toList, "b".toList, "-b".toList, "c".toList] ["x".toList] = .ok ["c".toList] := by
  decide +kernel
example : holds "c".toList ["a".toList, "-*".toList, "b".toList, "-b".toList, "c".toList] ["x".toList] = true
    ∧ holds "x".toList ["a".toList, "-*".toList] ["x".toList] = false
    ∧ holds "x".toList ["a".toList, "-b".toList] ["x".toList] = true := by decide +kernel

/-- **The condensed form has the same members** (`"test" in domain.features`): a flag is in what
`optimize_incrementals` yields iff the stream, expanded from nothing, switches it on. -/
theorem optimize_membership (toks : List Tok) (h : wellFormed toks = true) :
    ∃ c, optimize toks = .ok c ∧ ∀ f, isFlag f = true → (f ∈ c ↔ lastEffect f toks = some true) := by
  obtain ⟨c, hc, _, hv⟩ := optimize_verdict toks h
  exact ⟨c, hc, fun f hf => by rw [← hv f hf, verdict_eq_some_true]⟩

/-- **The condensed form expands to the same set**: re-expanding what `optimize_incrementals` yields (what it
removes first, then what it adds) on top of *any* initial set switches on exactly the flags the original stream
does. -/
theorem optimize_equiv (toks : List Tok) (orig : TSet) (h : wellFormed toks = true) :
    ∃ c s s', optimize toks = .ok c ∧ expand true (negsFirst c) orig = .ok s ∧ expand true toks orig = .ok s' ∧
      ∀ f, isFlag f = true → (f ∈ s ↔ f ∈ s') := by
  obtain ⟨c, hc, hwf, hv⟩ := optimize_verdict toks h
  have hwf' : wellFormed (negsFirst c) = true := by
    rw [negsFirst, wellFormed, List.all_append, Bool.and_eq_true]
    exact ⟨wellFormed_filter c _ hwf, wellFormed_filter c _ hwf⟩
  obtain ⟨s, hs, hsf⟩ := expand_holds (negsFirst c) orig hwf'
  obtain ⟨s', hs', hsf'⟩ := expand_holds toks orig h
  refine ⟨c, s, s', hc, hs, hs', fun f hf => ?_⟩
  rw [hsf f hf, hsf' f hf, holds, holds, lastEffect_negsFirst hf, hv f hf]

example : optimize ["a".toList, "b".toList, "-a".toList, "-*".toList, "-b".toList, "c".toList, "-c".toList, "c".toList]
    = .ok ["c".toList, "-b".toList, "-*".toList] := by decide +kernel

/-- **… also as `domain.use` reads it**: `split_negations` of the condensed form is one chunk `(neg, pos)`;
a flag is on after the chunk (clear on `*`, remove `neg`, add `pos`) iff it is on after the stream. -/
theorem optimize_split_equiv (toks : List Tok) (orig : TSet) (h : wellFormed toks = true) :
    ∃ c neg pos, optimize toks = .ok c ∧ splitNegations c = .ok (neg, pos) ∧
      ∀ f, isFlag f = true →
        ((f ∈ pos ∨ (f ∈ orig ∧ star ∉ neg ∧ f ∉ neg)) ↔ holds f toks orig = true) := by
  obtain ⟨c, hc, hwf, hv⟩ := optimize_verdict toks h
  refine ⟨c, _, _, hc, splitLoop_eq c [] [] hwf, fun f hf => ?_⟩
  rw [holds_iff, ← hv f hf, verdict, after_on_off, not_or,
    List.nil_append, List.nil_append, mem_negs, mem_negs, mem_filter_pos hf]
  rfl

/-- **License expansion is sequential** (same shape as `expansion_is_fold`). -/
theorem license_expansion_is_fold (licenses : List Tok) (groups : List (Tok × List Tok)) (a b : List Tok) (s : TSet) :
    expandLicFrom licenses groups (a ++ b) s =
      (match expandLicFrom licenses groups a s with
       | .error e => .error e
       | .ok s' => expandLicFrom licenses groups b s') :=
  expandLicFrom_append licenses groups a b s

/-- **ACCEPT_LICENSE, per license**: every well-formed stream is accepted, and a license is accepted iff the
last token speaking about it — the license itself, `-license`, a group `@g` / `-@g` containing it (a missing
group contains nothing), `*` if it is a known license, `-*` — is a positive one. -/
theorem license_expansion_last_writer (licenses : List Tok) (groups : List (Tok × List Tok)) (toks : List Tok)
    (h : wellFormedLic toks = true) :
    ∃ s, expandLic licenses groups toks = .ok s ∧
      ∀ l, (l ∈ s ↔ lastLicEffect licenses groups l toks = some true) := by
  obtain ⟨s, hs, hl⟩ := expandLicFrom_spec licenses groups [] toks h
  exact ⟨s, hs, fun l => by rw [hl l]; simp [after]⟩

example : expandLic ["L1".toList, "L2".toList, "L3".toList] [("g".toList, ["L1".toList, "L2".toList])]
    ["*".toList, "-@g".toList, "L2".toList, "@nosuch".toList] = .ok ["L3".toList, "L2".toList] := by decide +kernel

/-- **Incomplete negations are rejected** by every one of them: a bare `-` anywhere in the stream (for
ACCEPT_LICENSE also `-@` and `@`). -/
theorem incomplete_negation_rejected (toks : List Tok) (hne : ∀ t ∈ toks, t ≠ []) :
    (['-'] ∈ toks → ∀ fin s, expand fin toks s = .error .incomplete) ∧
    (['-'] ∈ toks → optimize toks = .error .incomplete) ∧
    ((['-'] ∈ toks ∨ ['-', '@'] ∈ toks ∨ ['@'] ∈ toks) →
      ∀ licenses groups, expandLic licenses groups toks = .error .incomplete) := by
  refine ⟨fun h fin s => expand_rejects fin toks s hne h, fun h => ?_, fun h licenses groups => ?_⟩
  · exact optLoop_rejects toks.reverse [] (fun t ht => hne t (by simpa using ht)) (by simpa using h)
  · rcases h with h | h | h
    · exact expandLicFrom_rejects licenses groups toks [] hne h (Or.inl rfl)
    · exact expandLicFrom_rejects licenses groups toks [] hne h (Or.inr (Or.inl rfl))
    · exact expandLicFrom_rejects licenses groups toks [] hne h (Or.inr (Or.inr rfl))

example : optimize ["a".toList, "-".toList, "-*".toList, "b".toList] = .error .incomplete := by decide +kernel

/-- **… and nothing else is**: a stream without empty tokens and bare `-` (`-@`, `@`) is accepted. -/
theorem well_formed_accepted (toks : List Tok) :
    (wellFormed toks = true → (∀ s, ∃ r, expand true toks s = .ok r) ∧ ∃ c, optimize toks = .ok c) ∧
    (wellFormedLic toks = true → ∀ licenses groups, ∃ r, expandLic licenses groups toks = .ok r) := by
  refine ⟨fun h => ⟨fun s => ?_, ?_⟩, fun h licenses groups => ?_⟩
  · obtain ⟨r, hr, _⟩ := expand_holds toks s h
    exact ⟨r, hr⟩
  · obtain ⟨c, hc, _⟩ := optimize_verdict toks h
    exact ⟨c, hc⟩
  · obtain ⟨r, hr, _⟩ := expandLicFrom_spec licenses groups [] toks h
    exact ⟨r, hr⟩

/- Full statement (false of the model for `finalize_defaults=False`, see the counterexample; open finding
   C12-unfinalized-defaults-set-order):
     ∀ fin entries c key pre order, collapse fin entries = .ok c → … → sameFlags (pullData …) (expand true (iterPullData …) []) -/
/-- **`collapsed_restrict_to_data.pull_data` is the expansion of the stream `iter_pull_data` yields** — defaults,
then the matching repo / category / package / multi entries, then the matching atoms — whatever order the
`set` of (finalized) defaults is iterated in.  Guard: `finalize_defaults=True` (the only mode used in the tree). -/
theorem pull_data_eq_stream_partial (entries : List (RKind × List Tok)) (c : Collapsed) (key : Tok)
    (pre order : List Tok) (hc : collapse true entries = .ok c) (hpre : ∀ x ∈ pre, isFlag x = true)
    (hord : ∀ x, x ∈ order ↔ x ∈ c.defaults) :
    sameFlags (pullData c key pre order) (expand true (iterPullData c key pre order) []) :=
  pullData_sameFlags c key pre order (collapse_defaults_flags entries c hc) hpre hord

example : ∃ c, collapse true [(.always true, ["x".toList, "-*".toList, "y".toList]), (.atom "a/b".toList true, ["-y".toList, "z".toList])]
    = .ok c ∧ c.defaults = ["y".toList] ∧ pullData c "a/b".toList [] c.defaults = .ok ["z".toList] := by
  refine ⟨_, rfl, ?_, ?_⟩ <;> decide +kernel

/-- with `finalize_defaults=False` the stored defaults `{-*, b}` of the stream `-* b` may be replayed as `b, -*`:
on top of `pre_defaults = [a]` that gives nothing, while the stream `a -* b` gives `b` -/
theorem pull_data_eq_stream_counterexample :
    ∃ c, collapse false [(.always true, ["-*".toList, "b".toList])] = .ok c ∧
      (∀ x, x ∈ ["b".toList, "-*".toList] ↔ x ∈ c.defaults) ∧
      pullData c [] ["a".toList] ["b".toList, "-*".toList] = .ok [] ∧
      expand true (["a".toList] ++ ["-*".toList, "b".toList]) [] = .ok ["b".toList] :=
  ⟨⟨["-*".toList, "b".toList], [], [], [], [], []⟩, rfl,
    fun x => by
      simp only [List.mem_cons, List.not_mem_nil, or_false]
      exact or_comm,
    by decide +kernel, by decide +kernel⟩

end Pkgcore.C12
