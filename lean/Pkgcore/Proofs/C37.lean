import Pkgcore.Proofs.C37Render
/-! Batching: the loop (`batchLoop_spec`) and the block form `A ++ axis values ++ B` of a query rebuilt on its split
axis (`Shape`, for a plain key and for a chart condition). -/
namespace Pkgcore.C37
open Pkgcore.C37.Spec

/-- the key under which the split values are rendered: the plain key, or `v<slot>` of the split condition -/
def axisKey (q : BugQuery) : Axis → Key
  | .simple key => Key.simple key
  | .chart idx => Key.v (renderCharts (q.charts.take idx) 1).2

/-- what the loop of `batches` has counted (its `used`) for the values `b` of a batch, `cost` pricing one value -/
def costSum (cost : String → Nat) (b : List String) : Nat := (b.map cost).sum

theorem costSum_append (cost : String → Nat) (a b : List String) :
    costSum cost (a ++ b) = costSum cost a + costSum cost b := by simp [costSum]

theorem costSum_mono (f g : String → Nat) (h : ∀ v, f v ≤ g v) (l : List String) :
    costSum f l ≤ costSum g l := by
  induction l with
  | nil => exact Nat.le_refl 0
  | cons v vs ih => exact Nat.add_le_add (h v) ih

/-- the budget of the loop leaves room for the fixed parameters: `priced` is what the loop counted for the values of
a batch, `real` what they take, `fixed` the other parameters with their `&` -/
theorem within_budget {fixed real priced : Nat} {base max : Int} (hrp : real ≤ priced)
    (h : (priced : Int) ≤ max - base - ((fixed - 1 : Nat) : Int)) :
    base + ((fixed + real - 1 : Nat) : Int) ≤ max := by omega

/-- The loop of `batches` with the open batch `cur`, priced `used`.  `hinv` is the invariant, and what every closed
batch satisfies: it holds at most one value — the first value of a batch is admitted whatever it costs — or its priced
sum is within the budget. -/
theorem batchLoop_spec (cost : String → Nat) (budget : Int) (vs cur : List String) (used : Nat)
    (hused : used = costSum cost cur) (hinv : cur.length ≤ 1 ∨ (costSum cost cur : Int) ≤ budget) :
    (batchLoop cost budget vs cur used).flatten = cur ++ vs ∧
      ∀ b ∈ batchLoop cost budget vs cur used,
        (cur ++ vs ≠ [] → b ≠ []) ∧ (b.length ≤ 1 ∨ (costSum cost b : Int) ≤ budget) := by
  induction vs generalizing cur used with
  | nil =>
    rw [batchLoop, List.append_nil]
    exact ⟨List.append_nil _, fun b hb => by rw [List.mem_singleton.1 hb]; exact ⟨id, hinv⟩⟩
  | cons v vs ih =>
    rw [batchLoop]
    split
    next hc =>
      obtain ⟨h1, h2⟩ := ih [v] (cost v) (Nat.add_zero _).symm (Or.inl (Nat.le_refl 1))
      refine ⟨by rw [List.flatten_cons, h1]; rfl, List.forall_mem_cons.2 ⟨⟨fun _ e => ?_, hinv⟩, ?_⟩⟩
      · -- `cur`, just closed, is not empty: the test of the loop asks for that
        rw [e] at hc; exact Bool.false_ne_true hc.1
      · exact fun b hb => ⟨fun _ => (h2 b hb).1 (List.cons_ne_nil _ _), (h2 b hb).2⟩
    next hc =>
      have hinv' : (cur ++ [v]).length ≤ 1 ∨ (costSum cost (cur ++ [v]) : Int) ≤ budget := by
        cases cur with
        | nil => exact Or.inl (Nat.le_refl 1)
        | cons x xs =>
          -- the test of the loop just failed for a non-empty batch
          have : ¬ ((used + cost v : Nat) : Int) > budget := fun h => hc ⟨rfl, h⟩
          rw [hused] at this
          rw [costSum_append]
          simp only [costSum, List.map_cons, List.map_nil, List.sum_cons, List.sum_nil] at this ⊢
          exact Or.inr (by omega)
      obtain ⟨h1, h2⟩ := ih (cur ++ [v]) (used + cost v) (by rw [hused, costSum_append]; rfl) hinv'
      exact ⟨by rw [h1, List.append_assoc]; rfl, fun b hb => ⟨fun _ => (h2 b hb).1 (by simp), (h2 b hb).2⟩⟩

/-- `batchLoop_spec` at the cost function and the budget of `batches` -/
theorem batches_of_axis (el : String → Nat) (q : BugQuery) (base max : Int) (c : Candidate)
    (hc : q.splitAxis = some c) :
    ∃ l : List (List String), q.batches el base max = l.map (q.rebuild c.axis) ∧ l.flatten = c.values ∧
      ∀ b ∈ l, (c.values ≠ [] → b ≠ []) ∧ (b.length ≤ 1 ∨
        (costSum (fun value => el c.key + 1 + el value + 1) b : Int)
          ≤ max - base - (urlLen el (q.rebuild c.axis []).params : Nat)) :=
  ⟨_, by simp only [BugQuery.batches, hc], batchLoop_spec _ _ c.values [] 0 rfl (Or.inl (Nat.zero_le 1))⟩

theorem sumLen_append (el : String → Nat) (a b : List Param) : sumLen el (a ++ b) = sumLen el a + sumLen el b := by
  simp [sumLen]

theorem sumLen_axis (el : String → Nat) (ax : Key) (vals : List String) :
    sumLen el (vals.map fun x => (ax, x)) = costSum (fun v => el ax.toString + 1 + el v + 1) vals := by
  simp [sumLen, costSum, Function.comp_def]

theorem filter_ne_self {ps : List Param} {ax : Key} (h : ∀ p ∈ ps, p.1 ≠ ax) :
    ps.filter (fun p => p.1 ≠ ax) = ps := by
  rw [List.filter_eq_self]
  intro p hp
  simpa using h p hp

theorem filter_ne_axis (ax : Key) (vals : List String) :
    (vals.map fun x => (ax, x)).filter (fun p => p.1 ≠ ax) = [] := by
  simp [List.filter_eq_nil_iff]

theorem filter_ne_around {A B : List Param} {ax : Key} (h : ∀ p ∈ A ++ B, p.1 ≠ ax) (vals : List String) :
    (A ++ (vals.map fun x => (ax, x)) ++ B).filter (fun p => p.1 ≠ ax) = A ++ B := by
  rw [List.filter_append, List.filter_append, filter_ne_axis, List.append_nil, ← List.filter_append, filter_ne_self h]

theorem valuesOf_axis (ax : Key) (vals : List String) : valuesOf (vals.map fun x => (ax, x)) ax = vals := by
  simp [valuesOf, List.filter_map, Function.comp_def]

theorem valuesOf_around {A B : List Param} {ax : Key} (h : ∀ p ∈ A ++ B, p.1 ≠ ax) (vals : List String) :
    valuesOf (A ++ (vals.map fun x => (ax, x)) ++ B) ax = vals := by
  rw [valuesOf_append, valuesOf_append, valuesOf_axis,
    valuesOf_eq_nil fun p hp => h p (List.mem_append_left B hp),
    valuesOf_eq_nil fun p hp => h p (List.mem_append_right A hp), List.nil_append, List.append_nil]

/-- `rebuilt` and `other` speak of every rebuild, `rest` and `values` of `q` itself: on a chart axis these two follow
from the block form of `q.params` (`Shape.of_block`), on a plain key they do not, as `_rebuild_simple` moves the key to
the end. -/
structure Shape (q : BugQuery) (c : Candidate) (ax : Key) (A B : List Param) : Prop where
  rebuilt : ∀ vals, (q.rebuild c.axis vals).params = A ++ (vals.map fun x => (ax, x)) ++ B
  other : ∀ p ∈ A ++ B, p.1 ≠ ax
  rest : q.params.filter (fun p => p.1 ≠ ax) = A ++ B
  values : valuesOf q.params ax = c.values

theorem Shape.valuesOf_rebuilt {q : BugQuery} {c : Candidate} {ax : Key} {A B : List Param} (h : Shape q c ax A B)
    (vals : List String) : valuesOf (q.rebuild c.axis vals).params ax = vals := by
  rw [h.rebuilt]; exact valuesOf_around h.other vals

theorem Shape.rest_rebuilt {q : BugQuery} {c : Candidate} {ax : Key} {A B : List Param} (h : Shape q c ax A B)
    (vals : List String) : (q.rebuild c.axis vals).params.filter (fun p => p.1 ≠ ax) = A ++ B := by
  rw [h.rebuilt]; exact filter_ne_around h.other vals

theorem Shape.sumLen_rebuilt {q : BugQuery} {c : Candidate} {ax : Key} {A B : List Param} (h : Shape q c ax A B)
    (el : String → Nat) (vals : List String) :
    sumLen el (q.rebuild c.axis vals).params
      = sumLen el A + sumLen el B + costSum (fun v => el ax.toString + 1 + el v + 1) vals := by
  rw [h.rebuilt, sumLen_append, sumLen_append, sumLen_axis, Nat.add_right_comm]

theorem Shape.of_block {q : BugQuery} {c : Candidate} {ax : Key} {A B : List Param}
    (hreb : ∀ vals, (q.rebuild c.axis vals).params = A ++ (vals.map fun x => (ax, x)) ++ B)
    (hother : ∀ p ∈ A ++ B, p.1 ≠ ax) (hself : q.params = A ++ (c.values.map fun x => (ax, x)) ++ B) :
    Shape q c ax A B :=
  ⟨hreb, hother, by rw [hself]; exact filter_ne_around hother _, by rw [hself]; exact valuesOf_around hother _⟩

theorem maxBy_mem (score : Candidate → Nat) (l : List Candidate) (c : Candidate) (h : maxBy score l = some c) :
    c ∈ l := by
  induction l generalizing c with
  | nil => cases h
  | cons a l ih =>
    unfold maxBy at h
    cases hm : maxBy score l with
    | none => rw [hm] at h; cases h; exact List.mem_cons_self
    | some d =>
      rw [hm] at h
      simp only at h
      split at h
      · cases h; exact List.mem_cons_of_mem _ (ih _ hm)
      · cases h; exact List.mem_cons_self

theorem of_mem_chartCandidates (ts : List Chart) (i0 : Nat) (cand : Candidate) (h : cand ∈ chartCandidates ts i0) :
    ∃ pre c0 post, ts = pre ++ Chart.crit c0 :: post ∧ cand.axis = .chart (i0 + pre.length) ∧
      cand.key = c0.field ∧ cand.values = c0.values := by
  induction ts generalizing i0 with
  | nil => simp [chartCandidates] at h
  | cons t ts ih =>
    have behind : cand ∈ chartCandidates ts (i0 + 1) → ∃ pre c0 post, t :: ts = pre ++ Chart.crit c0 :: post ∧
        cand.axis = .chart (i0 + pre.length) ∧ cand.key = c0.field ∧ cand.values = c0.values := by
      intro h
      obtain ⟨pre, c1, post, e, ha, hk, hv⟩ := ih (i0 + 1) h
      refine ⟨t :: pre, c1, post, by simp [e], ?_, hk, hv⟩
      rw [ha, List.length_cons]
      congr 1
      omega
    cases t with
    | crit c0 =>
      simp only [chartCandidates, List.mem_append] at h
      rcases h with h | h
      · split at h
        · simp only [List.mem_cons, List.not_mem_nil, or_false] at h
          subst h
          exact ⟨[], c0, ts, rfl, rfl, rfl, rfl⟩
        · cases h
      · exact behind h
    | group j cs => exact behind h

theorem renderCharts_append (a b : List Chart) (s : Nat) :
    renderCharts (a ++ b) s
      = ((renderCharts a s).1 ++ (renderCharts b (renderCharts a s).2).1, (renderCharts b (renderCharts a s).2).2) := by
  induction a generalizing s with
  | nil => simp [renderCharts]
  | cons t ts ih => simp [renderCharts, ih]

theorem setChartValues_at (pre : List Chart) (c0 : Criterion) (post : List Chart) (vals : List String) :
    setChartValues (pre ++ Chart.crit c0 :: post) pre.length vals
      = pre ++ Chart.crit { c0 with values := vals } :: post := by
  induction pre with
  | nil => simp [setChartValues]
  | cons t ts ih =>
    cases t <;> simp [setChartValues, ih]

theorem simpleParams_cons (k : String) (vs : List String) (rest : List (String × List String)) :
    simpleParams ((k, vs) :: rest) = (vs.map fun x => (Key.simple k, x)) ++ simpleParams rest := rfl

theorem simpleParams_append (a b : List (String × List String)) :
    simpleParams (a ++ b) = simpleParams a ++ simpleParams b := by simp [simpleParams]

theorem simpleParams_filter_ne (simple : List (String × List String)) (key : String) :
    (simpleParams simple).filter (fun p => p.1 ≠ Key.simple key)
      = simpleParams (simple.filter (fun kv => kv.1 ≠ key)) := by
  induction simple with
  | nil => rfl
  | cons kv rest ih =>
    obtain ⟨k, vs⟩ := kv
    rw [simpleParams_cons, List.filter_append, ih]
    by_cases h : k = key
    · subst h
      rw [filter_ne_axis]
      simp
    · rw [filter_ne_self fun p hp e => by obtain ⟨x, _, rfl⟩ := List.mem_map.1 hp; exact h (Key.simple.inj e)]
      simp [h, simpleParams_cons]

theorem valuesOf_simpleParams {simple : List (String × List String)} (hnd : KeysNodup simple) (k : String)
    (vs : List String) (h : (k, vs) ∈ simple) : valuesOf (simpleParams simple) (Key.simple k) = vs := by
  induction simple with
  | nil => cases h
  | cons kv rest ih =>
    obtain ⟨k0, x0⟩ := kv
    obtain ⟨hk0, hnd'⟩ := List.nodup_cons.1 hnd
    rw [simpleParams_cons, valuesOf_append]
    rcases List.mem_cons.1 h with e | hr
    · obtain ⟨hk, hv⟩ := Prod.mk.inj e
      rw [← hk, ← hv, valuesOf_axis, valuesOf_eq_nil, List.append_nil]
      intro p hp hpk
      obtain ⟨k', v', rfl, vs', hm, _⟩ := (mem_simpleParams rest p).1 hp
      exact hk0 (List.mem_map.2 ⟨(k', vs'), hm, (Key.simple.inj hpk).trans hk⟩)
    · rw [ih hnd' hr, valuesOf_eq_nil, List.nil_append]
      intro p hp hpk
      obtain ⟨x, _, rfl⟩ := List.mem_map.1 hp
      exact hk0 (List.mem_map.2 ⟨(k, vs), hr, (Key.simple.inj hpk).symm⟩)

theorem shape_simple (q : BugQuery) (hnd : KeysNodup q.simple) (key : String) (vs : List String)
    (hmem : (key, vs) ∈ q.simple) :
    Shape q ⟨key, vs, .simple key⟩ (Key.simple key)
      (simpleParams (q.simple.filter (fun kv => kv.1 ≠ key))) ((renderCharts q.charts 1).1 ++ pagingParams q) := by
  have hA : ∀ p ∈ simpleParams (q.simple.filter (fun kv => kv.1 ≠ key)), p.1 ≠ Key.simple key := by
    intro p hp e
    obtain ⟨k', v', rfl, vs', hm, _⟩ := (mem_simpleParams _ p).1 hp
    cases e
    simpa using (List.mem_filter.1 hm).2
  have hB : ∀ p ∈ (renderCharts q.charts 1).1 ++ pagingParams q, p.1 ≠ Key.simple key := by
    intro p hp e
    rcases List.mem_append.1 hp with h | h
    · obtain ⟨_, hk, _⟩ := renderCharts_inRange q.charts 1 p h
      rw [e] at hk; cases hk
    · rcases key_pagingParams q p h with h | h | h <;> rw [e] at h <;> cases h
  have hq : q.params = simpleParams q.simple ++ ((renderCharts q.charts 1).1 ++ pagingParams q) :=
    List.append_assoc ..
  refine ⟨fun vals => ?_, fun p hp => (List.mem_append.1 hp).elim (hA p) (hB p), ?_, ?_⟩
  · simp only [BugQuery.rebuild, BugQuery.params, simpleParams_append, List.append_assoc]
    -- `_rebuild_simple` drops the key when `vals` is empty; `vals.map …` is `[]` then, so both branches render alike
    cases vals <;> simp [simpleParams, pagingParams]
  · rw [hq, List.filter_append, simpleParams_filter_ne, filter_ne_self hB]
  · rw [hq, valuesOf_append, valuesOf_eq_nil hB, List.append_nil]
    exact valuesOf_simpleParams hnd key vs hmem

theorem params_crit_mid (q : BugQuery) (pre : List Chart) (c : Criterion) (post : List Chart)
    (hq : q.charts = pre ++ Chart.crit c :: post) :
    q.params
      = (simpleParams q.simple ++ (renderCharts pre 1).1 ++
          [(Key.f (renderCharts pre 1).2, c.field), (Key.o (renderCharts pre 1).2, c.op)])
        ++ (c.values.map fun x => (Key.v (renderCharts pre 1).2, x))
        ++ ((if c.negate then [(Key.n (renderCharts pre 1).2, "1")] else []) ++
          (renderCharts post ((renderCharts pre 1).2 + 1)).1 ++ pagingParams q) := by
  rw [BugQuery.params, hq, renderCharts_append]
  simp only [renderCharts, renderChart, renderCrit, List.append_assoc]

theorem shape_chart (q : BugQuery) (pre : List Chart) (c0 : Criterion) (post : List Chart)
    (hq : q.charts = pre ++ Chart.crit c0 :: post) :
    Shape q ⟨c0.field, c0.values, .chart pre.length⟩ (Key.v (renderCharts pre 1).2)
      (simpleParams q.simple ++ (renderCharts pre 1).1 ++
        [(Key.f (renderCharts pre 1).2, c0.field), (Key.o (renderCharts pre 1).2, c0.op)])
      ((if c0.negate then [(Key.n (renderCharts pre 1).2, "1")] else []) ++
        (renderCharts post ((renderCharts pre 1).2 + 1)).1 ++ pagingParams q) := by
  refine .of_block (fun vals => params_crit_mid (q.rebuild (.chart pre.length) vals) pre { c0 with values := vals } post
    (by simp only [BugQuery.rebuild, hq, setChartValues_at])) ?_ (params_crit_mid q pre c0 post hq)
  simp only [List.mem_append]
  rintro p (((h | h) | h) | ((h | h) | h))
  · exact (noSlots_simple _).ne_key rfl p h
  · exact (renderCharts_inRange pre 1).ne_key rfl (Or.inr (Nat.le_refl _)) p h
  · simp only [List.mem_cons, List.not_mem_nil, or_false] at h
    rcases h with rfl | rfl <;> nofun
  · split at h
    · rw [List.mem_singleton.1 h]; nofun
    · cases h
  · exact (renderCharts_inRange post _).ne_key rfl (Or.inl (Nat.lt_succ_self _)) p h
  · exact (noSlots_paging q).ne_key rfl p h

/-- second conjunct: on a plain axis the key the loop prices values with (`c.key`) is the key they are rendered under -/
theorem shape_of_splitAxis (q : BugQuery) (hnd : KeysNodup q.simple) (c : Candidate) (hc : q.splitAxis = some c) :
    ∃ A B, Shape q c (axisKey q c.axis) A B ∧ ∀ key, c.axis = .simple key → c.key = key := by
  have hmem := maxBy_mem _ _ c hc
  rcases List.mem_append.1 hmem with h | h
  · obtain ⟨kv, hkv, rfl⟩ := List.mem_map.1 h
    have hin := (List.mem_filter.1 hkv).1
    exact ⟨_, _, shape_simple q hnd kv.1 kv.2 hin, fun _ h => Axis.simple.inj h⟩
  · obtain ⟨pre, c0, post, hq, hax, hk, hv⟩ := of_mem_chartCandidates q.charts 0 c h
    have hs := shape_chart q pre c0 post hq
    have hc' : c = ⟨c0.field, c0.values, .chart pre.length⟩ := by
      cases c; simp only [Nat.zero_add] at hax; simp_all
    have hkey : axisKey q c.axis = Key.v (renderCharts pre 1).2 := by
      rw [hc']; simp [axisKey, hq]
    rw [hkey, hc']
    exact ⟨_, _, hs, nofun⟩

end Pkgcore.C37
