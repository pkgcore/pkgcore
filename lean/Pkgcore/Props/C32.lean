import Pkgcore.Proofs.C32
/-!
# C32 — every IPC helper request gets exactly one truthful single-line reply

`serve W name r` = all lines the daemon receives for one request (from `IpcCommand.__call__` or, when an
`IpcError` escapes, from `run_generic_phase`) and whether the build goes on.  `W` ranges over *all* behaviours of
`shlex.split`, of the cwd and of the helper body; `r` over all request lines.
-/
namespace Pkgcore.C32
open Pkgcore.C32.Spec
open Pkgcore.C31 (Str)

/-- **one_reply_per_request** — whatever the request and whatever the helper does (return, IpcCommandError, any
other exception, unparsable options, vanished cwd; fatal or nonfatal): exactly one reply line is written. -/
theorem one_reply_per_request (W : World) (name : Str) (r : Request) : (serve W name r).1.length = 1 := by
  rw [serve_eq]; rfl

/-- **reply_single_line** — that reply contains no line break (multi-line messages are folded). -/
theorem reply_single_line (W : World) (name : Str) (r : Request) : ∀ l ∈ (serve W name r).1, '\n' ∉ l := by
  rw [serve_eq]
  intro l hl
  simp only [List.mem_singleton] at hl
  subst hl
  exact encodeRet_no_newline _

/-- **status_truthful** — the status the bash side tests (`[[ ${ret} == 0 ]]` on the first `\a` field) is
success exactly when the requested action succeeded; failures carry a non-zero code (`CodeOk`). -/
theorem status_truthful (W : World) (name : Str) (r : Request) (hc : CodeOk (outcomeOf W name r)) :
    ∀ l ∈ (serve W name r).1, bashSuccess l = succeeded (outcomeOf W name r) := by
  rw [serve_eq]
  intro l hl
  simp only [List.mem_singleton] at hl
  subst hl
  exact (bashSuccess_retOf _ hc).2

/-- a world whose `doins` fails with a two-line message for the target `bad` and succeeds otherwise -/
def sampleWorld : World where
  split := fun s => some [s]
  splitMsg := fun _ => []
  cwdOk := fun _ => true
  body := fun _ _ _ _ args =>
    if args = ["bad".toList] then .cmdError 1 "install: cannot stat 'bad'\nTry again".toList else .ok .none

example : outcomeOf sampleWorld "doins".toList ⟨"true".toList, "/w".toList, "install".toList, [], "bad\x00".toList⟩
    = .cmdError 1 "install: cannot stat 'bad'\nTry again".toList ∧
    flat "install: cannot stat 'bad'\nTry again".toList = "install: cannot stat 'bad' Try again".toList := by
  repeat rw [String.toList_ofList]
  decide +kernel

/-- **nonfatal: the failure code and message are returned and the build goes on** -/
theorem nonfatal_failure_returned (W : World) (name : Str) (r : Request) (code : Int) (msg : Str)
    (hnf : strip r.nonfatal = "true".toList) (ho : outcomeOf W name r = .cmdError code msg) :
    serve W name r = ([intStr code ++ '\x07' :: flat msg], true) := by
  rw [serve_eq, ho, hnf]; rfl

/-- **otherwise the build fails** (and the daemon still gets its one reply, carrying the failure) -/
theorem fatal_failure_fails_build (W : World) (name : Str) (r : Request)
    (hnf : strip r.nonfatal ≠ "true".toList) (ho : succeeded (outcomeOf W name r) = false)
    (hnt : ∀ c m, outcomeOf W name r ≠ .ok (.tuple c m)) :
    (serve W name r).2 = false := by
  rw [serve_eq]
  cases h : outcomeOf W name r with
  | ok ret =>
    rw [h] at ho
    cases ret with
    | tuple c m => exact absurd h (hnt c m)
    | _ => simp [succeeded] at ho
  | cmdError c m => simpa using hnf
  | otherError => rfl

/-- a successful action never fails the build -/
theorem success_continues (W : World) (name : Str) (r : Request) (ret : Ret)
    (ho : outcomeOf W name r = .ok ret) : (serve W name r).2 = true := by
  rw [serve_eq, ho]

/-- **install_fallback_truthful** — the external `install` path (`_install_cmd`, `_install_dirs_cmd`) reports
success exactly when every `install` invocation exited with 0, and its failures carry the non-zero status. -/
theorem install_fallback_truthful (gs : List (Int × List Str)) :
    (succeeded (installGroups gs) = true ↔ ∀ g ∈ gs, g.1 = 0) ∧ CodeOk (installGroups gs) := by
  rcases installGroups_spec gs with ⟨e, ha⟩ | ⟨c, m, hc, e, hn⟩ <;> rw [e]
  · exact ⟨⟨fun _ => ha, fun _ => rfl⟩, trivial⟩
  · exact ⟨⟨fun h => Bool.noConfusion h, fun ha => absurd ha hn⟩, hc⟩

example : succeeded (installGroups [(0, []), (1, ["install: unrecognized option '--bogus'\n".toList,
    "Try 'install --help' for more information.\n".toList])]) = false := by decide +kernel

/-- pre-fix (`if not ret: raise`): a failing `install` is reported as success, a successful one as an error
whose status reads as success -/
theorem install_fallback_legacy_counterexample :
    succeeded (installGroupsLegacy [(1, ["install: cannot stat 'x'".toList])]) = true ∧
    installGroupsLegacy [(0, [])] = .cmdError 0 [] ∧ ¬ CodeOk (installGroupsLegacy [(0, [])]) := by
  refine ⟨by decide, by decide, ?_⟩
  intro h; exact h rfl

/-- **install_dirs_truthful** — the Python path of directory creation (`_install_dirs`: dodir, keepdir and the
directories of recursive installs): whatever the os-level steps do, the outcome is success exactly when every requested
directory was made (and, with `diroptions`, given its attributes); a failure carries a non-zero code; nothing after
the first failing directory is attempted.  With `status_truthful` this makes the reply of such a request truthful
about the directories on disk. -/
theorem install_dirs_truthful (w : Bool) (steps : List DirStep) :
    succeeded (installDirsPy w steps) = dirsDone w steps ∧ CodeOk (installDirsPy w steps) ∧
    ∀ (pre post1 post2 : List DirStep) (s : DirStep), dirsDone w [s] = false →
      installDirsPy w (pre ++ s :: post1) = installDirsPy w (pre ++ s :: post2) := by
  rw [← and_assoc]
  refine ⟨?_, fun pre post1 post2 s hs => ?_⟩
  · -- `steps` in front of nothing
    rcases installDirsPy_prefix w steps with ⟨hd, h⟩ | ⟨hd, m, h⟩ <;> rw [hd, ← List.append_nil steps, h]
    · exact ⟨rfl, trivial⟩
    · exact ⟨rfl, Int.one_ne_zero⟩
  · -- the steps up to and including the failing one are a prefix that does not go through
    rcases installDirsPy_prefix w (pre ++ [s]) with ⟨hd, _⟩ | ⟨_, m, h⟩
    · rw [dirsDone_append, hs, Bool.and_false] at hd; cases hd
    · rw [List.append_cons pre s post1, List.append_cons pre s post2, h, h]

example : succeeded (installDirsPy true [⟨"'/img/usr'".toList, none, none⟩,
    ⟨"'/img/usr/lib/foo'".toList, some "Not a directory".toList, none⟩]) = false ∧
    dirsDone true [⟨"'/img/usr'".toList, none, none⟩,
      ⟨"'/img/x'".toList, none, some "Operation not permitted".toList⟩] = false ∧
    dirsDone false [⟨"'/img/x'".toList, none, some "ignored".toList⟩] = true := by decide +kernel

/-- **reply_read_exactly_partial** — the daemon's single `read` (no `-r`) consumes exactly the reply and its
newline, sees the truthful status, and leaves the pipe at the next reply — provided the message does not end in
a dangling backslash (`MsgClosed`).
Full statement (without `MsgClosed`) is false of `read` without `-r`: see `reply_read_exactly_counterexample`. -/
theorem reply_read_exactly_partial (W : World) (name : Str) (r : Request)
    (hc : CodeOk (outcomeOf W name r)) (hm : MsgClosed (outcomeOf W name r)) (rest : Str) :
    daemonReadsReply (wire (serve W name r).1 ++ rest) = some (succeeded (outcomeOf W name r), rest) := by
  rw [serve_eq, daemonReadsReply_wire _ (clean_retOf _ hm), (bashSuccess_retOf _ hc).1]
  rfl

example : CodeOk (.cmdError 1 "a\\\\b\nc".toList) ∧ MsgClosed (.cmdError 1 "a\\\\b\nc".toList) :=
  ⟨by simp [CodeOk], by simp only [MsgClosed]; decide⟩

/-- a message ending in a backslash makes `read` join the next line of the pipe to the reply -/
theorem reply_read_exactly_counterexample :
    daemonReadsReply (wire [encodeRet (.tuple 1 "x\\".toList)] ++ "0\n".toList)
      = some (false, []) := by
  simp only [encodeRet, intStr_one]
  decide

/-- pre-fix encoder: a two-line message leaves its second line in the pipe, where it is taken for the reply
to the next request -/
theorem legacy_multiline_counterexample :
    readReplies 2 (wire [encodeRetLegacy (.tuple 1 "line1\nline2".toList), encodeRet .none])
      = some ([false, false], "0\n".toList) := by
  simp only [encodeRetLegacy, encodeRet, intStr_one]
  decide

/-- **session_replies_matched** — a stream of requests none of which fails the build: the loop consumes exactly
the six lines of each request and writes exactly one reply per request, in request order; it then goes on with
whatever follows (`tail`). -/
theorem session_replies_matched (W : World) (helpers : List Str) (reqs : List (Str × Request))
    (hk : ∀ nr ∈ reqs, Known helpers nr) (hgo : ∀ nr ∈ reqs, (serve W nr.1 nr.2).2 = true)
    (f : Nat) (tail : List Str) :
    session W helpers (reqs.length + f) (linesOf reqs ++ tail) =
      (repliesOf W reqs ++ (session W helpers f tail).1, (session W helpers f tail).2.1,
        (session W helpers f tail).2.2) ∧
    (repliesOf W reqs).length = reqs.length := by
  refine ⟨?_, by rw [repliesOf_eq, List.length_map]⟩
  induction reqs with
  | nil => simp [linesOf, repliesOf]
  | cons nr reqs ih =>
    have e : (nr :: reqs).length + f = (reqs.length + f) + 1 := by simp; omega
    have hl : linesOf (nr :: reqs) ++ tail = requestLines nr ++ (linesOf reqs ++ tail) := by
      simp [linesOf]
    rw [e, hl, session_step W helpers nr (hk nr (by simp)), hgo nr (by simp)]
    simp only [if_true]
    rw [ih (fun x hx => hk x (by simp [hx])) (fun x hx => hgo x (by simp [hx]))]
    simp [repliesOf]

/-- **session_stops_at_failure** — the first request that fails the build is still answered (once); nothing
after it is read or answered. -/
theorem session_stops_at_failure (W : World) (helpers : List Str) (pre : List (Str × Request))
    (nr : Str × Request) (post : List (Str × Request)) (hk : ∀ x ∈ pre ++ [nr], Known helpers x)
    (hgo : ∀ x ∈ pre, (serve W x.1 x.2).2 = true) (hstop : (serve W nr.1 nr.2).2 = false)
    (f : Nat) (tail : List Str) :
    session W helpers (pre.length + (f + 1)) (linesOf (pre ++ nr :: post) ++ tail) =
      (repliesOf W (pre ++ [nr]), linesOf post ++ tail, .buildFailed) := by
  have hl : linesOf (pre ++ nr :: post) ++ tail = linesOf pre ++ (requestLines nr ++ (linesOf post ++ tail)) := by
    simp [linesOf]
  rw [hl, (session_replies_matched W helpers pre (fun x hx => hk x (by simp [hx])) hgo _ _).1,
    session_step W helpers nr (hk nr (by simp)), hstop]
  simp [repliesOf]

/-- **channel_synchronised_partial** — the daemon issues its requests one at a time and reads one reply after
each; over a whole session of non-failing requests it reads, in order, exactly the truthful status of each
request and leaves nothing behind (guard `MsgClosed` as above). -/
theorem channel_synchronised_partial (W : World) (reqs : List (Str × Request))
    (hc : ∀ nr ∈ reqs, CodeOk (outcomeOf W nr.1 nr.2)) (hm : ∀ nr ∈ reqs, MsgClosed (outcomeOf W nr.1 nr.2))
    (rest : Str) :
    readReplies (repliesOf W reqs).length (wire (repliesOf W reqs) ++ rest) =
      some (reqs.map fun nr => succeeded (outcomeOf W nr.1 nr.2), rest) := by
  rw [repliesOf_eq, readReplies_clean _ fun l hl => by
    obtain ⟨nr, hnr, rfl⟩ := List.mem_map.1 hl
    exact clean_retOf _ (hm nr hnr), List.map_map]
  congr 2
  exact List.map_congr_left fun nr hnr => (bashSuccess_retOf _ (hc nr hnr)).1

/-- **reply_independent_of_history** — helper objects serve many requests, but the reply to a request is a function
of that request (and of what its action does) alone: whatever was served before it on the same helpers — including
requests that failed nonfatally — it is answered with exactly `serve W name r`.  (In the code this is the per-request
re-initialisation of the install coroutines; the check drives long request sequences through one set of helper
objects to tie the two.) -/
theorem reply_independent_of_history (W : World) (pre1 pre2 : List (Str × Request)) (nr : Str × Request) :
    (repliesOf W (pre1 ++ [nr])).drop (repliesOf W pre1).length = (serve W nr.1 nr.2).1 ∧
    (repliesOf W (pre2 ++ [nr])).drop (repliesOf W pre2).length = (serve W nr.1 nr.2).1 := by
  constructor <;> simp [repliesOf, List.flatMap_append]

example : Known ["doins".toList, "dodir".toList] ("doins".toList, ⟨[], [], [], [], []⟩) := by
  unfold Known
  decide +kernel

end Pkgcore.C32
