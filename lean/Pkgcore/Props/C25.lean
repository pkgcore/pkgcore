import Pkgcore.Proofs.C25
/-!
# C25 — binary package tarballs round-trip their contents

The property theorems with the hypotheses they name (`Good`, `Plain` here; `PathOK`, `DevModeOK` in
`Proofs/C25Tar.lean`; `Relocatable`, `LocNorm`, `GoodComp` in `Proofs/C25.lean`) and sample archives inside and outside
them (the tar byte format is `tarfile`'s: contract; the relocation below symlinked directories is proved for archives in
which no *symlink* is recorded below another symlink — for the others the code is order dependent, see
`convert_relocates_counterexample`).  `addContents`/`addRest` mirror `add_contents_to_tarfile`,
`archiveToFsobj`/`readMember` mirror `archive_to_fsobj`, `convertArchive` mirrors `convert_archive` (`Model/C25.lean`);
an archive is the list of its members.
-/
namespace Pkgcore.C25
open Pkgcore.C24 Pkgcore.C25.Spec

/-- every directory, symlink, fifo and device node converts to a tar member and back unchanged — path,
type, mode, owner, mtime, target, device numbers — without touching the reader's inode table -/
theorem member_roundtrip (dev : Nat) (st : RState) (o : Obj) (hf : o.isReg = false) (hp : PathOK o.loc)
    (hd : ∀ l a c mj mn, o = .dev l a c mj mn → DevModeOK a c) :
    readMember dev st (toMember o) = some (st, some o) :=
  readMember_toMember dev st o hf hp hd

/-- the writer never emits a regular member without its data stream (the defect fixed in the code: a file
sharing (dev, inode) with an earlier one but not link-compatible lost its data), and every hard-link
member names a file stored earlier in the same class -/
theorem write_links_to_first (S : List Obj) (inodes : List (Key × File)) :
    ∀ m ∈ addRest S inodes,
      (m.typ = .reg → m.data.isSome = true) ∧
      (m.typ = .lnk → ∃ x e, .file x ∈ S ∧ m.name = relName x.loc ∧ m.linkname = relName e.loc ∧ canLink x e = true) := by
  induction S generalizing inodes with
  | nil => exact fun m hm => nomatch hm
  | cons o rest ih =>
    intro m hm
    have tail : ∀ inodes', m ∈ addRest rest inodes' →
        (m.typ = .reg → m.data.isSome = true) ∧
        (m.typ = .lnk → ∃ x e, .file x ∈ o :: rest ∧ m.name = relName x.loc ∧ m.linkname = relName e.loc ∧
          canLink x e = true) :=
      fun inodes' hm' => ⟨(ih inodes' m hm').1, fun h => by
        obtain ⟨x, e, hx, r⟩ := (ih inodes' m hm').2 h; exact ⟨x, e, .tail _ hx, r⟩⟩
    rcases obj_file_or_other o with ⟨x, rfl⟩ | ho
    · rcases addRest_cons_file x rest inodes with ⟨e, -, hcl, hw⟩ | ⟨-, hw⟩
      · rw [hw] at hm
        rcases List.mem_cons.mp hm with rfl | hm
        · exact ⟨fun h => (nomatch h), fun _ => ⟨x, e, .head _, rfl, rfl, hcl⟩⟩
        · exact tail _ hm
      · rw [hw] at hm
        rcases List.mem_cons.mp hm with rfl | hm
        · exact ⟨fun _ => rfl, fun h => (nomatch h)⟩
        · exact tail _ hm
    · rw [addRest_cons_other o rest inodes ho] at hm
      rcases List.mem_cons.mp hm with rfl | hm
      · have : (toMember o).typ ≠ .reg ∧ (toMember o).typ ≠ .lnk := by
          cases o with
          | dev l a c mj mn => cases c <;> exact ⟨nofun, nofun⟩
          | file f => cases ho
          | _ => exact ⟨nofun, nofun⟩
        exact ⟨fun h => absurd h this.1, fun h => absurd h this.2⟩
      · exact tail _ hm

/-- reader: a hard link gets the inode and the data of the member it names, also through a chain
`z → y → x` (tar allows a link to name another link) -/
theorem hardlink_chain (dev : Nat) (st : RState) (nx ny nz ly lz : Str) (a1 a2 a3 : Attrs) (d : Nat)
    (hy : absLink ly = absLoc nx) (hz : absLink lz = absLoc ny)
    (hxy : absLoc ny ≠ absLoc nx) :
    readLoop dev [⟨.reg, nx, [], a1, 0, 0, some d⟩, ⟨.lnk, ny, ly, a2, 0, 0, none⟩, ⟨.lnk, nz, lz, a3, 0, 0, none⟩] st
      = some [.file ⟨absLoc nx, a1, some dev, some st.next, d, st.nsrc⟩,
              .file ⟨absLoc ny, a2, some dev, some st.next, d, st.nsrc + 1⟩,
              .file ⟨absLoc nz, a3, some dev, some st.next, d, st.nsrc + 2⟩] := by
  simp only [readLoop, readMember, Option.getD_some, hy, hz, lookup_seenPut, if_true, if_neg hxy,
    Option.map_some]

/-- the contents sets the theorem speaks about: distinct locations that survive the name mangling,
well-formed device modes, and files of one (dev, inode) class agreeing on attributes and data (true
of every set scanned from disk) -/
structure Good (S : List Obj) : Prop where
  locs : (S.map Obj.loc).Nodup
  paths : ∀ o ∈ S, PathOK o.loc
  devs : ∀ l a c mj mn, Obj.dev l a c mj mn ∈ S → DevModeOK a c
  links : ∀ x y, .file x ∈ S → .file y ∈ S → keyOf x = keyOf y → keySome x = true → x.a = y.a ∧ x.data = y.data

/-- write then read, in full: the entries come back, and for any two files of the set the names they come back
under share an inode iff the files were of one (dev, inode) class -/
theorem tar_roundtrip (c : Nat) (S : List Obj) (hg : Good S) :
    ∃ R, archiveToFsobj c (addContents S) = some R ∧
      R.map obs = (C28.sortBy Obj.loc (S.filter Obj.isDir) ++ S.filter (fun o => !o.isDir)).map obs ∧
      ∀ x y, .file x ∈ S → .file y ∈ S →
        (inoAt R x.loc).isSome = true ∧
        (x.loc ≠ y.loc → (inoAt R x.loc = inoAt R y.loc ↔ keyOf x = keyOf y ∧ keySome x = true)) := by
  -- the members written are the loop's members for the set reordered, directories first
  let L := C28.sortBy Obj.loc (S.filter Obj.isDir) ++ S.filter fun o => !o.isDir
  have hperm : L.Perm S := ((C28.sortBy_perm Obj.loc _).append_right _).trans (List.filter_append_perm Obj.isDir S)
  have hmem : ∀ o, o ∈ L ↔ o ∈ S := fun o => hperm.mem_iff
  have hlocs : (L.map Obj.loc).Nodup := (hperm.map Obj.loc).nodup_iff.mpr hg.locs
  have hwrite : addContents S = addRest L [] := (addRest_append_other _ _ [] fun o ho => by
    have := (List.mem_filter.mp ((C28.sortBy_perm Obj.loc _).mem_iff.mp ho)).2
    cases o <;> first | rfl | cases this).symm
  refine ⟨specRest c L [] (c + 1) 0, ?_, ?_, fun x y hx hy => ?_⟩
  · rw [hwrite]
    exact readLoop_addRest c S hg.paths (fun o ho l a c' mj mn e => hg.devs l a c' mj mn (e ▸ ho))
      (fun x y hx hy hk hks => (hg.links x y hx hy hk hks).1) L [] [] ⟨c + 1, 0, []⟩ (fun o => (hmem o).mp)
      (tablesAgree_nil S) hlocs (fun _ _ => rfl)
  · exact specRest_obs c L [] (c + 1) 0 (fun _ _ _ _ h => (nomatch h))
      fun x y hx hy hk hks => (hg.links x y ((hmem _).mp hx) ((hmem _).mp hy) hk hks).2
  · obtain ⟨i, hi, -⟩ := specRest_inoAt c L [] (c + 1) 0 hlocs x ((hmem _).mpr hx)
    exact ⟨by rw [hi]; rfl,
      specRest_inoAt_eq_iff c L [] (c + 1) 0 (repsOK_nil _) hlocs x y ((hmem _).mpr hx) ((hmem _).mpr hy)⟩

/-- **write then read**: every entry comes back (directories first, sorted; then the rest in set order)
with the same path, type, mode, owner, mtime, target, device numbers and file data, and two files that
were hard links of one another still share one inode. -/
theorem tar_roundtrip_files (c : Nat) (S : List Obj) (hg : Good S) :
    ∃ R, archiveToFsobj c (addContents S) = some R ∧
      R.map obs = (C28.sortBy Obj.loc (S.filter Obj.isDir) ++ S.filter (fun o => !o.isDir)).map obs ∧
      (∀ x y, .file x ∈ S → .file y ∈ S → linked x y →
        inoAt R x.loc = inoAt R y.loc ∧ (inoAt R x.loc).isSome = true) := by
  obtain ⟨R, h1, h2, h3⟩ := tar_roundtrip c S hg
  refine ⟨R, h1, h2, fun x y hx hy hl => ⟨?_, (h3 x y hx hy).1⟩⟩
  by_cases he : x.loc = y.loc
  · rw [he]
  · exact ((h3 x y hx hy).2 he).mpr ((linked_iff x y).mp hl)

/-- **hard links, both directions**: two different names of the set come back with one inode iff they shared
(dev, inode) and were link-compatible (`_can_be_hardlinked`) before -/
theorem tar_roundtrip_inodes_iff (c : Nat) (S : List Obj) (hg : Good S) :
    ∃ R, archiveToFsobj c (addContents S) = some R ∧
      ∀ x y, .file x ∈ S → .file y ∈ S → x.loc ≠ y.loc →
        (inoAt R x.loc).isSome = true ∧
        (inoAt R x.loc = inoAt R y.loc ↔ canLink x y = true) := by
  obtain ⟨R, h1, -, h3⟩ := tar_roundtrip c S hg
  refine ⟨R, h1, fun x y hx hy hne => ⟨(h3 x y hx hy).1, ((h3 x y hx hy).2 hne).trans ?_⟩⟩
  -- `canLink` asks for equal attributes too: files of one class have them (`Good.links`)
  exact ((canLink_iff x y).trans
    ⟨fun ⟨hks, hk, _⟩ => ⟨hk, hks⟩, fun ⟨hk, hks⟩ => ⟨hks, hk, (hg.links x y hx hy hk hks).1⟩⟩).symm

/-- **an empty archive reads as an empty set**, and so does the archive written from the empty set -/
theorem empty_archive_empty (c : Nat) :
    (archiveToFsobj c []).bind convertArchive = some [] ∧ roundTrip c [] = some [] ∧ addContents [] = [] := by
  refine ⟨rfl, rfl, rfl⟩

/-- nothing of the set lies below one of its symlinks, and every parent directory is part of the set -/
structure Plain (raw : List Obj) : Prop where
  locs : (raw.map Obj.loc).Nodup
  nochild : ∀ s ∈ raw, s.isSym = true → childNodes raw s.loc = []
  parents : ∀ o ∈ raw, (raw.any (·.loc == dirName o.loc)) = true ∨ dirName o.loc = ['/'] ∨ dirName o.loc = []

/-- for such a set `convert_archive` neither moves, adds nor drops anything: it only reorders
(directories, then symlinks/fifos/devices, then regular files in archive order) -/
theorem convert_plain (raw : List Obj) (hp : Plain raw) : ∃ R, convertArchive raw = some R ∧ R.Perm raw := by
  have hnochild : ∀ s ∈ symsOf raw, ∀ e ∈ raw, isChild s.loc e.loc = false := fun s hs e he =>
    Bool.eq_false_iff.mpr
      (List.filter_eq_nil_iff.mp (hp.nochild s (List.mem_filter.mp hs).1 (List.mem_filter.mp hs).2) e he)
  -- nothing lies below a symlink: every location is its own resolved place
  have hres : raw.map (moveBy (resolveDir ((passOrder raw).length + 1) (passOrder raw))) = raw :=
    map_moveBy_fix _ raw fun e he => resolveDir_settled _ _ _ ((stepLoc_eq_none _ _).mpr fun s hs =>
      hnochild s ((passOrder_perm raw).mem_iff.mp hs) e he)
  obtain ⟨t1, ht1, -, hconv⟩ := convert_core raw (fun a ha b hb => hnochild a ha b (List.mem_filter.mp hb).1)
    (by rw [hres]; exact hp.locs)
  rw [hres] at ht1
  -- every parent directory is there: the first round of `add_missing_directories` finds nothing
  have hround : roundMissing t1 = [] := List.eq_nil_iff_forall_not_mem.mpr fun p hpm => by
    obtain ⟨⟨e, he, rfl⟩, hno, h1, h2⟩ := (mem_roundMissing t1 p).mp hpm
    rcases hp.parents e (ht1.mem_iff.mp he) with h | h | h
    · obtain ⟨y, hy, hk⟩ := List.any_eq_true.mp h
      exact hno (List.mem_map.mpr ⟨y, ht1.mem_iff.mpr hy, by simpa using hk⟩)
    · exact h1 h
    · exact h2 h
  rw [show addedDirs t1 = [] by unfold addedDirs; rw [missingDirs_succ, hround]; rfl, List.map_nil,
    List.append_nil] at hconv
  exact ⟨_, hconv, (sort3_perm t1).trans ht1⟩

/-- **relocation** (guard: `Relocatable.flat` — no symlink recorded below another symlink — and `Relocatable.depth`;
the statement without `flat` is false of the code, `convert_relocates_counterexample`; with longer resolution
chains than the archive has symlinks the passes stop early, `convert_passes_counterexample`; on a cycle among
symlinks recorded below symlinks the code raises, `convert_cycle_rejected`): for an archive whose
symlinked directories form no cycle, `convert_archive` puts every entry at
the resolved location of its recorded path — chains (`current → stable → v2`) and nests included —, loses and
duplicates nothing (the result is a permutation of the relocated entries plus newly created directories, with
pairwise different locations), leaves alone what needed no relocation, and reaches the fixpoint: no entry of the
result (the created directories included) lies below a symlink of the result -/
theorem convert_relocates_partial (raw : List Obj) (h : Relocatable raw) :
    ∃ (R : List Obj) (added : List Str), convertArchive raw = some R ∧
      R.Perm (raw.map (placeOf raw) ++ added.map newDir) ∧
      (R.map Obj.loc).Nodup ∧
      (∀ e ∈ raw, stepLoc (symsOf raw) e.loc = none → e ∈ R) ∧
      (∀ s ∈ R, s.isSym = true → ∀ o ∈ R, isChild s.loc o.loc = false) := by
  obtain ⟨R, added, h1, h2, h3, _, _, h6, h7⟩ := convert_flat_full raw h
  exact ⟨R, added, h1, h2, h3, h6, h7⟩

/-- **`add_missing_directories`, any set**: the directories created are exactly the proper ancestors of the
entries that are not themselves entries (the root excepted), each once -/
theorem missing_dirs_exact (t : List Obj) :
    (addedDirs t).Nodup ∧ ∀ p, p ∈ addedDirs t ↔ p ∉ t.map Obj.loc ∧ p ≠ ['/'] ∧ p ≠ [] ∧ ∃ e ∈ t, p ∈ ancestors e.loc :=
  ⟨nodup_addedDirs t, missingDirs_spec t⟩

/-- **missing directories** in `convert_archive` (same guard as `convert_relocates_partial`, which describes the
relocated set): the directories created are exactly the proper ancestors of the
relocated entries that are not themselves entries (the root excepted), each once -/
theorem convert_adds_missing_dirs_partial (raw : List Obj) (h : Relocatable raw) :
    ∃ (R : List Obj) (added : List Str), convertArchive raw = some R ∧
      R.Perm (raw.map (placeOf raw) ++ added.map newDir) ∧ added.Nodup ∧
      ∀ p, p ∈ added ↔ p ∉ (raw.map (placeOf raw)).map Obj.loc ∧ p ≠ ['/'] ∧ p ≠ [] ∧
        ∃ e ∈ raw, p ∈ ancestors (placeOf raw e).loc := by
  obtain ⟨R, added, h1, h2, _, h4, h5, _, _⟩ := convert_flat_full raw h
  exact ⟨R, added, h1, h2, h4, h5⟩

/-- **final ordering** (every archive): directories first, by location; then symlinks, fifos and devices, by
location; then the regular files in the order of their data in the archive -/
theorem convert_order (raw R : List Obj) (h : convertArchive raw = some R) :
    ∃ A B C, R = A ++ B ++ C ∧
      (∀ o ∈ A, o.isDir = true) ∧ A.Pairwise (fun a b => a.loc ≤ b.loc) ∧
      (∀ o ∈ B, o.isDir = false ∧ o.isReg = false) ∧ B.Pairwise (fun a b => a.loc ≤ b.loc) ∧
      (∀ o ∈ C, o.isReg = true) ∧ C.Pairwise (fun a b => srcOf a ≤ srcOf b) := by
  unfold convertArchive at h
  simp only at h
  split at h
  · cases h
  · simp only [Option.some.injEq] at h
    refine ⟨_, _, _, h.symm, ?_, C28.sortBy_pairwise Obj.loc _, ?_, C28.sortBy_pairwise Obj.loc _, ?_,
      sortByNat_pairwise _ _⟩
    · intro o ho
      exact (List.mem_filter.mp ((C28.sortBy_perm Obj.loc _).mem_iff.mp ho)).2
    · intro o ho
      have := (List.mem_filter.mp ((C28.sortBy_perm Obj.loc _).mem_iff.mp ho)).2
      simpa using this
    · intro o ho
      exact (List.mem_filter.mp ((sortByNat_perm _ _).mem_iff.mp ho)).2

/-- **name mangling**: every normalised absolute location (`/` followed by non-empty components without `/`,
none of them `.` or `..`) survives `"./" + loc.lstrip("/")` followed by `abspath(join("/", name.strip("/")))` — the
hypothesis `PathOK` of the round-trip theorems — and has the child prefix `loc + "/"` — the hypothesis `LocNorm` of
the relocation theorems -/
theorem pathok_normalised (comps : List Str) (hne : comps ≠ []) (h : ∀ c ∈ comps, GoodComp c) :
    PathOK ('/' :: joinWith '/' comps) ∧ LocNorm ('/' :: joinWith '/' comps) :=
  ⟨pathOK_of_normal comps hne h, locNorm_of_normal comps hne h⟩

example : (∀ c ∈ ["usr".toList, "lib64".toList, "a b.so.1".toList], GoodComp c) ∧
    '/' :: joinWith '/' ["usr".toList, "lib64".toList, "a b.so.1".toList] = "/usr/lib64/a b.so.1".toList := by
  refine ⟨?_, by decide +kernel⟩
  intro c hc
  simp only [List.mem_cons, List.not_mem_nil, or_false] at hc
  rcases hc with rfl | rfl | rfl <;>
    exact ⟨by decide +kernel, by decide +kernel, by decide +kernel, by decide +kernel⟩

/-- two hard-linked files, a directory, a symlink and a character device: satisfies `Good` -/
def exampleSet : List Obj :=
  [.file ⟨"/usr/a".toList, ⟨420, 0, 0, "7.5".toList⟩, some 1, some 2, 11, 0⟩,
   .dir "/usr".toList ⟨493, 0, 0, "5.0".toList⟩,
   .sym "/usr/l".toList "a".toList ⟨511, 0, 0, "9.0".toList⟩,
   .file ⟨"/usr/b".toList, ⟨420, 0, 0, "7.5".toList⟩, some 1, some 2, 11, 0⟩,
   .dev "/null".toList ⟨8630, 0, 0, "1.0".toList⟩ true 1 3]

example : Good exampleSet := by
  refine ⟨by decide +kernel, ?_, ?_, ?_⟩
  · intro o ho
    simp only [exampleSet, List.mem_cons, List.not_mem_nil, or_false] at ho
    rcases ho with rfl | rfl | rfl | rfl | rfl <;> exact ⟨by decide +kernel, by decide +kernel, by decide +kernel⟩
  · intro l a c mj mn h
    simp only [exampleSet, List.mem_cons, List.not_mem_nil, or_false] at h
    rcases h with h | h | h | h | h <;> cases h
    unfold DevModeOK; decide +kernel
  · intro x y hx hy hk hks
    simp only [exampleSet, List.mem_cons, List.not_mem_nil, or_false] at hx hy
    rcases hx with hx | hx | hx | hx | hx <;> cases hx <;>
      rcases hy with hy | hy | hy | hy | hy <;> cases hy <;> exact ⟨rfl, rfl⟩

example : (roundTrip 100 exampleSet).map (List.map inodeOf) = some [none, none, none, some 101, some 101] := by decide +kernel

example : Plain [.dir "/usr".toList ⟨493, 0, 0, []⟩, .file ⟨"/usr/a".toList, ⟨420, 0, 0, []⟩, some 1, some 2, 3, 0⟩,
    .sym "/usr/l".toList "a".toList ⟨511, 0, 0, []⟩] := by
  refine ⟨by decide +kernel, ?_, ?_⟩
  · intro s hs hsym
    simp only [List.mem_cons, List.not_mem_nil, or_false] at hs
    rcases hs with rfl | rfl | rfl
    · simp [Obj.isSym] at hsym
    · simp [Obj.isSym] at hsym
    · decide +kernel
  · intro o ho
    simp only [List.mem_cons, List.not_mem_nil, or_false] at ho
    rcases ho with rfl | rfl | rfl <;> decide +kernel

/-- mode 0755, root, no mtime: the attributes of every entry of the sample archives below -/
def dirAttrs : Attrs := ⟨493, 0, 0, []⟩

/-- `current → stable → v2`, a symlinked directory inside the resolved directory (`v2/lib → lib64`), and a symlink
with a relative `..` target leading into the chain: the longest resolution follows all four symlinks -/
def chainSet : List Obj :=
  [.dir "/opt".toList dirAttrs,
   .sym "/opt/current".toList "stable".toList dirAttrs,
   .sym "/opt/stable".toList "v2".toList dirAttrs,
   .dir "/opt/v2".toList dirAttrs,
   .sym "/opt/v2/lib".toList "lib64".toList dirAttrs,
   .sym "/srv/app".toList "../opt/current".toList dirAttrs,
   .dir "/opt/current/bin".toList dirAttrs,
   .file ⟨"/opt/current/bin/tool".toList, dirAttrs, some 1, some 2, 7, 0⟩,
   .file ⟨"/srv/app/lib/y.so".toList, dirAttrs, some 1, some 3, 8, 1⟩]

example : Relocatable chainSet := relocatable_of_check chainSet (by decide +kernel)

example : chainSet.map (fun e => (placeOf chainSet e).loc) =
    ["/opt", "/opt/current", "/opt/stable", "/opt/v2", "/opt/v2/lib", "/srv/app", "/opt/v2/bin", "/opt/v2/bin/tool",
     "/opt/v2/lib64/y.so"].map String.toList := by decide +kernel

example : (convertArchive chainSet).map (·.map Obj.loc) = some (["/opt", "/opt/v2", "/opt/v2/bin", "/opt/v2/lib64", "/srv",
    "/opt/current", "/opt/stable", "/opt/v2/lib", "/srv/app", "/opt/v2/bin/tool", "/opt/v2/lib64/y.so"].map String.toList) := by
  decide +kernel

/-- a symlink recorded below a symlinked directory (`/p/a/b/c` below `/p/a/b`), whose carrier `/p/a/b` is itself
relocated later (`/q/a → /w` lands on `/p/a`) -/
def nestedSet : List Obj :=
  [.sym "/p/a/b".toList "../z".toList dirAttrs, .sym "/p/a/b/c".toList "tc".toList dirAttrs,
   .sym "/q".toList "/p".toList dirAttrs, .sym "/q/a".toList "/w".toList dirAttrs]

/-- the statement without `flat` is false: the symlinks are relocated in sorted order, `/p/a/b/c` is moved through
`/p/a/b → ../z` while `/p/a/b` still sits at its recorded place, and ends at `/p/z/c`; `/p/a/b` then moves to `/w/b`, so
a live merge (`Spec.mergedLocs`) puts the entry at `/z/c` (open finding C25-symlink-below-symlink-order) -/
theorem convert_relocates_counterexample :
    (convertArchive nestedSet).map (·.map Obj.loc) = some (["/p", "/p/z", "/w", "/p/a", "/p/z/c", "/q", "/w/b"].map String.toList) ∧
    (mergedLocs nestedSet).map (·.lookup "/p/a/b/c".toList) = some (some "/z/c".toList) := by decide +kernel

/-- a symlink to an ancestor directory (`/d/m → /`) lets a resolution run through the same symlinks twice -/
def ancestorLinkSet : List Obj :=
  [.sym "/l".toList "/d".toList dirAttrs, .sym "/d/m".toList "/".toList dirAttrs,
   .file ⟨"/l/m/l/m/x".toList, dirAttrs, none, none, 1, 0⟩]

/-- `range(len(syms) + 1)` passes are not enough then: the file is left at `/d/m/x`, below the symlink `/d/m` (a live
merge resolves it to `/x`; open finding C25-resolution-longer-than-symlinks) -/
theorem convert_passes_counterexample :
    (convertArchive ancestorLinkSet).map (fun R => R.any fun s => s.isSym && R.any fun o => isChild s.loc o.loc) = some true ∧
    relocatableB ancestorLinkSet = false := by decide +kernel

/-- a symlink pointing below itself with a symlink recorded below it -/
def cycleSet : List Obj := [.sym "/a".toList "/a/x".toList dirAttrs, .sym "/a/x".toList "foo".toList dirAttrs]

/-- the loop over the symlinks (formerly `while True`: the code never returned, fixed finding C25-symlink-cycle-hang)
uses up its passes on it and `convert_archive` raises the symlink-loop `AssertionError` -/
theorem convert_cycle_rejected : convertArchive cycleSet = none := by decide +kernel

/-- **termination**: every loop of `convert_archive` is bounded (the model recurses on the bounds of the code, there is
no modelling fuel left), so it returns a result or raises; it raises (`none`) exactly when the loop relocating symlinks
recorded below symlinks uses up its `n² + n + 2` passes, and when that loop ends normally no symlink of its result
lies below another one -/
theorem convert_terminates (raw : List Obj) :
    (convertArchive raw = none ↔
      symLoop (((setOf raw).filter Obj.isSym).length * ((setOf raw).filter Obj.isSym).length
        + ((setOf raw).filter Obj.isSym).length + 2) (setOf ((setOf raw).filter Obj.isSym)) = none) ∧
    (∀ fuel syms F, symLoop fuel syms = some F → ∀ x ∈ F, childNodes F x.loc = []) :=
  ⟨convertArchive_none_iff raw, symLoop_result_flat⟩

end Pkgcore.C25
