import Pkgcore.Proofs.C22
/-!
# C22 — contents sets behave like maps keyed by normalised path

`abs c` is the map a contents set denotes; `WF c` its representation invariant (one entry per key, every location
`Normal`, i.e. a fixed point of `normpath` — what `fsBase.__init__` and the `obj.location`-keyed dict give); `ArgsWF`
asks the same of the entries in an argument.
Model = `Pkgcore/Model/C22.lean` (mirror of `contents.py` after the C22 `fix:` commits), specification =
`Pkgcore/Spec/C22.lean` (pointwise operations on `Path → Option Entry`).
-/
namespace Pkgcore.C22
open Pkgcore.C22.Spec

/-- `os.path.normpath` is idempotent: a normalised path is its own key -/
theorem normpath_idempotent (s : Path) : normpath (normpath s) = normpath s := normpath_idem s

example : normpath "/a//b/./c/../".toList = "/a/b".toList ∧ normpath "//x/..".toList = "//".toList ∧
    normpath "///x".toList = "/x".toList ∧ normpath "a/../..".toList = "..".toList := by decide +kernel

/-- normalising any absolute spelling yields the structural normal form: 1 or 2 leading slashes and clean
components (non-empty, no `/`, not `.`, not `..`) joined by single slashes … -/
theorem normpath_abs_normal (s : Path) (h : s.head? = some '/') : AbsNormal (normpath s) := by
  exact ⟨_, _, initialSlashes_of_rooted h, (normLoop_splitSlash_good true s).clean_of_rooted.reverse,
    normpath_eq_render s h⟩

example : ("/a/../b//".toList).head? = some '/' := by decide +kernel

/-- … that form is a fixed point, and it is unique: two normalised absolute paths are equal iff they have the same root
and the same component list.  So "keyed by normalised path" is "keyed by (root, components)". -/
theorem normal_form_unique (k k' : Nat) (cs cs' : List (List Char)) (hk : k = 1 ∨ k = 2) (hk' : k' = 1 ∨ k' = 2)
    (hcl : Clean cs) (hcl' : Clean cs') :
    normpath (render k cs) = render k cs ∧ (render k cs = render k' cs' ↔ k = k' ∧ cs = cs') :=
  ⟨normpath_render k hk cs hcl, fun h => render_inj hk hk' hcl hcl' h, fun ⟨h1, h2⟩ => by rw [h1, h2]⟩

example : Clean ["usr".toList, "x y".toList, "..b".toList] := by
  intro c hc
  simp only [List.mem_cons, List.not_mem_nil, or_false] at hc
  rcases hc with rfl | rfl | rfl <;> refine ⟨by decide, by decide, by decide, by decide⟩

/-- `cset[x]`, `x in cset`: an entry names its location, a string names its normalisation, whatever its spelling;
an entry and the raw string it was built from name the same key. -/
theorem lookup_refines (c : CSet) (a : Arg) :
    getitem c a = abs c (key a) ∧ contains c a = (abs c).has (key a) ∧
    (∀ raw kind tag, key (.ent (mkEntry raw kind tag)) = key (.path raw)) ∧
    (∀ s s', normpath s = normpath s' → getitem c (.path s) = getitem c (.path s')) := by
  refine ⟨?_, ?_, fun _ _ _ => rfl, ?_⟩
  · cases a <;> rfl
  · cases a <;> rfl
  · intro s s' h
    simp [getitem, keyOf, h]

/-- `contentsSet(iterable)` is the map obtained by inserting the entries in order, and is well formed -/
theorem ofList_refines (l : List Entry) (hl : ∀ e ∈ l, Normal e.loc) :
    abs (ofList l) = Map.ofList l ∧ WF (ofList l) :=
  ⟨abs_ofList l, WF_update WF_nil hl⟩

example : ∀ e ∈ [mkEntry "/a/".toList 0 1, mkEntry "//a".toList 1 2], Normal e.loc := by
  intro e he
  simp only [List.mem_cons, List.not_mem_nil, or_false] at he
  rcases he with rfl | rfl <;> exact mkEntry_normal _ _ _

/-- `add` -/
theorem add_refines (c : CSet) (e : Entry) : abs (add c e) = (abs c).insert e := abs_dictSet c e

/-- `remove` / `del cset[x]`: `KeyError` exactly when the key is absent, otherwise the key is erased -/
theorem remove_refines (c : CSet) (a : Arg) :
    ((abs c).has (key a) = false → delitem c a = none) ∧
    ((abs c).has (key a) = true → ∃ c', delitem c a = some c' ∧ abs c' = (abs c).erase (key a)) := by
  rw [key_eq_keyOf]
  constructor
  · intro (h : hasKey c (keyOf a) = false)
    rw [delitem, h]; rfl
  · intro (h : hasKey c (keyOf a) = true)
    exact ⟨dictDel c (keyOf a), by rw [delitem, if_pos h], abs_dictDel c _⟩

/-- `discard`: the key is erased, whatever its spelling -/
theorem discard_refines (c : CSet) (a : Arg) : abs (discard c a) = (abs c).erase (key a) :=
  key_eq_keyOf a ▸ abs_dictDel c (keyOf a)

example : discard [mkEntry "/a".toList 0 1] (.path "/a/".toList) = [] := by decide +kernel

/-- `difference` (argument: a contentsSet or any iterable of entries and path strings) -/
theorem difference_refines (c : CSet) (o : Other) (h : WF c) :
    abs (difference c o) = Spec.difference (abs c) o := by
  funext p
  rw [abs, difference, lookup_filter (fun q => !otherHas o q) c p]
  show _ = if named o p = true then none else lookup c p
  cases hl : lookup c p with
  | none => simp
  | some e =>
    obtain ⟨he, rfl⟩ := lookup_some hl
    rw [otherHas_of_mem h he]
    cases named o e.loc <;> rfl

/-- `difference_update` -/
theorem difference_update_refines (c : CSet) (o : Other) :
    abs (differenceUpdate c o) = Spec.difference (abs c) o := by
  funext p
  rw [abs_differenceUpdate_apply]
  exact ite_congr (propext (named_iff o p).symm) (fun _ => rfl) fun _ => rfl

/-- `intersection_update`: this map restricted to the keys the argument names -/
theorem intersection_update_refines (c : CSet) (o : Other) (h : WF c) :
    abs (intersectionUpdate c o) = Spec.restrict (abs c) o := by
  funext p
  rw [intersectionUpdate, abs_foldl_dictDel_filter_apply (fun q => !otherHas o q), Spec.restrict]
  cases hl : abs c p with
  | none => simp
  | some e =>
    obtain ⟨he, rfl⟩ := lookup_some hl
    rw [otherHas_of_mem h he, hasKey_iff.2 ⟨e, he, rfl⟩]
    cases named o e.loc <;> rfl

/-- `intersection`: the common keys; an entry in the argument supplies the value, a bare path string selects this
set's own entry -/
theorem intersection_refines (c : CSet) (o : Other) :
    abs (intersection c o) = Spec.intersection (abs c) o := by
  funext p
  rw [intersection, abs_ofList, Map.ofList, insertAll_interItems, Spec.intersection, interVal_eq_getD]
  exact Option.or_none

/-- `union` with an argument made of entries: the union of the two maps, this set's own entries winning -/
theorem union_refines (c : CSet) (o : Other) (h : WF c) (ho : AllEntries o) :
    ∃ r, union c o = some r ∧ abs r = Spec.union (abs c) (argMap o) := by
  obtain ⟨es, he⟩ := entries_of_allEntries ho
  refine ⟨update (ofList es) c, by rw [union, he]; rfl, ?_⟩
  funext p
  rw [abs_update, insertAll_apply, ← abs_ofList c, ofList_self c h.1, argMap_of_entries he, abs_ofList]
  rfl

/-- `symmetric_difference_update` with an argument made of entries (a contentsSet argument is itself well formed) -/
theorem symmetric_difference_update_refines (c : CSet) (o : Other) (ho : AllEntries o)
    (hw : ∀ c', o = .cset c' → WF c') :
    ∃ r, symmetricDifferenceUpdate c o = some r ∧ abs r = Spec.symmDiff (abs c) (argMap o) := by
  cases o with
  | cset c' =>
    refine ⟨symDiffCore c c', rfl, ?_⟩
    rw [abs_symDiffCore, argMap_of_entries (o := .cset c') rfl, ← abs_ofList c', ofList_self c' (hw c' rfl).1]
  | items l =>
    obtain ⟨es, he⟩ := entries_of_allEntries ho
    exact ⟨symDiffCore c (ofList es), by rw [symmetricDifferenceUpdate, he]; rfl, by
      rw [abs_symDiffCore, abs_ofList, argMap_of_entries he]⟩

/-- `symmetric_difference` (the copying form) -/
theorem symmetric_difference_refines (c : CSet) (o : Other) (h : WF c) (ho : AllEntries o)
    (hw : ∀ c', o = .cset c' → WF c') :
    ∃ r, symmetricDifference c o = some r ∧ abs r = Spec.symmDiff (abs c) (argMap o) := by
  obtain ⟨r, hr, habs⟩ := symmetric_difference_update_refines (ofList c) o ho hw
  exact ⟨r, hr, by rw [habs, ofList_self c h.1]⟩

/-- `update` with entries: the argument's entries win, in order -/
theorem update_refines (c : CSet) (o : Other) (ho : AllEntries o) :
    ∃ r, updateOther c o = some r ∧ abs r = Spec.updated (abs c) (argMap o) := by
  obtain ⟨es, he⟩ := entries_of_allEntries ho
  refine ⟨update c es, by rw [updateOther, he]; rfl, ?_⟩
  funext p
  rw [abs_update, insertAll_apply, argMap_of_entries he]
  rfl

/-- the operations that need values refuse an argument containing a bare path string (Python: `TypeError`,
`ValueError`, `AttributeError`), they never guess a value -/
theorem value_ops_reject_bare_paths (c : CSet) (o : Other) (ho : ¬ AllEntries o) :
    union c o = none ∧ symmetricDifference c o = none ∧ symmetricDifferenceUpdate c o = none ∧
      updateOther c o = none := by
  have he : o.entries = none := by
    cases h : o.entries with
    | none => rfl
    | some es => exact absurd (allEntries_of_entries h) ho
  cases o with
  | cset c' => cases he
  | items l => simp [union, symmetricDifference, symmetricDifferenceUpdate, updateOther, he]

example : ¬ AllEntries (.items [.ent (mkEntry "/a".toList 0 1), .path "/b".toList]) := by
  intro h
  obtain ⟨e, he⟩ := h (.path "/b".toList) (by simp [Other.args])
  cases he

example : AllEntries (.items [.ent (mkEntry "/a".toList 0 1)]) ∧ AllEntries (.cset [mkEntry "/a".toList 0 1]) := by
  constructor
  · intro a ha
    simp only [Other.args, List.mem_singleton] at ha
    exact ⟨_, ha⟩
  · intro a ha
    simp only [Other.args, List.map_cons, List.map_nil, List.mem_singleton] at ha
    exact ⟨_, ha⟩

/-- `issubset`: every key of this set is named by the argument -/
theorem issubset_iff (c : CSet) (o : Other) (h : WF c) : issubset c o = true ↔ Spec.Subset (abs c) o := by
  rw [issubset, List.all_eq_true]
  constructor
  · intro hall p hp
    obtain ⟨e, he, rfl⟩ := hasKey_iff.1 hp
    exact otherHas_of_mem h he o ▸ hall e he
  · intro hsub e he
    exact (otherHas_of_mem h he o).trans (hsub e.loc (hasKey_iff.2 ⟨e, he, rfl⟩))

/-- `issuperset`: every key the argument names (entries real `fsBase` objects) is a key of this set -/
theorem issuperset_iff (c : CSet) (o : Other) (ho : ArgsWF o.args) :
    issuperset c o = true ↔ Spec.Superset (abs c) o := by
  have hnorm : ∀ a ∈ o.args, Normal (keyOf a) := by
    intro a ha
    cases a with
    | ent e => exact ho e ha
    | path s => exact normpath_idem s
  -- whatever the kind of argument, every item's key is looked up (a string's key is normalised once more)
  have hiter : issuperset c o = true ↔ ∀ a ∈ o.args, hasKey c (keyOf a) = true := by
    cases o with
    | cset c' =>
      simp only [issuperset, Other.args, List.all_eq_true, List.mem_map, forall_exists_index, and_imp,
        forall_apply_eq_imp_iff₂]
      rfl
    | items l =>
      simp only [issuperset, convertLoc, Other.args, List.all_eq_true, List.mem_map, forall_exists_index, and_imp,
        forall_apply_eq_imp_iff₂]
      exact forall₂_congr fun a ha => by rw [contains, keyOf, hnorm a ha]
  rw [hiter]
  constructor
  · intro hall p hp
    obtain ⟨a, ha, rfl⟩ := (named_iff o p).1 hp
    exact hall a ha
  · intro hsup a ha
    exact hsup _ ((named_iff o _).2 ⟨a, ha, rfl⟩)

/-- `isdisjoint`: no key of this set is named by the argument -/
theorem isdisjoint_iff (c : CSet) (o : Other) (h : WF c) : isdisjoint c o = true ↔ Spec.Disjoint (abs c) o := by
  rw [isdisjoint, Bool.not_eq_true', List.any_eq_false]
  constructor
  · rintro hall p ⟨hp, hn⟩
    obtain ⟨e, he, rfl⟩ := hasKey_iff.1 hp
    exact hall e he (otherHas_of_mem h he o ▸ hn)
  · intro hdis e he hoh
    exact hdis e.loc ⟨hasKey_iff.2 ⟨e, he, rfl⟩, otherHas_of_mem h he o ▸ hoh⟩

example : WF [mkEntry "/a/".toList 0 1, mkEntry "//a".toList 1 2] := by
  refine ⟨by decide +kernel, ?_⟩
  intro e he
  simp only [List.mem_cons, List.not_mem_nil, or_false] at he
  rcases he with rfl | rfl <;> exact mkEntry_normal _ _ _

example : ArgsWF (Other.items [.ent (mkEntry "/a/.".toList 0 1), .path "/a/".toList]).args := by
  intro e he
  simp only [Other.args, List.mem_cons, Arg.ent.injEq, List.not_mem_nil, or_false, reduceCtorEq] at he
  subst he
  exact mkEntry_normal _ _ _

/-- every operation returns a well-formed set (one entry per key, normalised locations) when given well-formed
sets and real entries -/
theorem operations_preserve_wf (c : CSet) (o : Other) (a : Arg) (e : Entry) (old new : Path) (t : Nat)
    (h : WF c) (he : Normal e.loc) (ho : ArgsWF o.args) :
    WF (add c e) ∧ WF (discard c a) ∧ (∀ r, delitem c a = some r → WF r) ∧
    WF (difference c o) ∧ WF (differenceUpdate c o) ∧ WF (intersection c o) ∧ WF (intersectionUpdate c o) ∧
    (∀ r, union c o = some r → WF r) ∧ (∀ r, symmetricDifference c o = some r → WF r) ∧
    (∀ r, symmetricDifferenceUpdate c o = some r → WF r) ∧ (∀ r, updateOther c o = some r → WF r) ∧
    (∀ r, changeOffset c old new = some r → WF r) ∧ WF (addMissingDirectories c t) :=
  ⟨WF_dictSet h he, WF_dictDel _ h,
    -- `remove` returns what `discard` does, or raises
    fun _ hr => Option.some.inj (Option.ite_none_right_eq_some.1 hr).2 ▸ WF_dictDel _ h,
    WF_filter _ h, WF_differenceUpdate h o, WF_intersection h ho, WF_foldl_dictDel _ h,
    -- `union`: `contentsSet(other)`, then `update(self)`
    fun _ => WF_of_entries ho fun _ hes => WF_update (WF_update WF_nil hes) h.2,
    -- `symmetric_difference` works on a copy
    fun _ => WF_symmetricDifferenceUpdate (WF_update WF_nil h.2) ho,
    fun _ => WF_symmetricDifferenceUpdate h ho,
    fun _ => WF_of_entries ho fun _ hes => WF_update h hes,
    fun _ => WF_changeOffset _,
    WF_addMissingDirectories h t⟩

/-- `len(cset)` is the number of keys of the map -/
theorem len_counts_keys (c : CSet) (h : WF c) (ks : List Path) (hnd : ks.Nodup)
    (hks : ∀ p, p ∈ ks ↔ (abs c).has p = true) : c.length = ks.length := by
  have hperm : (c.map (·.loc)).Perm ks := by
    rw [List.perm_ext_iff_of_nodup h.1 hnd]
    intro p
    rw [hks]
    show p ∈ c.map (·.loc) ↔ hasKey c p = true
    rw [hasKey_iff, List.mem_map]
  simpa using hperm.length_eq

example : (abs [mkEntry "/a".toList 0 1]).has "/a".toList = true := by decide +kernel

/-- **Relocating replaces the old prefix with the new one.**  `old` may be any spelling of the old offset (its
normal form is `render k cs0`; the empty string counts as `/`), `new` any absolute spelling of the new one; a
location under the old offset, `render k (cs0 ++ rel)`, is rewritten to the normal form of `new` followed by the same
relative components. -/
theorem change_offset_prefix (old new : Path) (k : Nat) (cs0 rel : List (List Char)) (hk : k = 1 ∨ k = 2)
    (hcl0 : Clean cs0) (hrel : Clean rel)
    (hold : normpath (if old = [] then ['/'] else old) = render k cs0) (hnew : new.head? = some '/') :
    ∃ k' cs1, (k' = 1 ∨ k' = 2) ∧ Clean cs1 ∧ normpath new = render k' cs1 ∧
      rewriteLoc (offsetLen old) new (render k (cs0 ++ rel)) = render k' (cs1 ++ rel) ∧
      Relocated (render k cs0) (normpath new) (render k (cs0 ++ rel))
        (rewriteLoc (offsetLen old) new (render k (cs0 ++ rel))) := by
  obtain ⟨k', cs1, hk', hcl1, hnp, hrw⟩ := rewriteLoc_spec old new k cs0 hcl0 hold hnew
  exact ⟨k', cs1, hk', hcl1, hnp, hrw rel hrel,
    ⟨k, cs0, rel, k', cs1, hk, hk', hcl0, hrel, hcl1, rfl, rfl, hnp, hrw rel hrel⟩⟩

example : normpath (if "/usr/.".toList = [] then ['/'] else "/usr/.".toList) = render 1 ["usr".toList] := by
  decide +kernel

/-- relocation of a whole set whose entries all lie under the old offset: every entry keeps kind and attributes and
moves to the relocated path; no two entries collide, the result is well formed and has the same size -/
theorem change_offset_set (c : CSet) (old new : Path) (k : Nat) (cs0 : List (List Char)) (hk : k = 1 ∨ k = 2)
    (hcl0 : Clean cs0) (hwf : WF c)
    (hold : normpath (if old = [] then ['/'] else old) = render k cs0) (hnew : new.head? = some '/')
    (hunder : ∀ e ∈ c, ∃ rel, Clean rel ∧ e.loc = render k (cs0 ++ rel)) :
    ∃ r, changeOffset c old new = some r ∧ WF r ∧ r.length = c.length ∧
      (∀ e ∈ c, ∃ e' ∈ r, e'.kind = e.kind ∧ e'.tag = e.tag ∧ Relocated (render k cs0) (normpath new) e.loc e'.loc) ∧
      (∀ e' ∈ r, ∃ e ∈ c, e'.kind = e.kind ∧ e'.tag = e.tag ∧ Relocated (render k cs0) (normpath new) e.loc e'.loc) := by
  obtain ⟨k', cs1, hk', hcl1, hnp, hrw⟩ := rewriteLoc_spec old new k cs0 hcl0 hold hnew
  -- of the rewriter `g` nothing but `hrw` is used
  unfold changeOffset
  generalize rewriteLoc (offsetLen old) new = g at hrw ⊢
  have hrel : ∀ e ∈ c, Relocated (render k cs0) (normpath new) e.loc (g e.loc) := by
    intro e he
    obtain ⟨rel, hrel, hloc⟩ := hunder e he
    exact ⟨k, cs0, rel, k', cs1, hk, hk', hcl0, hrel, hcl1, rfl, hloc, hnp, hloc ▸ hrw rel hrel⟩
  have hinj : ((c.map (·.loc)).map g).Nodup := by
    apply Lib.nodup_map_on hwf.1
    intro p1 hp1 p2 hp2 heq
    obtain ⟨e1, he1, rfl⟩ := List.mem_map.1 hp1
    obtain ⟨e2, he2, rfl⟩ := List.mem_map.1 hp2
    exact (hrel e1 he1).inj (heq ▸ hrel e2 he2)
  have hres := changeOffset_eq_map g c (fun e he => (hrel e he).absNormal) hinj
  refine ⟨_, hres, WF_changeOffset g hres, List.length_map _, fun e he => ?_, fun e' he' => ?_⟩
  · exact ⟨_, List.mem_map.2 ⟨e, he, rfl⟩, rfl, rfl, hrel e he⟩
  · obtain ⟨e, he, rfl⟩ := List.mem_map.1 he'
    exact ⟨e, he, rfl, rfl, hrel e he⟩

example : ∀ e ∈ [mkEntry "/usr/bin/x".toList 0 1, mkEntry "/usr".toList 1 2],
    ∃ rel, Clean rel ∧ e.loc = render 1 (["usr".toList] ++ rel) := by
  intro e he
  simp only [List.mem_cons, List.not_mem_nil, or_false] at he
  rcases he with rfl | rfl
  · refine ⟨["bin".toList, "x".toList], ?_, by decide +kernel⟩
    intro c hc
    simp only [List.mem_cons, List.not_mem_nil, or_false] at hc
    rcases hc with rfl | rfl <;> exact ⟨by decide, by decide, by decide, by decide⟩
  · exact ⟨[], by intro c hc; simp at hc, by decide +kernel⟩

/-- **The ancestor loop terminates.**  The model's `climb` is a total function (well-founded recursion on the length
of the path) and satisfies the defining equation of the Python loop
`while target not in missing and target not in self: missing.add(target); target = dirname(target)` for every input
— in particular at the root, where `dirname` stops shortening the path. -/
theorem climb_terminates (c : CSet) (missing : List Path) (t : Path) :
    climb c missing t =
      if t ∈ missing ∨ contains c (.path t) then missing else climb c (setAdd missing t) (dirname t) := by
  rw [climb]
  split
  · rfl
  · split
    · rfl
    · rename_i h hlt
      rw [dirname_eq_self t hlt, climb, if_pos (Or.inl (mem_setAdd.2 (Or.inr rfl)))]

example : climb [] [] "/a/b".toList = ["/a/b".toList, "/a".toList, "/".toList] := by
  rw [climb_terminates, if_neg (by decide +kernel), climb_terminates, if_neg (by decide +kernel), climb_terminates,
    if_neg (by decide +kernel), climb_terminates, if_pos (by decide +kernel)]
  decide +kernel

/-- **Completing missing directories adds exactly the absent ancestors other than `/`.**  For a well-formed set of
absolute locations: the result is well formed, every existing entry is untouched, and a path absent from the set is in
the result iff it is not `/` and is a proper ancestor of some entry — in which case it is a directory with the
requested attributes. -/
theorem missing_dirs_exact (c : CSet) (t : Nat) (hwf : WF c) (habs : ∀ e ∈ c, AbsNormal e.loc) :
    WF (addMissingDirectories c t) ∧
    (∀ p e, abs c p = some e → abs (addMissingDirectories c t) p = some e) ∧
    (∀ p, abs c p = none →
      (abs (addMissingDirectories c t) p = none ∨ abs (addMissingDirectories c t) p = some ⟨p, kindDir, t⟩) ∧
      ((abs (addMissingDirectories c t) p).isSome ↔ (p ≠ ['/'] ∧ ∃ e ∈ c, ProperAncestor p e.loc))) := by
  have hM := mem_collected c habs
  refine ⟨WF_addMissingDirectories hwf t, fun p e hpe => ?_, fun p hp => ?_⟩
  · -- a key of the set has not been collected
    rw [abs_addMissingDirectories_apply c t habs, hpe, if_neg fun h => ?_]
    · rfl
    · have hk : hasKey c p = true := congrArg Option.isSome hpe
      rw [((hM p).1 h.1).1] at hk
      cases hk
  · have hk : hasKey c p = false := congrArg Option.isSome hp
    rw [abs_addMissingDirectories_apply c t habs, hp, Option.or_none]
    split
    · rename_i h
      exact ⟨Or.inr rfl, fun _ => ⟨h.2, ((hM p).1 h.1).2⟩, fun _ => rfl⟩
    · rename_i h
      exact ⟨Or.inl rfl, fun h' => (nomatch h'), fun h' => absurd ⟨(hM p).2 ⟨hk, h'.2⟩, h'.1⟩ h⟩

example : AbsNormal (mkEntry "/a/b//c".toList 0 1).loc := normpath_abs_normal "/a/b//c".toList (by decide +kernel)

/-- a value-returning method (difference, intersection, union, symmetric_difference, change_offset) hands back a *new*
object holding its result — never `self`, whatever the arguments — and leaves every existing object as it was -/
theorem fresh_result_is_new_object (h : Heap) (i : Nat) (f : CSet → Option CSet) (c r : CSet)
    (hi : h[i]? = some c) (hf : f c = some r) :
    h.length ≠ i ∧ (h.step (.fresh i f))[h.length]? = some r ∧ ∀ j, j < h.length → (h.step (.fresh i f))[j]? = h[j]? := by
  obtain ⟨hlt, _⟩ := List.getElem?_eq_some_iff.1 hi
  refine ⟨Nat.ne_of_gt hlt, ?_, ?_⟩
  · simp [Heap.step, hi, hf]
  · intro j hj
    simp [Heap.step, hi, hf, List.getElem?_append_left hj]

example : ([ofList [mkEntry "/a".toList 0 1]] : Heap)[0]? = some (ofList [mkEntry "/a".toList 0 1]) ∧
    changeOffset (ofList [mkEntry "/a".toList 0 1]) "/".toList "/".toList = some (ofList [mkEntry "/a".toList 0 1]) := by
  decide +kernel

/-- **Sets are independent maps.**  After any sequence of calls on any objects, object `j` is its initial value with
exactly the in-place calls addressed to `j` applied, in order: no call on another object — in particular on a set that
was computed from `j`, or that `j` was computed from — shows up in it. -/
theorem object_history (l : List Step) (h : Heap) (j : Nat) (c : CSet) (hj : h[j]? = some c) :
    (h.run l)[j]? = some ((l.filterMap (Step.editOf j)).foldl (fun c f => f c) c) := by
  induction l generalizing h c with
  | nil => simpa [Heap.run] using hj
  | cons s l ih =>
    rw [show Heap.run h (s :: l) = Heap.run (h.step s) l from rfl, ih (h.step s) _ (step_object h s j c hj)]
    cases he : s.editOf j <;> simp [he]

example : Heap.run [[], []] [.inPlace 0 (fun c => add c (mkEntry "/a".toList 0 1)), .inPlace 1 (fun c => add c (mkEntry "/b".toList 1 2))]
    = [[mkEntry "/a".toList 0 1], [mkEntry "/b".toList 1 2]] := by decide +kernel

/-- relocation in particular: `r = c.change_offset(old, new)` — any offsets, also the same prefix on both sides — is
object 1 next to the source (object 0); calls that do not edit the source leave it `c`, calls that do not edit the
relocated set leave it `r` -/
theorem relocated_set_independent (c r : CSet) (old new : Path) (l : List Step) (hr : changeOffset c old new = some r) :
    ((∀ s ∈ l, s.editOf 0 = none) → (Heap.run [c] (Step.relocate 0 old new :: l))[0]? = some c) ∧
    ((∀ s ∈ l, s.editOf 1 = none) → (Heap.run [c] (Step.relocate 0 old new :: l))[1]? = some r) := by
  have hstep : Heap.step [c] (Step.relocate 0 old new) = [c, r] := by
    simp [Heap.step, Step.relocate, hr]
  have hobj : ∀ (j : Nat) (x : CSet), ([c, r] : Heap)[j]? = some x → (∀ s ∈ l, s.editOf j = none) →
      (Heap.run [c] (Step.relocate 0 old new :: l))[j]? = some x := by
    intro j x hx hall
    rw [show Heap.run [c] (Step.relocate 0 old new :: l) =
        Heap.run (Heap.step [c] (Step.relocate 0 old new)) l from rfl, hstep,
      object_history l [c, r] j x hx, List.filterMap_eq_nil_iff.2 hall]
    rfl
  exact ⟨hobj 0 c rfl, hobj 1 r rfl⟩

/-- a relocation onto the same prefix (respelled), then `add` on the relocated set and `discard` on the source: each set
sees only its own edit -/
example : Heap.run [ofList [mkEntry "/i/a".toList 0 1, mkEntry "/i/b".toList 1 2]]
      [Step.relocate 0 "/i/".toList "/i/.".toList, .inPlace 1 (fun c => add c (mkEntry "/i/c".toList 0 3)),
       .inPlace 0 (fun c => discard c (.path "/i//a/".toList))]
    = [[mkEntry "/i/b".toList 1 2],
       [mkEntry "/i/a".toList 0 1, mkEntry "/i/b".toList 1 2, mkEntry "/i/c".toList 0 3]] := by decide +kernel

end Pkgcore.C22
