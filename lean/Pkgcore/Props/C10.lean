import Pkgcore.Proofs.C10
/-!
# C10 — REQUIRED_USE solving is sound, complete and preference-first

Property theorems only.  `compiled`/`MC.eval`/`evalSingle` mirror `__to_multiple_constraint`/`__condition`/
`__to_single_constraint`, `domainOf`/`variables` the `add_variable` calls of `find_constraint_satisfaction`, and
`solve` is the cartesian product of the domains filtered by the compiled constraints — the **contract** recorded
for `snakeoil.constraints.Problem` (checked against the real solver on every run; proved of the model of that solver in
`Props/C10Solver`, `faithful_perm_contract`).
`evalRU` is the REQUIRED_USE semantics pkgcore checks configured packages with.
-/
namespace Pkgcore.C10
open Pkgcore.C09 Pkgcore.C10.Spec

/-- **Splitting preserves the conjunction**: the several constraints `__to_multiple_constraint` yields hold together
exactly when the single compiled constraint of every top-level rule holds — for every structure and assignment. -/
theorem split_preserves_conjunction (ts : List Dep) (on : List Tok) :
    (compiled ts).all (·.eval on) = allSingle on ts :=
  (toMultiple_single on).2 ts

/- Full statement (false of the model, see the counterexample; open finding C10-unmet-conditional-in-choice-group):
     ∀ ts on, nonEmptyL ts → (compiled ts).all (·.eval on) = evalRU ts on -/
/-- **The compiled constraints are the REQUIRED_USE semantics** for every structure that has no use-conditional below a
`||`/`^^`/`??` group (any nesting of conditionals and all-of groups around, any choice groups inside). -/
theorem compile_equiv_partial (ts : List Dep) (on : List Tok) (hg : choiceCondFreeL ts = true)
    (hne : nonEmptyL ts = true) :
    (compiled ts).all (·.eval on) = evalRU ts on := by
  rw [split_preserves_conjunction, (guarded_single on).2 ts hg hne]; rfl

/-- `a? ( ^^ ( b c ) ) !a? ( || ( b !c ) )` -/
example : choiceCondFreeL [.cond false ['a'] [.grp .justOne [.leaf ['b'] none, .leaf ['c'] none]],
    .cond true ['a'] [.grp .or [.leaf ['b'] none, .leaf ['!', 'c'] none]]] = true := by decide +kernel

/-- `|| ( x? ( a ) b )` with everything off: the compiled constraint holds (the unmet conditional counts as a satisfied
member), the REQUIRED_USE as checked at build time (`|| ( b )`) does not. -/
theorem compile_equiv_counterexample :
    let ts : List Dep := [.grp .or [.cond false ['x'] [.leaf ['a'] none], .leaf ['b'] none]]
    (compiled ts).all (·.eval []) = true ∧ evalRU ts [] = false := by decide +kernel

/-- **Domains**: every assignment the solver can produce keeps forced-off flags and flags outside IUSE off and
forced-on flags on. -/
theorem domains_correct (inp : Inputs) (ts : List Dep) (a : List (Tok × Bool)) (ha : a ∈ solve inp ts)
    (v : Tok) (b : Bool) (hv : (v, b) ∈ a) :
    (v ∉ inp.iuse → b = false) ∧ (v ∈ inp.iuse → v ∈ inp.forceF → b = false) ∧
    (v ∈ inp.iuse → v ∈ inp.forceT → v ∉ inp.forceF → b = true) := by
  have hb : b ∈ domainOf inp v :=
    inProd_domain (domainOf inp) _ a (dedup_nodup _) ((mem_product _ a).mp (List.mem_filter.mp ha).1) (v, b) hv
  rcases domainOf_cases inp v with ⟨h, e⟩ | ⟨h1, h2, _, e⟩ | ⟨h1, h2, h3, _, e⟩ | ⟨h1, h2, h3, _, e⟩
  all_goals rw [e] at hb
  · have hb : b = false := by simpa using hb
    exact ⟨fun _ => hb, fun _ _ => hb, fun hi _ hf => h.elim (absurd hi) (absurd · hf)⟩
  · exact ⟨(absurd h1 ·), fun _ hf => absurd hf h2, fun _ _ _ => by simpa using hb⟩
  · exact ⟨(absurd h1 ·), fun _ hf => absurd hf h2, fun _ ht => absurd ht h3⟩
  · exact ⟨(absurd h1 ·), fun _ hf => absurd hf h2, fun _ ht => absurd ht h3⟩

/-- **Forced flags outside IUSE do not count**: a flag the profile forces on or off but the package does not have in IUSE
is simply off, so the answer is the one for the forced sets cut down to IUSE — whatever rules mention the flag, also
rules all of whose flags are pinned. -/
theorem forced_outside_iuse_ignored (inp : Inputs) (ts : List Dep) :
    solve inp ts = solve (restrictForced inp) ts := by
  have h : ∀ v, domainOf inp v = domainOf (restrictForced inp) v := by
    intro v
    unfold domainOf restrictForced
    by_cases hv : v ∈ inp.iuse
    · simp [hv, List.mem_filter]
    · simp [hv]
  unfold solve
  have hvars : variables (restrictForced inp) ts = variables inp ts := rfl
  rw [hvars]
  congr 2
  exact List.map_congr_left fun v _ => by rw [h v]

/-- `x? ( a )`, IUSE a b, the profile forces `x` on (not in IUSE, hence off) and `a` off: the rule is met, `b` is free -/
example : (solve ⟨[['a'], ['b']], [['x']], [['a']], []⟩ [.cond false ['x'] [.leaf ['a'] none]]).map onOf
    = [[], [['b']]] := by decide +kernel
/-- `a` with `a` forced on but outside IUSE: no solution -/
example : solve ⟨[['z']], [['a'], ['z']], [], []⟩ [.leaf ['a'] none] = [] := by decide +kernel

/-- **Sound**: every produced assignment satisfies the compiled constraints, hence (guard) the REQUIRED_USE. -/
theorem solutions_sound (inp : Inputs) (ts : List Dep) (a : List (Tok × Bool)) (ha : a ∈ solve inp ts) :
    (compiled ts).all (·.eval (onOf a)) = true ∧
    (choiceCondFreeL ts = true → nonEmptyL ts = true → evalRU ts (onOf a) = true) := by
  have h := (List.mem_filter.mp ha).2
  exact ⟨h, fun hg hne => by rw [← compile_equiv_partial ts _ hg hne]; exact h⟩

/-- **Complete**: every assignment that gives each variable a value of its domain and satisfies the REQUIRED_USE (guard)
is produced. -/
theorem solutions_complete (inp : Inputs) (ts : List Dep) (a : List (Tok × Bool))
    (hdom : inProd a ((variables inp ts).map fun v => (v, domainOf inp v)) = true)
    (hg : choiceCondFreeL ts = true) (hne : nonEmptyL ts = true) (hsat : evalRU ts (onOf a) = true) :
    a ∈ solve inp ts := by
  unfold solve
  rw [List.mem_filter]
  exact ⟨(mem_product _ a).mpr hdom, by rw [compile_equiv_partial ts _ hg hne]; exact hsat⟩

/-- **Exactly once**. -/
theorem solutions_nodup (inp : Inputs) (ts : List Dep) : (solve inp ts).Nodup := by
  unfold solve
  apply List.Pairwise.filter
  apply product_nodup
  intro d hd
  simp only [List.mem_map] at hd
  obtain ⟨v, _, rfl⟩ := hd
  exact domainOf_nodup inp v

/-- **Preference first**: when the preferred assignment (forced flags as forced, preferred flags on, every other flag
off) satisfies the constraints, it is the first solution. -/
theorem preferred_first (inp : Inputs) (ts : List Dep)
    (h : (compiled ts).all (·.eval (onOf (preferred inp (variables inp ts)))) = true) :
    (solve inp ts).head? = some (preferred inp (variables inp ts)) := by
  unfold solve
  have hh := product_head ((variables inp ts).map fun v => (v, domainOf inp v))
    (by intro d hd; simp only [List.mem_map] at hd; obtain ⟨v, _, rfl⟩ := hd; exact domainOf_ne_nil inp v)
  have hp : ((variables inp ts).map fun v => (v, domainOf inp v)).map (fun d => (d.1, d.2.getLast?.getD false))
      = preferred inp (variables inp ts) := by simp [preferred, List.map_map, Function.comp_def]
  rw [hp] at hh
  obtain ⟨as, hprod⟩ := List.head?_eq_some_iff.mp hh
  rw [hprod, List.filter_cons_of_pos (by exact h), List.head?_cons]

/-- `^^ ( a b ) c? ( a )`, IUSE a b c, prefer b: three solutions, the preferred one (b alone) first -/
example : (solve ⟨[['a'], ['b'], ['c']], [], [], [['b']]⟩
    [.grp .justOne [.leaf ['a'] none, .leaf ['b'] none], .cond false ['c'] [.leaf ['a'] none]]).map onOf
    = [[['b']], [['a']], [['c'], ['a']]] := by decide +kernel

/-- **The preferred assignment is the one the property words** — stated flag by flag, with no reference to `domainOf` or
to the order of its values (`preferred` above is "the last value of every domain"; a model that listed the two-valued
domains the other way round would still satisfy `preferred_first`, but not this): the preferred assignment gives every
variable of the problem exactly one value, and that value is *on* iff the package has the flag (IUSE) and either the
flag is forced on, or it is not forced off and is in the preferred-on set.  Hence: forced-on flags on, forced-off flags
off, preferred flags on, all others — and, as `find_constraint_satisfaction` intersects every set with `iuse` and gives
the remaining mentioned flags the domain `(False,)`, every flag outside IUSE whether forced or preferred — off.
Hypothesis: no IUSE flag is forced both ways (`add_variable` raises AssertionError for such a query). -/
theorem preferred_is_property_preference (inp : Inputs) (vars : List Tok)
    (hdis : ∀ f, f ∈ inp.iuse → f ∈ inp.forceT → f ∉ inp.forceF) :
    (preferred inp vars).map (·.1) = vars ∧
    ∀ v b, (v, b) ∈ preferred inp vars →
      (b = true ↔ v ∈ inp.iuse ∧ (v ∈ inp.forceT ∨ (v ∉ inp.forceF ∧ v ∈ inp.preferT))) := by
  rw [preferred_eq_wording inp vars hdis]
  refine ⟨by simp [preferredByWording, List.map_map, Function.comp_def], fun v b hvb => ?_⟩
  simp only [preferredByWording, List.mem_map, Prod.mk.injEq] at hvb
  obtain ⟨w, _, rfl, rfl⟩ := hvb
  simp [preferredOn]

/-- IUSE a b c d e; a forced on, b forced off (and in the preferred set: forcing wins), c preferred, d plain; e preferred but
also forced off; y forced on and z preferred but both outside IUSE: exactly a and c are on -/
example : preferred ⟨[['a'], ['b'], ['c'], ['d'], ['e']], [['a'], ['y']], [['b'], ['e']], [['b'], ['c'], ['e'], ['z']]⟩
      [['a'], ['b'], ['c'], ['d'], ['e'], ['y'], ['z']]
    = [(['a'], true), (['b'], false), (['c'], true), (['d'], false), (['e'], false), (['y'], false), (['z'], false)] := by
  decide +kernel
/-- the hypothesis holds of that input -/
example : ∀ f, f ∈ [['a'], ['b'], ['c'], ['d'], ['e']] → f ∈ [['a'], ['y']] → f ∉ ([['b'], ['e']] : List Tok) := by
  decide +kernel

/- Full statement (no hypothesis) is false of the model: with a flag of IUSE in both forced sets the model's domain is
`[false]` while the wording says "forced on"; the real code raises AssertionError there, so there is no answer to compare. -/
/-- a in IUSE forced both ways: the model says off, the wording's first clause (forced on) says on -/
theorem preferred_is_property_preference_counterexample :
    preferred ⟨[['a']], [['a']], [['a']], []⟩ [['a']] = [(['a'], false)] ∧
    preferredByWording ⟨[['a']], [['a']], [['a']], []⟩ [['a']] = [(['a'], true)] := by decide +kernel

/-- **Preference first, in the property's words** (contract model): when the assignment "forced flags as forced,
preferred flags on, all others off" satisfies the constraints, it is the first solution. -/
theorem preferred_first_property (inp : Inputs) (ts : List Dep)
    (hdis : ∀ f, f ∈ inp.iuse → f ∈ inp.forceT → f ∉ inp.forceF)
    (h : (compiled ts).all (·.eval (onOf (preferredByWording inp (variables inp ts)))) = true) :
    (solve inp ts).head? = some (preferredByWording inp (variables inp ts)) := by
  rw [← preferred_eq_wording inp _ hdis] at h ⊢
  exact preferred_first inp ts h

/-- `|| ( a b c d )`, IUSE a b c d, a forced on, b forced off, c preferred, d plain: the first solution is a and c on -/
example : ((solve ⟨[['a'], ['b'], ['c'], ['d']], [['a']], [['b']], [['c']]⟩
    [.grp .or [.leaf ['a'] none, .leaf ['b'] none, .leaf ['c'] none, .leaf ['d'] none]]).map onOf).head?
    = some [['a'], ['c']] := by decide +kernel

end Pkgcore.C10
